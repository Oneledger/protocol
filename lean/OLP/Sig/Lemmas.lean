/-
  Lemmas for the signature-admission model (C04): what `vbLoop` accepts; that every printer of
  `serWith` (decimal integers, escaped strings, base64) is undone by the matching reader of
  `unserWith`, which makes the serialisation injective; the OLVM checks as one condition.
-/
import OLP.Sig.Model

namespace OLP.Sig

section VB
variable {PK S A M : Type} [DecidableEq A]
variable {verify : PK → M → S → Bool} {addrOf : PK → Option A} {data : M}

theorem validateBasic_eq_vbLoop {signers : List A} {sigs : List (Sig PK S)}
    (h : sigs.length = signers.length) :
    validateBasic verify addrOf data signers sigs = vbLoop verify addrOf data signers sigs :=
  if_neg (not_not_intro h)

theorem vbLoop_cons {r : VB} (hr : r ≠ .badKey ∧ r ≠ .unmatch ∧ r ≠ .badSig)
    {s : A} {ss : List A} {g : Sig PK S} {gs : List (Sig PK S)} :
    vbLoop verify addrOf data (s :: ss) (g :: gs) = r ↔
      (addrOf g.signer = some s ∧ verify g.signer data g.signed = true) ∧
        vbLoop verify addrOf data ss gs = r := by
  rw [vbLoop]
  cases addrOf g.signer with
  | none => simp [hr.1.symm]
  | some a =>
    by_cases ha : a = s
    · cases hv : verify g.signer data g.signed <;> simp [ha, hr.2.2.symm]
    · simp [ha, hr.2.1.symm]

theorem vbLoop_ok_iff : ∀ {signers : List A} {sigs : List (Sig PK S)}, sigs.length = signers.length →
    (vbLoop verify addrOf data signers sigs = .ok ↔
      ∀ i (hi : i < signers.length) (hj : i < sigs.length),
        addrOf sigs[i].signer = some signers[i] ∧ verify sigs[i].signer data sigs[i].signed = true)
  | [], sigs, _ => ⟨fun _ i hi => absurd hi (Nat.not_lt_zero i), fun _ => rfl⟩
  | s :: ss, [], h => nomatch h
  | s :: ss, g :: gs, h => by
    rw [vbLoop_cons (by decide), vbLoop_ok_iff (Nat.succ.inj h)]
    constructor
    · rintro ⟨h0, hr⟩ i hi hj
      cases i with
      | zero => exact h0
      | succ k => exact hr k (Nat.lt_of_succ_lt_succ hi) (Nat.lt_of_succ_lt_succ hj)
    · intro hall
      exact ⟨hall 0 (Nat.succ_pos _) (Nat.succ_pos _),
        fun i hi hj => hall (i + 1) (Nat.succ_lt_succ hi) (Nat.succ_lt_succ hj)⟩

theorem vbLoop_ne_panic : ∀ {signers : List A} {sigs : List (Sig PK S)}, sigs.length = signers.length →
    vbLoop verify addrOf data signers sigs ≠ .panic
  | [], sigs, _ => nofun
  | s :: ss, [], h => nomatch h
  | s :: ss, g :: gs, h => fun hp => vbLoop_ne_panic (Nat.succ.inj h) ((vbLoop_cons (by decide)).mp hp).2

end VB

theorem digit_facts : ∀ d, d < 10 → isDig (digitChar d) = true ∧ digVal (digitChar d) = d := by
  decide +kernel

theorem natDigits_lt {n : Nat} (h : n < 10) : natDigits n = [digitChar n] := by
  rw [natDigits, dif_pos h]

theorem natDigits_ge {n : Nat} (h : ¬ n < 10) :
    natDigits n = natDigits (n / 10) ++ [digitChar (n % 10)] := by
  rw [natDigits, dif_neg h]

theorem natDigits_all_dig (n : Nat) : ∀ c ∈ natDigits n, isDig c = true := by
  induction n using natDigits.induct with
  | case1 n h =>
    rw [natDigits_lt h]
    simpa using (digit_facts n h).1
  | case2 n h ih =>
    rw [natDigits_ge h, List.forall_mem_append]
    exact ⟨ih, by simpa using (digit_facts _ (Nat.mod_lt n (by decide))).1⟩

theorem natDigits_ne_nil (n : Nat) : natDigits n ≠ [] := by
  rw [natDigits]; split <;> simp

theorem digitsVal_append (l : List Char) (c : Char) :
    digitsVal (l ++ [c]) = 10 * digitsVal l + digVal c := by
  simp [digitsVal, List.foldl_append]

theorem digitsVal_natDigits (n : Nat) : digitsVal (natDigits n) = n := by
  induction n using natDigits.induct with
  | case1 n h =>
    rw [natDigits_lt h]
    simpa [digitsVal] using (digit_facts n h).2
  | case2 n h ih =>
    rw [natDigits_ge h, digitsVal_append, ih, (digit_facts _ (Nat.mod_lt n (by decide))).2]
    exact Nat.div_add_mod n 10

theorem takeWhile_stop {α : Type} {p : α → Bool} {ds : List α} {c : α} (rest : List α)
    (hd : ∀ x ∈ ds, p x = true) (hc : p c = false) :
    (ds ++ c :: rest).takeWhile p = ds ∧ (ds ++ c :: rest).dropWhile p = c :: rest := by
  rw [List.takeWhile_append_of_pos hd, List.dropWhile_append_of_pos hd]
  simp [hc]

theorem parseNat_natDigits (n : Nat) {c : Char} (rest : List Char) (hc : isDig c = false) :
    parseNat (natDigits n ++ c :: rest) = some (n, c :: rest) := by
  have h := takeWhile_stop rest (natDigits_all_dig n) hc
  simp [parseNat, h.1, h.2, natDigits_ne_nil, digitsVal_natDigits]

theorem natDigits_head (n : Nat) : ∃ d l, natDigits n = d :: l ∧ d ≠ '-' := by
  cases h : natDigits n with
  | nil => exact absurd h (natDigits_ne_nil n)
  | cons d l =>
    refine ⟨d, l, rfl, fun hd => ?_⟩
    have := natDigits_all_dig n d (h ▸ List.mem_cons_self)
    subst hd
    cases this  -- `isDig '-'` evaluates to `false`

/-- stated the way `unserWith` meets it: the integer is followed by a literal `p` of `serWith` -/
theorem parseInt_intStr (i : Int) {p : List Char} (rest : List Char)
    (hp : p.head?.map isDig = some false) : parseInt (intStr i ++ (p ++ rest)) = some (i, p ++ rest) := by
  cases p with
  | nil => cases hp
  | cons c l =>
    have h := fun n => parseNat_natDigits n (l ++ rest) (Option.some.inj hp)
    cases i with
    | ofNat n =>
      obtain ⟨d, l', hdl, hne⟩ := natDigits_head n
      have h := h n
      rw [hdl, List.cons_append] at h
      simp [intStr, hdl, parseInt, hne, h]
    | negSucc n => simp [intStr, parseInt, h, Int.negSucc_eq]

theorem memoIsNonce_iff {memo : List Char} {n : Nat} :
    memoIsNonce memo n = true ↔ memo = natDigits n ∧ n < 2 ^ 64 := by
  constructor
  · intro h
    simp only [memoIsNonce, Bool.and_eq_true, decide_eq_true_eq, beq_iff_eq] at h
    exact ⟨h.2, h.1.1.2 ▸ h.1.2⟩
  · rintro ⟨rfl, h⟩
    simpa [memoIsNonce, natDigits_ne_nil, digitsVal_natDigits, h] using natDigits_all_dig n

theorem hex_facts : ∀ n, n < 16 → hexVal (hexChar n) = some n := by decide +kernel

theorem unescBody_cons_plain {c : Char} (tl : List Char) (h1 : c ≠ '"') (h2 : c ≠ '\\') :
    unescBody (c :: tl) = (unescBody tl).map (consFst c) := by
  simp [unescBody, unescSM, h1, h2]

theorem unescBody_simple {e ch : Char} (tl : List Char) (he : e ≠ 'u') (hs : simpleEsc e = some ch) :
    unescBody ('\\' :: e :: tl) = (unescBody tl).map (consFst ch) := by
  simp [unescBody, unescSM, he, hs]

theorem unescBody_u {a b c d : Char} (va vb vc vd : Nat) (tl : List Char)
    (ha : hexVal a = some va) (hb : hexVal b = some vb) (hc : hexVal c = some vc) (hd : hexVal d = some vd) :
    unescBody ('\\' :: 'u' :: a :: b :: c :: d :: tl) =
      (unescBody tl).map (consFst (Char.ofNat (16 * (16 * (16 * (16 * 0 + va) + vb) + vc) + vd))) := by
  simp [unescBody, unescSM, ha, hb, hc, hd]

/-- `escChar` has three kinds of output and `unescBody` a rule for each: a two-character escape
    for seven characters; a `\u` escape, `\u00XY` for the other characters below 32 and `< > &`
    (all below 256, so two hex digits hold them) and the literal `\u2028`, `\u2029`; otherwise the
    character itself, which is then neither `"` nor `\`. -/
theorem unescBody_escChar (c : Char) (tl : List Char) :
    unescBody (escChar c ++ tl) = (unescBody tl).map (consFst c) := by
  by_cases hs : c ∈ ['"', '\\', '\n', '\r', '\t', Char.ofNat 8, Char.ofNat 12]
  · simp only [List.mem_cons, List.not_mem_nil, or_false] at hs
    rcases hs with rfl | rfl | rfl | rfl | rfl | rfl | rfl <;>
      exact unescBody_simple tl (by decide) (by decide)
  simp only [List.mem_cons, List.not_mem_nil, or_false, not_or] at hs
  simp only [escChar, hs, if_false]
  by_cases hu : c.toNat < 32 ∨ c = '<' ∨ c = '>' ∨ c = '&'
  · have hlt : c.toNat < 16 * 16 := by
      rcases hu with h | rfl | rfl | rfl
      · exact Nat.lt_trans h (by decide)
      all_goals decide
    have h0 : hexVal '0' = some 0 := by decide
    rw [if_pos hu]
    -- `unescBody_u` spells the code point as `unescSM` accumulates it, from 0
    simpa only [Nat.mul_zero, Nat.zero_add, Nat.div_add_mod, Char.ofNat_toNat, List.cons_append,
      List.nil_append] using unescBody_u 0 0 _ _ tl h0 h0 (hex_facts _ (Nat.div_lt_of_lt_mul hlt))
        (hex_facts _ (Nat.mod_lt c.toNat (by decide)))
  rw [if_neg hu]
  by_cases h8 : c = Char.ofNat 0x2028
  · subst h8
    exact unescBody_u 2 0 2 8 tl (by decide) (by decide) (by decide) (by decide)
  by_cases h9 : c = Char.ofNat 0x2029
  · subst h9
    exact unescBody_u 2 0 2 9 tl (by decide) (by decide) (by decide) (by decide)
  rw [if_neg h8, if_neg h9]
  exact unescBody_cons_plain tl hs.1 hs.2.1

theorem unescBody_escBody (s : List Char) (rest : List Char) :
    unescBody (escBody s ++ '"' :: rest) = some (s, rest) := by
  induction s with
  | nil => rfl
  | cons c s ih =>
    rw [escBody, List.append_assoc, unescBody_escChar, ih]
    rfl

theorem unescStr_escStr (s : List Char) (rest : List Char) :
    unescStr (escStr s ++ rest) = some (s, rest) := by
  rw [escStr, List.cons_append, List.append_assoc]
  exact unescBody_escBody s rest

theorem b64_facts : ∀ n, n < 64 → b64Val (b64Char n) = some n ∧ b64Char n ≠ '=' ∧ b64Char n ≠ '"' := by
  decide +kernel

/-- beyond 63 `b64Char` is `'/'`, so the bound is not needed here -/
theorem b64Char_ne (n : Nat) : b64Char n ≠ '=' ∧ b64Char n ≠ '"' := by
  by_cases h : n < 64
  · exact (b64_facts n h).2
  · rw [b64Char, if_neg (by omega), if_neg (by omega), if_neg (by omega), if_neg (by omega)]
    decide

theorem unbase64_group {s1 s2 s3 s4 : Nat} (h1 : s1 < 64) (h2 : s2 < 64) (h3 : s3 < 64) (h4 : s4 < 64)
    (rest : List Char) :
    unbase64 (b64Char s1 :: b64Char s2 :: b64Char s3 :: b64Char s4 :: rest) =
      (unbase64 rest).map fun tl => UInt8.ofNat (s1 * 4 + s2 / 16) ::
        UInt8.ofNat (s2 % 16 * 16 + s3 / 4) :: UInt8.ofNat (s3 % 4 * 64 + s4) :: tl := by
  simp only [unbase64, (b64_facts _ h1).1, (b64_facts _ h2).1, (b64_facts _ h3).1, (b64_facts _ h4).1,
    if_neg (b64Char_ne s3).1, if_neg (b64Char_ne s4).1]
  cases unbase64 rest <;> rfl

theorem unbase64_pad1 {s1 s2 s3 : Nat} (h1 : s1 < 64) (h2 : s2 < 64) (h3 : s3 < 64) (h : s3 % 4 = 0) :
    unbase64 [b64Char s1, b64Char s2, b64Char s3, '='] =
      some [UInt8.ofNat (s1 * 4 + s2 / 16), UInt8.ofNat (s2 % 16 * 16 + s3 / 4)] := by
  simp [unbase64, (b64_facts _ h1).1, (b64_facts _ h2).1, (b64_facts _ h3).1, (b64Char_ne s3).1, h]

theorem unbase64_pad2 {s1 s2 : Nat} (h1 : s1 < 64) (h2 : s2 < 64) (h : s2 % 16 = 0) :
    unbase64 [b64Char s1, b64Char s2, '=', '='] = some [UInt8.ofNat (s1 * 4 + s2 / 16)] := by
  simp [unbase64, (b64_facts _ h1).1, (b64_facts _ h2).1, h]

/-! the arithmetic of cutting three bytes into four sextets and joining them again -/

theorem mul_add_div_mod (p : Nat) {r k : Nat} (h : r < k) :
    (p * k + r) / k = p ∧ (p * k + r) % k = r := by
  rw [Nat.add_comm, Nat.add_mul_div_right _ _ (Nat.zero_lt_of_lt h), Nat.add_mul_mod_self_right,
    Nat.div_eq_of_lt h, Nat.mod_eq_of_lt h, Nat.zero_add]
  exact ⟨rfl, rfl⟩

theorem mul_add_lt {p q m k : Nat} (hp : p < m) (hq : q < k) : p * k + q < m * k :=
  (Nat.div_lt_iff_lt_mul (Nat.zero_lt_of_lt hq)).mp ((mul_add_div_mod p hq).1.symm ▸ hp)

theorem sextets_lt {a b c : Nat} (ha : a < 256) (hb : b < 256) (hc : c < 256) :
    a / 4 < 64 ∧ a % 4 * 16 + b / 16 < 64 ∧ b % 16 * 4 + c / 64 < 64 ∧ c % 64 < 64 :=
  ⟨Nat.div_lt_of_lt_mul ha,
   mul_add_lt (m := 4) (Nat.mod_lt a (by decide)) (Nat.div_lt_of_lt_mul hb),
   mul_add_lt (m := 16) (Nat.mod_lt b (by decide)) (Nat.div_lt_of_lt_mul hc),
   Nat.mod_lt c (by decide)⟩

theorem sextets_join (a : Nat) {b c : Nat} (hb : b < 256) (hc : c < 256) :
    a / 4 * 4 + (a % 4 * 16 + b / 16) / 16 = a ∧
    (a % 4 * 16 + b / 16) % 16 * 16 + (b % 16 * 4 + c / 64) / 4 = b ∧
    (b % 16 * 4 + c / 64) % 4 * 64 + c % 64 = c := by
  have hb' := mul_add_div_mod (a % 4) (Nat.div_lt_of_lt_mul hb : b / 16 < 16)
  have hc' := mul_add_div_mod (b % 16) (Nat.div_lt_of_lt_mul hc : c / 64 < 4)
  rw [hb'.1, hb'.2, hc'.1, hc'.2]
  exact ⟨Nat.div_add_mod' a 4, Nat.div_add_mod' b 16, Nat.div_add_mod' c 64⟩

/-- A padded group is the group of the same bytes followed by zero bytes, cut short: the
    instances of `sextets_lt` and `sextets_join` at `0` are what is needed. -/
theorem unbase64_base64 (d : Bytes) : unbase64 (base64 d) = some d := by
  have h0 : 0 < 256 := by decide
  induction d using base64.induct with
  | case1 => rfl
  | case2 a =>
    have l := sextets_lt a.toNat_lt h0 h0
    have j := sextets_join a.toNat h0 h0
    simp only [Nat.zero_div, Nat.add_zero] at l j
    rw [base64, unbase64_pad2 l.1 l.2.1 (Nat.mul_mod_left _ _), j.1, UInt8.ofNat_toNat]
  | case3 a b =>
    have l := sextets_lt a.toNat_lt b.toNat_lt h0
    have j := sextets_join a.toNat b.toNat_lt h0
    simp only [Nat.zero_div, Nat.add_zero] at l j
    rw [base64, unbase64_pad1 l.1 l.2.1 l.2.2.1 (Nat.mul_mod_left _ _), j.1, j.2.1,
      UInt8.ofNat_toNat, UInt8.ofNat_toNat]
  | case4 a b c rest ih =>
    have l := sextets_lt a.toNat_lt b.toNat_lt c.toNat_lt
    have j := sextets_join a.toNat b.toNat_lt c.toNat_lt
    rw [base64, unbase64_group l.1 l.2.1 l.2.2.1 l.2.2.2, ih, j.1, j.2.1, j.2.2,
      UInt8.ofNat_toNat, UInt8.ofNat_toNat, UInt8.ofNat_toNat]
    rfl

theorem base64_no_quote (d : Bytes) : ∀ x ∈ base64 d, x ≠ '"' := by
  have hq : ('=' : Char) ≠ '"' := by decide
  induction d using base64.induct with
  | case1 => exact fun _ h => nomatch h
  | case4 a b c rest ih =>
    simpa only [base64, List.forall_mem_cons, b64Char_ne, ne_eq, not_false_eq_true, true_and] using ih
  | _ =>
    simp only [base64, List.forall_mem_cons, b64Char_ne, hq, ne_eq, not_false_eq_true, true_and]
    exact fun _ h => nomatch h

/-- what the proof needs from the `[]byte` text encoding: decodable and free of `"` -/
structure B64Spec (b64 : Bytes → List Char) (unb64 : List Char → Option Bytes) : Prop where
  left_inv : ∀ d, unb64 (b64 d) = some d
  no_quote : ∀ d x, x ∈ b64 d → x ≠ '"'

theorem base64_spec : B64Spec base64 unbase64 := ⟨unbase64_base64, base64_no_quote⟩

theorem expect_append (p rest : List Char) : expect p (p ++ rest) = some rest := by
  induction p with
  | nil => cases rest <;> rfl
  | cons c p ih => simp [expect, ih]

theorem parseData_dataEnc {b64 : Bytes → List Char} {unb64 : List Char → Option Bytes}
    (hs : B64Spec b64 unb64) (d : Option Bytes) (rest : List Char) :
    parseData unb64 (dataEnc b64 d ++ rest) = some (d, rest) := by
  cases d with
  | none => rfl
  | some d =>
    have h := takeWhile_stop (p := notQuote) (c := '"') rest
      (fun x hx => by simpa [notQuote] using hs.no_quote d x hx) rfl
    simp only [dataEnc, List.cons_append, List.append_assoc, List.nil_append]
    simp [parseData, h.1, h.2, hs.left_inv]

/-- field by field: every reader of `unserWith` undoes the printer of `serWith` in front of it;
    an integer ends where the next literal starts, since that is not a digit -/
theorem unserWith_serWith {b64 : Bytes → List Char} {unb64 : List Char → Option Bytes}
    (hs : B64Spec b64 unb64) (t : RawTx) : unserWith unb64 (serWith b64 t) = some t := by
  have h2 : lit2.head?.map isDig = some false := by decide +kernel
  have h5 : lit5.head?.map isDig = some false := by decide +kernel
  have h6 : lit6.head?.map isDig = some false := by decide +kernel
  simp only [unserWith, serWith, expect_append, parseInt_intStr _ _ h2, parseInt_intStr _ _ h5,
    parseInt_intStr _ _ h6, parseData_dataEnc hs, unescStr_escStr, if_true]

/-- any other number of signatures is rejected by `rfl` -/
theorem olvmSig_singleton {A E S PK : Type} [DecidableEq A] (lib : EthLib A E S)
    (addrOf : PK → Option A) (v : OlvmView A E) (memo : List Char) (g : Sig PK S) :
    olvmSig lib addrOf v memo [g] =
      if lib.sigLen g.signed = 65 ∧ v.chainID = some (lib.chainOf g.signed) ∧
        lib.sender v.eth g.signed = some v.sender ∧ addrOf g.signer = some v.sender ∧
        v.extra = ⟨0, false⟩ ∧ memoIsNonce memo v.nonce = true then .ok else .reject := by
  -- with `v` in fields, `v.extra = ⟨0, false⟩` is the two tests of `olvmSig`
  obtain ⟨n, s, _ | c, e, ty, al⟩ := v
  · simp [olvmSig]
  by_cases hl : lib.sigLen g.signed = 65
  · by_cases hk : lib.chainOf g.signed = c
    · cases hs : lib.sender e g.signed <;> simp [olvmSig, hl, hk, hs, and_assoc]
    · simp [olvmSig, hl, hk, Ne.symm hk]
  · simp [olvmSig, hl]

end OLP.Sig
