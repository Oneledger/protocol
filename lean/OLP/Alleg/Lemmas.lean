/-
  Each handler gets one statement of what it does when it succeeds; `step_effect` collects, for one
  step of a history, what can happen to the requests, the tracker and a frozen validator's record,
  and the invariants over histories are read off it.
-/
import OLP.Alleg.Model
import OLP.Base.Guard
import OLP.Base.Lists

namespace OLP.Alleg

/-! ## the order Go sorts by -/

theorem leS_trans (a b c : String) (h₁ : leS a b = true) (h₂ : leS b c = true) : leS a c = true := by
  simp only [leS, decide_eq_true_eq] at *
  exact String.le_trans h₁ h₂

theorem leS_total (a b : String) : (leS a b || leS b a) = true := by
  simp only [leS, Bool.or_eq_true, decide_eq_true_eq]
  exact String.le_total a b

theorem leS_antisymm (a b : String) (h₁ : leS a b = true) (h₂ : leS b a = true) : a = b := by
  simp only [leS, decide_eq_true_eq] at *
  exact String.le_antisymm h₁ h₂

theorem sortIds_perm {l₁ l₂ : List ReqId} (h : l₁.Perm l₂) : sortIds l₁ = sortIds l₂ := by
  unfold sortIds
  apply List.Perm.eq_of_pairwise (le := fun a b => leS a b = true)
  · intro a b _ _ h₁ h₂; exact leS_antisymm a b h₁ h₂
  · exact List.pairwise_mergeSort leS_trans leS_total l₁
  · exact List.pairwise_mergeSort leS_trans leS_total l₂
  · exact (List.mergeSort_perm l₁ leS).trans (h.trans (List.mergeSort_perm l₂ leS).symm)

theorem mem_sortIds {a : ReqId} {l : List ReqId} : a ∈ sortIds l ↔ a ∈ l := List.mem_mergeSort

theorem sortIds_of_sorted {l : List ReqId} (h : l.Pairwise fun a b => leS a b = true) : sortIds l = l :=
  List.mergeSort_of_pairwise h

theorem sortVotes_of_sorted {l : List Vote} (h : l.Pairwise fun a b => leS a.addr b.addr = true) : sortVotes l = l :=
  List.mergeSort_of_pairwise h

theorem sortVotes_perm (l : List Vote) : (sortVotes l).Perm l := List.mergeSort_perm _ _

/-! ## association lists -/

section assoc
variable {K V : Type} [DecidableEq K]

theorem getI_upsert_self (l : List (K × Int)) (k : K) (v : Int) : getI (upsert l k v) k = v := by
  simp [getI]

theorem getI_upsert_ne (l : List (K × Int)) (k k' : K) (v : Int) (h : k' ≠ k) :
    getI (upsert l k v) k' = getI l k' := by
  simp [getI, alookup_upsert_ne l k k' v h]

/-- what erasing keys from `l` leaves: nothing new, as a list of pairs and under lookup -/
def Within (l' l : List (K × V)) : Prop :=
  (∀ p, p ∈ l' → p ∈ l) ∧ ∀ k v, alookup k l' = some v → alookup k l = some v

theorem Within.refl (l : List (K × V)) : Within l l := ⟨fun _ h => h, fun _ _ h => h⟩

theorem Within.of_eq {l' l : List (K × V)} (h : l' = l) : Within l' l := h ▸ .refl l

theorem Within.trans {l₁ l₂ l₃ : List (K × V)} (h₁ : Within l₁ l₂) (h₂ : Within l₂ l₃) : Within l₁ l₃ :=
  ⟨fun p h => h₂.1 p (h₁.1 p h), fun k v h => h₂.2 k v (h₁.2 k v h)⟩

theorem within_aerase (l : List (K × V)) (k : K) : Within (aerase l k) l :=
  ⟨fun _ h => (aerase_sublist l k).subset h, fun _ _ => alookup_of_alookup_aerase⟩

theorem Within.lookup_none {l' l : List (K × V)} (h : Within l' l) {k : K} (hk : alookup k l = none) :
    alookup k l' = none := by
  cases hl : alookup k l' with
  | none => rfl
  | some v => rw [h.2 k v hl] at hk; cases hk

def HasAt (l : List (K × V)) (k : K) (P : V → Prop) : Prop := ∃ v, alookup k l = some v ∧ P v

theorem HasAt.upsert {l : List (K × V)} {k k' : K} {P : V → Prop} {v' : V} (hv : k = k' → P v')
    (h : HasAt l k P) : HasAt (upsert l k' v') k P := by
  unfold HasAt
  rw [alookup_upsert]
  split
  · exact ⟨v', rfl, hv ‹_›⟩
  · exact h

end assoc

/-! ## frozen records -/

theorem isFrozen_iff {st : State} {a : Addr} : isFrozen st a = true ↔ HasAt st.susp a (isFrozenRec · = true) := by
  unfold isFrozen HasAt
  cases alookup a st.susp <;> simp

theorem frozenOwner_of_mem {st : State} {vals : List (Addr × ValRec)} {v s : Addr} {r : ValRec}
    (hm : (v, r) ∈ vals) (hs : r.stakeAddr = s) (hf : isFrozen st v = true) : frozenOwner st vals s = true := by
  unfold frozenOwner
  exact List.any_eq_true.mpr ⟨(v, r), hm, by simp [hs, hf]⟩

theorem mem_frozenSet {susp : List (Addr × Susp)} {a : Addr} {s : Susp}
    (hl : alookup a susp = some s) (hf : isFrozenRec s = true) : (frozenSet susp).contains a = true := by
  simp only [List.contains_iff_mem]
  unfold frozenSet
  exact List.mem_map.mpr ⟨(a, s), List.mem_filter.mpr ⟨mem_of_alookup hl, hf⟩, rfl⟩

/-! ## CleanTracker -/

theorem cleanLoop_within (ids : List ReqId) (seen : List Addr) (reqs : List (ReqId × Request)) :
    Within (cleanLoop ids seen reqs) reqs := by
  induction ids generalizing seen reqs with
  | nil => exact .refl reqs
  | cons r rs ih =>
    unfold cleanLoop
    split
    · exact ih seen reqs
    · split
      · exact (ih seen (aerase reqs r)).trans (within_aerase reqs r)
      · exact ih _ reqs

/-- the duplicate check of PerformAllegation sees every open request (d2f2af2), so no two open
    requests are against the same address -/
def OnePerAccused (st : State) : Prop :=
  ∀ i j a b, alookup i st.reqs = some a → alookup j st.reqs = some b → a.accused = b.accused → i = j

theorem cleanLoop_noop {st : State} (hinj : OnePerAccused st) {ids : List ReqId} (hnd : ids.Nodup) (seen : List Addr)
    (hdis : ∀ a, a ∈ seen → ∀ i, i ∈ ids → ∀ r, alookup i st.reqs = some r → r.accused ≠ a) :
    cleanLoop ids seen st.reqs = st.reqs := by
  induction ids generalizing seen with
  | nil => rfl
  | cons r rs ih =>
    obtain ⟨hr, hnd'⟩ := List.nodup_cons.mp hnd
    have hdis' := fun a ha i hi => hdis a ha i (List.mem_cons_of_mem r hi)
    unfold cleanLoop
    split
    · exact ih hnd' seen hdis'
    · rename_i ar har
      rw [if_neg fun hc => hdis _ (List.contains_iff_mem.mp hc) r List.mem_cons_self ar har rfl]
      refine ih hnd' _ fun a ha i hi r' hr' heq => ?_
      rcases List.mem_cons.mp ha with rfl | ha
      · exact hr (hinj i r r' ar hr' har heq ▸ hi)
      · exact hdis' a ha i hi r' hr' heq

theorem cleanTrackerWith_noop {ord : List ReqId} {st : State} (hord : ord.Nodup) (hinj : OnePerAccused st) :
    cleanTrackerWith ord st = st := by
  unfold cleanTrackerWith
  rw [cleanLoop_noop hinj (ids := sortIds ord) ((List.mergeSort_perm ord leS).nodup_iff.mpr hord) [] nofun]

theorem cleanTrackerWith_perm {a₁ a₂ : List ReqId} (h : a₁.Perm a₂) (st : State) :
    cleanTrackerWith a₁ st = cleanTrackerWith a₂ st := by
  unfold cleanTrackerWith
  rw [sortIds_perm h]

/-! ## what the transaction handlers do

  A transaction that is not admitted, or whose handler fails, leaves the state alone
  (`withAdmission_cases`), so of each handler only the successful run needs a description. -/

def Refused (st : State) (r : Res × State) : Prop := r.1 ≠ .ok ∧ r.2 = st

theorem withAdmission_cases (st : State) (sig fee : Bool) (r : Res × State) :
    (r = (.ok, r.2) ∧ sig = true ∧ fee = true ∧ withAdmission st sig fee r = r) ∨
    Refused st (withAdmission st sig fee r) := by
  unfold withAdmission
  cases sig
  · exact .inr ⟨nofun, rfl⟩
  · rw [if_neg (by decide)]
    split
    · cases fee
      · exact .inr ⟨nofun, rfl⟩
      · exact .inl ⟨rfl, rfl, rfl, rfl⟩
    · rename_i hne
      exact .inr ⟨hne, rfl⟩

theorem withAdmission_ok {st : State} {sig fee : Bool} {r : Res × State} {st' : State}
    (h : withAdmission st sig fee r = (.ok, st')) : r = (.ok, st') ∧ sig = true ∧ fee = true :=
  (withAdmission_cases st sig fee r).elim (fun c => ⟨c.2.2.2.symm.trans h, c.2.1, c.2.2.1⟩)
    fun c => absurd (congrArg Prod.fst h) c.1

theorem withAdmission_refused (st : State) (sig fee : Bool) (r : Res × State)
    (h : (withAdmission st sig fee r).1 ≠ .ok) : (withAdmission st sig fee r).2 = st :=
  (withAdmission_cases st sig fee r).elim (fun c => absurd (congrArg Prod.fst (c.2.2.2.trans c.1)) h) (·.2)

theorem runAllege_ok {st st' : State} {h : Int} {rep acc : Addr} {id : ReqId} {bh : Int}
    (hok : runAllege st h rep acc id bh = (.ok, st')) :
    ¬ bh > h ∧ isFrozen st acc = false ∧ isActive st rep = true ∧ rep ≠ acc ∧
    alookup id st.reqs = none ∧ requestExists st acc = false ∧
    st' = { cleanTracker { st with reqs := upsert st.reqs id ⟨rep, acc, bh, 1, []⟩ } with
            tracker := if st.tracker.contains id then st.tracker else st.tracker ++ [id] } := by
  unfold runAllege performAllegation at hok
  obtain ⟨h1, hok⟩ := of_guard hok
  obtain ⟨h2, hok⟩ := of_guard hok
  obtain ⟨h3, hok⟩ := of_guard hok
  obtain ⟨h4, hok⟩ := of_guard hok
  obtain ⟨h5, hok⟩ := of_guard hok
  obtain ⟨h6, hok⟩ := of_guard hok
  exact ⟨h1, Bool.eq_false_iff.mpr h2, by simpa using h3, fun e => h4 (beq_iff_eq.mpr e),
    Option.not_isSome_iff_eq_none.mp h5, Bool.eq_false_iff.mpr h6, (congrArg Prod.snd hok).symm⟩

theorem runVote_ok {st st' : State} {id : ReqId} {voter : Addr} {c : Int} (hok : runVote st id voter c = (.ok, st')) :
    isFrozen st voter = false ∧ isActive st voter = true ∧
    ∃ ar, alookup id st.reqs = some ar ∧ ¬ (c ≠ 1 ∧ c ≠ 2) ∧ ¬ (ar.status = 3 ∨ ar.status = 2) ∧
      voter ∉ ar.votes.map (·.addr) ∧
      st' = { st with reqs := upsert st.reqs id { ar with votes := sortVotes (ar.votes ++ [⟨voter, c⟩]) } } := by
  unfold runVote castVote at hok
  obtain ⟨h1, hok⟩ := of_guard hok
  obtain ⟨h2, hok⟩ := of_guard hok
  split at hok
  · cases hok
  rename_i ar har
  obtain ⟨h4, hok⟩ := of_guard hok
  obtain ⟨h5, hok⟩ := of_guard hok
  obtain ⟨h6, hok⟩ := of_guard hok
  refine ⟨Bool.eq_false_iff.mpr h1, by simpa using h2, ar, har, h4, h5, fun hm => h6 ?_, (congrArg Prod.snd hok).symm⟩
  obtain ⟨v, hv, rfl⟩ := List.mem_map.mp hm
  exact List.any_eq_true.mpr ⟨v, hv, beq_self_eq_true _⟩

theorem handleRelease_ok {st st' : State} {days : Int} {val : Addr} {h now : Int}
    (hok : handleRelease st days val h now = (.ok, st')) :
    ∃ s, alookup val st.susp = some s ∧ isFrozenRec s = true ∧ releaseReady days s now = .ok ∧
      st' = { st with susp := upsert st.susp val { s with releaseHeight := h, releaseAt := some now } } := by
  unfold handleRelease at hok
  split at hok
  · cases hok
  rename_i s hs
  obtain ⟨h2, hok⟩ := of_guard hok
  split at hok
  · exact ⟨s, hs, by simpa using h2, ‹_›, (congrArg Prod.snd hok).symm⟩
  · exact absurd (congrArg Prod.fst hok) ‹_›

theorem releaseReady_byz {days : Int} {s : Susp} {now : Int} (hs : s.status = 2)
    (hr : releaseReady days s now = .ok) : now > s.frozenAt + 86400 * days := by
  unfold releaseReady at hr
  rw [if_neg (by rw [hs]; decide), if_pos hs] at hr
  exact Decidable.not_not.mp (of_guard hr).1

theorem minusFromAddress_eq (st : State) (v d : Addr) (c : Int) :
    minusFromAddress st v d c =
      if c ≤ getI st.total v ∧ c ≤ getI st.vd (v, d) ∧ c ≤ getI st.de d then
        ({ st with total := upsert st.total v (getI st.total v - c),
                   vd := upsert st.vd (v, d) (getI st.vd (v, d) - c),
                   de := upsert st.de d (getI st.de d - c) }, true)
      else (st, false) := by
  have key {x : Int} (h : x - c < 0) : ¬ c ≤ x := fun hc => Int.not_le.mpr h (Int.sub_nonneg.mpr hc)
  have key' {x : Int} (h : ¬ x - c < 0) : c ≤ x := Int.sub_nonneg.mp (Int.not_lt.mp h)
  unfold minusFromAddress
  simp only []
  by_cases h1 : getI st.total v - c < 0
  · rw [if_pos h1, if_neg fun h => key h1 h.1]
  by_cases h2 : getI st.vd (v, d) - c < 0
  · rw [if_neg h1, if_pos h2, if_neg fun h => key h2 h.2.1]
  by_cases h3 : getI st.de d - c < 0
  · rw [if_neg h1, if_neg h2, if_pos h3, if_neg fun h => key h3 h.2.2]
  · rw [if_neg h1, if_neg h2, if_neg h3, if_pos ⟨key' h1, key' h2, key' h3⟩]

theorem addToAddress_susp (st : State) (v d : Addr) (c : Int) : (addToAddress st v d c).susp = st.susp := rfl

def StakingOnly (st st' : State) : Prop := ∃ t e d b, st' = { st with total := t, vd := e, de := d, db := b }

theorem runStake_frame (st : State) (v s : Addr) (a : Int) : StakingOnly st (runStake st v s a).2 := by
  unfold runStake; cases isFrozen st v <;> exact ⟨_, _, _, _, rfl⟩

theorem runUnstake_frame (st : State) (v s : Addr) (a : Int) : StakingOnly st (runUnstake st v s a).2 := by
  unfold runUnstake
  rw [minusFromAddress_eq]
  cases isFrozen st v
  case true => exact ⟨_, _, _, _, rfl⟩
  cases requestExists st v
  case true => exact ⟨_, _, _, _, rfl⟩
  by_cases h1 : a ≤ getI st.total v ∧ a ≤ getI st.vd (v, s) ∧ a ≤ getI st.de s
  · rw [if_pos h1]; exact ⟨_, _, _, _, rfl⟩
  · rw [if_neg h1]; exact ⟨_, _, _, _, rfl⟩

theorem runWithdraw_frame (st : State) (vals : List (Addr × ValRec)) (v s : Addr) (a : Int) :
    StakingOnly st (runWithdraw st vals v s a).2 := by
  unfold runWithdraw
  cases isFrozen st v
  case true => exact ⟨_, _, _, _, rfl⟩
  cases frozenOwner st vals s
  case true => exact ⟨_, _, _, _, rfl⟩
  by_cases h1 : getI st.db s - a < 0
  · exact ⟨_, _, _, _, congrArg Prod.snd (if_pos h1)⟩
  · exact ⟨_, _, _, _, congrArg Prod.snd (if_neg h1)⟩

/-! ## BeginBlock -/

theorem beginStep_cases (o : Opts) (h now : Int) (prev : List (Addr × ValRec)) (st : State) (p : Addr × Int) :
    beginStep o h now prev st p = st ∨
    (isFrozen st p.1 = false ∧
      beginStep o h now prev st p = { st with susp := upsert st.susp p.1 ⟨1, h, now, 0, none⟩ }) := by
  unfold beginStep
  by_cases h1 : p.2 < o.minVotesRequired
  case neg => exact .inl (if_neg h1)
  rw [if_pos h1]
  cases isFrozen st p.1
  case true => exact .inl rfl
  cases alookup p.1 prev
  case none => exact .inl rfl
  cases alookup p.1 st.vstat
  case none => exact .inl rfl
  rename_i vs
  show (if vs.active = true then _ else st) = st ∨ _ ∧ (if vs.active = true then _ else st) = _
  cases vs.active
  case false => exact .inl rfl
  by_cases h2 : vs.height + o.blockVotesDiff > h
  · exact .inl (if_pos h2)
  · exact .inr ⟨rfl, if_neg h2⟩

theorem beginBlock_of_sorted (o : Opts) (h now : Int) (cv : List (Addr × Int)) (prev : List (Addr × ValRec)) (st : State)
    (hs : cv.Pairwise fun a b => leS a.1 b.1 = true) :
    beginBlock o h now cv prev st = if h ≤ o.blockVotesDiff then st else cv.foldl (beginStep o h now prev) st := by
  unfold beginBlock
  rw [List.mergeSort_of_pairwise hs]

/-! ## the loop body of the tally -/

/-- the record a guilty verdict writes -/
def byzRec (env : Env) : Susp := ⟨2, env.height, env.time, 0, none⟩

section tallyOne
variable {F : FloatOps} {env : Env} {st : State} {del : List ReqId} {id : ReqId}

theorem tallyOne_absent (har : alookup id st.reqs = none) : tallyOne F env (st, del) id = (st, del) := by
  unfold tallyOne; simp only [har]

theorem tallyOne_undecided {ar : Request} (har : alookup id st.reqs = some ar) (hv : verdictOf env st.vstat ar = .none) :
    tallyOne F env (st, del) id = (st, del) := by
  unfold tallyOne; simp only [har, hv]

theorem tallyOne_innocent {ar : Request} (har : alookup id st.reqs = some ar)
    (hv : verdictOf env st.vstat ar = .innocent) :
    tallyOne F env (st, del) id = ({ st with reqs := aerase st.reqs id }, del ++ [id]) := by
  unfold tallyOne; simp only [har, hv]

theorem tallyOne_guilty_norec {ar : Request} (har : alookup id st.reqs = some ar)
    (hv : verdictOf env st.vstat ar = .guilty) (hp : alookup ar.accused env.prev = none) :
    tallyOne F env (st, del) id = ({ st with susp := upsert st.susp ar.accused (byzRec env) }, del) := by
  unfold tallyOne; simp only [har, hv, hp, byzRec]

/-- `a`, `sa` and `P` are variables so that a caller can put its own expression for the penalty -/
theorem tallyOne_guilty_rec {ar : Request} {v : ValRec} (har : alookup id st.reqs = some ar)
    (hv : verdictOf env st.vstat ar = .guilty) (hp : alookup ar.accused env.prev = some v)
    {a sa : Addr} {P : Int} (ha : a = ar.accused) (hsa : sa = slashAddr env a v)
    (hP : P = F.penalty (getI st.total a) env.opts) :
    tallyOne F env (st, del) id =
      (if P ≤ getI st.total a ∧ P ≤ getI st.vd (a, sa) ∧ P ≤ getI st.de sa then
         { st with reqs := aerase st.reqs id, susp := upsert st.susp a (byzRec env),
                   total := upsert st.total a (getI st.total a - P),
                   vd := upsert st.vd (a, sa) (getI st.vd (a, sa) - P),
                   de := upsert st.de sa (getI st.de sa - P),
                   bounty := st.bounty + P * e18 * env.opts.bountyPct / env.opts.bountyDec,
                   delayed := upsert st.delayed (env.height, a) P }
       else { st with reqs := aerase st.reqs id, susp := upsert st.susp a (byzRec env) },
       del ++ [id]) := by
  have hm := minusFromAddress_eq { st with susp := upsert st.susp a ⟨2, env.height, env.time, 0, none⟩ } a sa P
  subst ha hsa hP
  unfold tallyOne
  split at hm
  · rw [if_pos ‹_›]; simp only [har, hv, hp, hm, if_true]; rfl
  · rw [if_neg ‹_›]; simp only [har, hv, hp, hm, Bool.false_eq_true, if_false]; rfl

/-- a verdict that removes the request: innocent, or guilty against an address with a validator record -/
abbrev Decides (env : Env) (vs : List (Addr × VStat)) (ar : Request) : Prop :=
  verdictOf env vs ar = .innocent ∨ (verdictOf env vs ar = .guilty ∧ (alookup ar.accused env.prev).isSome)

theorem Decides.ne_none {vs : List (Addr × VStat)} {ar : Request} (d : Decides env vs ar) :
    verdictOf env vs ar ≠ .none :=
  fun hv => by simp [Decides, hv] at d

/-- the loop body on the evidence store: the request goes when its verdict decides it, the accused of a
    guilty verdict gets the record of this block -/
theorem tallyOne_spec {ar : Request} (har : alookup id st.reqs = some ar) :
    let r := (tallyOne F env (st, del) id).1
    r.vstat = st.vstat ∧ r.tracker = st.tracker ∧
    r.reqs = (if Decides env st.vstat ar then aerase st.reqs id else st.reqs) ∧
    r.susp = if verdictOf env st.vstat ar = .guilty then upsert st.susp ar.accused (byzRec env) else st.susp := by
  unfold Decides
  cases hv : verdictOf env st.vstat ar with
  | none => rw [tallyOne_undecided har hv]; exact ⟨rfl, rfl, rfl, rfl⟩
  | innocent => rw [tallyOne_innocent har hv]; exact ⟨rfl, rfl, rfl, rfl⟩
  | guilty =>
    cases hp : alookup ar.accused env.prev with
    | none => rw [tallyOne_guilty_norec har hv hp]; exact ⟨rfl, rfl, rfl, rfl⟩
    | some v =>
      rw [tallyOne_guilty_rec har hv hp rfl rfl rfl]
      split <;> exact ⟨rfl, rfl, rfl, rfl⟩

end tallyOne

/-! ## the whole loop, and the tally around it -/

/-- neither early return of `ExecuteAllegationTracker` is taken -/
def TallyRuns (env : Env) : Prop := env.active ≠ 0 ∧ 0 < env.opts.voteDec ∧ 0 < env.opts.allegDec

/-- what the loop over `ids` has made of the evidence store `st`: a request goes when its verdict decides it,
    the accused of a guilty verdict has the record of this block, nothing else moves -/
structure TallyDone (env : Env) (st : State) (ids : List ReqId) (s : State) : Prop where
  vstat : s.vstat = st.vstat
  tracker : s.tracker.Sublist st.tracker
  within : Within s.reqs st.reqs
  reqs : ∀ id ar, alookup id st.reqs = some ar →
    alookup id s.reqs = if id ∈ ids ∧ Decides env st.vstat ar then none else some ar
  conv : ∀ id ar, id ∈ ids → alookup id st.reqs = some ar → verdictOf env st.vstat ar = .guilty →
    alookup ar.accused s.susp = some (byzRec env)
  susp : ∀ a, alookup a s.susp = alookup a st.susp ∨ alookup a s.susp = some (byzRec env) ∧
    ∃ id ar, id ∈ ids ∧ alookup id st.reqs = some ar ∧ ar.accused = a ∧ verdictOf env st.vstat ar = .guilty

theorem TallyDone.refl (env : Env) (st : State) : TallyDone env st [] st :=
  ⟨rfl, .refl _, .refl _, fun _ _ h => h.trans (if_neg fun c => nomatch c.1).symm, fun _ _ h => (nomatch h),
    fun _ => .inl rfl⟩

/-- the ids may repeat: a request the first part has removed is not there for the second, and a conviction
    is written over with the same record -/
theorem TallyDone.trans {env : Env} {st s s' : State} {ids₁ ids₂ : List ReqId} (h₁ : TallyDone env st ids₁ s)
    (h₂ : TallyDone env s ids₂ s') : TallyDone env st (ids₁ ++ ids₂) s' := by
  refine ⟨h₂.vstat.trans h₁.vstat, h₂.tracker.trans h₁.tracker, h₂.within.trans h₁.within,
    fun id ar har => ?_, fun id ar hid har hv => ?_, fun a => ?_⟩
  · have e := h₁.reqs id ar har
    by_cases c : id ∈ ids₁ ∧ Decides env st.vstat ar
    · rw [if_pos c] at e
      rw [if_pos ⟨List.mem_append_left _ c.1, c.2⟩]
      exact h₂.within.lookup_none e
    · rw [if_neg c] at e
      rw [h₂.reqs id ar e, h₁.vstat]
      simp only [List.mem_append, or_and_right, c, false_or]
  · by_cases m : id ∈ ids₁
    · exact (h₂.susp ar.accused).elim (·.trans (h₁.conv id ar m har hv)) (·.1)
    · have e := h₁.reqs id ar har
      rw [if_neg (m ·.1)] at e
      exact h₂.conv id ar ((List.mem_append.mp hid).resolve_left m) e (h₁.vstat ▸ hv)
  · rcases h₂.susp a with e | ⟨e, id, ar, m, har, r⟩
    · exact (h₁.susp a).imp e.trans fun ⟨e', id, ar, m, r⟩ => ⟨e.trans e', id, ar, List.mem_append_left _ m, r⟩
    · exact .inr ⟨e, id, ar, List.mem_append_right _ m, h₁.within.2 id ar har, h₁.vstat ▸ r⟩

section tally
variable (F : FloatOps) (env : Env)

theorem tallyOne_done (st : State) (del : List ReqId) (id : ReqId) :
    TallyDone env st [id] (tallyOne F env (st, del) id).1 := by
  cases har : alookup id st.reqs with
  | none =>
    rw [tallyOne_absent har]
    have hne {j : ReqId} {ar : Request} (h : alookup j st.reqs = some ar) : j ∉ [id] :=
      fun m => by rw [List.mem_singleton.mp m, har] at h; cases h
    exact ⟨rfl, .refl _, .refl _, fun j ar h => by rw [if_neg (hne h ·.1), h], fun j ar m h => absurd m (hne h),
      fun _ => .inl rfl⟩
  | some ar =>
    obtain ⟨h1, h2, h3, h4⟩ := tallyOne_spec (F := F) (del := del) har
    refine ⟨h1, h2 ▸ .refl _, ?_, fun j ar' har' => ?_, fun j ar' m har' hv => ?_, fun a => ?_⟩
    · rw [h3]; split
      · exact within_aerase _ _
      · exact .refl _
    · by_cases hj : j = id
      · cases har.symm.trans (hj ▸ har')
        rw [h3, hj]
        by_cases d : Decides env st.vstat ar
        · rw [if_pos d, if_pos ⟨List.mem_singleton_self id, d⟩]; exact alookup_aerase_self _ _
        · rw [if_neg d, if_neg (d ·.2)]; exact har
      · rw [if_neg (hj <| List.mem_singleton.mp ·.1), h3]
        split
        · rw [alookup_aerase_ne _ _ _ hj]; exact har'
        · exact har'
    · cases har.symm.trans (List.mem_singleton.mp m ▸ har')
      rw [h4, if_pos hv]; exact alookup_upsert_self _ _ _
    · rw [h4]
      by_cases hv : verdictOf env st.vstat ar = .guilty
      · rw [if_pos hv]
        by_cases ha : a = ar.accused
        · exact .inr ⟨ha ▸ alookup_upsert_self _ _ _, id, ar, List.mem_singleton_self _, har, ha.symm, hv⟩
        · exact .inl (alookup_upsert_ne _ _ _ _ ha)
      · rw [if_neg hv]; exact .inl rfl

theorem tallyFold_done (ids : List ReqId) (acc : State × List ReqId) :
    TallyDone env acc.1 ids (ids.foldl (tallyOne F env) acc).1 := by
  induction ids generalizing acc with
  | nil => exact .refl env acc.1
  | cons i rest ih => exact (tallyOne_done F env acc.1 acc.2 i).trans (ih _)

theorem tallyWith_skipped (o₁ o₂ : List ReqId) (st : State) (h : ¬ TallyRuns env) :
    tallyWith F env o₁ o₂ st = st := by
  unfold tallyWith
  by_cases h1 : env.active = 0
  · rw [if_pos h1]
  · rw [if_neg h1, if_pos (by unfold TallyRuns at h; omega)]

theorem tallyWith_done (hrun : TallyRuns env) (o₁ o₂ : List ReqId) (st : State) :
    TallyDone env (cleanTrackerWith o₁ st) (sortIds o₂) (tallyWith F env o₁ o₂ st) := by
  have h := tallyFold_done F env (sortIds o₂) (cleanTrackerWith o₁ st, [])
  unfold tallyWith
  rw [if_neg hrun.1, if_neg (by have := hrun.2; omega)]
  dsimp only
  split
  · exact h
  · exact { h with tracker := List.filter_sublist }

theorem tallyWith_perm {a₁ a₂ b₁ b₂ : List ReqId} (ha : a₁.Perm a₂) (hb : b₁.Perm b₂)
    (st : State) : tallyWith F env a₁ b₁ st = tallyWith F env a₂ b₂ st := by
  unfold tallyWith
  rw [cleanTrackerWith_perm ha, sortIds_perm hb]

end tally

/-- the tally with the two id lists given in processing order: what the examples evaluate, since
    `mergeSort` is defined by well-founded recursion and does not reduce under `decide` -/
def tallyCore (F : FloatOps) (env : Env) (cl tl : List ReqId) (st : State) : State :=
  if env.active = 0 then st
  else if env.opts.voteDec ≤ 0 ∨ env.opts.allegDec ≤ 0 then st
  else
    let r := tl.foldl (tallyOne F env) ({ st with reqs := cleanLoop cl [] st.reqs }, [])
    if r.2.isEmpty then r.1
    else { r.1 with tracker := st.tracker.filter fun i => !r.2.contains i }

theorem tallyWith_core (F : FloatOps) (env : Env) (o₁ o₂ : List ReqId) (st : State)
    (h₁ : o₁.Pairwise fun a b => leS a b = true) (h₂ : o₂.Pairwise fun a b => leS a b = true) :
    tallyWith F env o₁ o₂ st = tallyCore F env o₁ o₂ st := by
  unfold tallyWith tallyCore cleanTrackerWith
  rw [sortIds_of_sorted h₁, sortIds_of_sorted h₂]

/-! ## the invariants of the requests -/

def VotesNodup (st : State) : Prop := ∀ p, p ∈ st.reqs → (p.2.votes.map (·.addr)).Nodup

theorem requestExists_false {st : State} {acc : Addr} (h : requestExists st acc = false) {j : ReqId} {b : Request}
    (hb : alookup j st.reqs = some b) : b.accused ≠ acc := by
  intro e
  have := List.any_eq_false.mp h (j, b) (mem_of_alookup hb)
  simp [e] at this

/-- the three things that happen to the requests: some go, one is opened, one gets a vote -/
inductive ReqsStep (st st' : State) : Prop
  | within (h : Within st'.reqs st.reqs)
  | opened (rep acc : Addr) (id : ReqId) (bh : Int) (hacc : requestExists st acc = false)
      (h : Within st'.reqs (upsert st.reqs id ⟨rep, acc, bh, 1, []⟩))
  | voted (id : ReqId) (ar : Request) (voter : Addr) (c : Int) (har : alookup id st.reqs = some ar)
      (hv : voter ∉ ar.votes.map (·.addr))
      (h : st'.reqs = upsert st.reqs id { ar with votes := sortVotes (ar.votes ++ [⟨voter, c⟩]) })

theorem ReqsStep.votesNodup {st st' : State} (hs : ReqsStep st st') (h : VotesNodup st) : VotesNodup st' := by
  intro p hp
  cases hs with
  | within hw => exact h p (hw.1 p hp)
  | opened rep acc id bh _ hw =>
    rcases mem_of_mem_upsert (hw.1 p hp) with hp | rfl
    · exact h p hp
    · exact List.nodup_nil
  | voted id ar voter c har hv e =>
    rcases mem_of_mem_upsert (e ▸ hp) with hp | rfl
    · exact h p hp
    · -- the sorted votes are the new vote and the old ones, in some order
      exact (((sortVotes_perm _).trans (List.perm_append_singleton ⟨voter, c⟩ ar.votes)).map (·.addr)).nodup_iff.mpr
        (List.nodup_cons.mpr ⟨hv, h _ (mem_of_alookup har)⟩)

theorem ReqsStep.onePerAccused {st st' : State} (hs : ReqsStep st st') (h : OnePerAccused st) :
    OnePerAccused st' := by
  intro i j a b ha hb hab
  cases hs with
  | within hw => exact h i j a b (hw.2 i a ha) (hw.2 j b hb) hab
  | opened rep acc id bh hacc hw =>
    have ha := hw.2 i a ha
    have hb := hw.2 j b hb
    rw [alookup_upsert] at ha hb
    split at ha <;> split at hb
    · exact ‹i = id›.trans ‹j = id›.symm
    · cases ha; exact absurd hab.symm (requestExists_false hacc hb)
    · cases hb; exact absurd hab (requestExists_false hacc ha)
    · exact h i j a b ha hb hab
  | voted id ar voter c har _ e =>
    -- the request voted on keeps its id and its accused
    have key : ∀ i a, alookup i st'.reqs = some a → ∃ a₀, alookup i st.reqs = some a₀ ∧ a₀.accused = a.accused := by
      intro i a ha
      rw [e, alookup_upsert] at ha
      split at ha
      · cases ha; exact ⟨ar, ‹i = id› ▸ har, rfl⟩
      · exact ⟨a, ha, rfl⟩
    obtain ⟨a₀, ha₀, ea⟩ := key i a ha
    obtain ⟨b₀, hb₀, eb⟩ := key j b hb
    exact h i j a₀ b₀ ha₀ hb₀ (ea.trans (hab.trans eb.symm))

/-! ## one step of a history -/

def NotRelease (a : Addr) : Op → Prop
  | .release _ v _ _ _ _ => v ≠ a
  | _ => True

/-- what a step does to the suspicion record of `a`: RELEASE of `a` rewrites it, the missed-votes check of
    BeginBlock may write a new one where there is no frozen one, a guilty verdict writes the record of its block -/
inductive SuspStep (st : State) (op : Op) (a : Addr) (st' : State) : Prop
  | same (h : alookup a st'.susp = alookup a st.susp)
  | released (h : ¬ NotRelease a op)
  | missed (h : isFrozen st a = false)
  | convicted {F : FloatOps} {env : Env} (hop : op = .tally F env) (h : alookup a st'.susp = some (byzRec env))

/-- what a step does to the requests, to the tracker and to the suspicion records -/
structure Effect (st : State) (op : Op) (st' : State) : Prop where
  reqs : ReqsStep st st'
  tracker : st'.tracker.Sublist st.tracker ∨ ∃ id, id ∉ st.tracker ∧ st'.tracker = st.tracker ++ [id]
  susp : ∀ a, SuspStep st op a st'

theorem Effect.of_frame {st st' : State} {op : Op} (hr : st'.reqs = st.reqs) (ht : st'.tracker = st.tracker)
    (hs : st'.susp = st.susp) : Effect st op st' :=
  ⟨.within (.of_eq hr), .inl (ht ▸ .refl _), fun _ => .same (hs ▸ rfl)⟩

theorem Effect.of_staking {st st' : State} {op : Op} (h : StakingOnly st st') : Effect st op st' := by
  obtain ⟨_, _, _, _, rfl⟩ := h
  exact .of_frame rfl rfl rfl

theorem Effect.of_tx {st : State} {op : Op} {sig fee : Bool} {r : Res × State}
    (h : ∀ st', r = (.ok, st') → Effect st op st') : Effect st op (withAdmission st sig fee r).2 := by
  rcases withAdmission_cases st sig fee r with ⟨hok, _, _, e⟩ | ⟨_, e⟩
  · rw [e]; exact h _ hok
  · rw [e]; exact .of_frame rfl rfl rfl

theorem beginBlock_effect (o : Opts) (h now : Int) (cv : List (Addr × Int)) (prev : List (Addr × ValRec))
    (st : State) : Effect st (.beginBlock o h now cv prev) (beginBlock o h now cv prev st) := by
  unfold beginBlock
  split
  · exact .of_frame rfl rfl rfl
  · have := List.foldlRecOn (motive := fun s : State => s.reqs = st.reqs ∧ s.tracker = st.tracker ∧
        ∀ a, alookup a s.susp = alookup a st.susp ∨ isFrozen st a = false)
      (cv.mergeSort fun a b => leS a.1 b.1) (beginStep o h now prev) ⟨rfl, rfl, fun _ => .inl rfl⟩
      fun s hs p _ => by
        rcases beginStep_cases o h now prev s p with e | ⟨hf, e⟩
        · rw [e]; exact hs
        · rw [e]
          refine ⟨hs.1, hs.2.1, fun a => ?_⟩
          by_cases ha : a = p.1
          · -- the check has not skipped `a`: no frozen record, now or at the start
            refine (hs.2.2 a).elim (fun e' => .inr ?_) .inr
            unfold isFrozen at hf ⊢
            rw [← e', ha]; exact hf
          · exact (hs.2.2 a).imp_left (alookup_upsert_ne _ _ _ _ ha).trans
    exact ⟨.within (.of_eq this.1), .inl (this.2.1 ▸ .refl _), fun a => (this.2.2 a).elim .same .missed⟩

theorem tallyWith_effect (F : FloatOps) (env : Env) (o₁ o₂ : List ReqId) (st : State) :
    Effect st (.tally F env) (tallyWith F env o₁ o₂ st) := by
  by_cases hrun : TallyRuns env
  · have h := tallyWith_done F env hrun o₁ o₂ st
    exact ⟨.within (h.within.trans (cleanLoop_within _ _ _)), .inl h.tracker,
      fun a => (h.susp a).elim (.same ·) (.convicted rfl ·.1)⟩
  · rw [tallyWith_skipped F env o₁ o₂ st hrun]
    exact .of_frame rfl rfl rfl

theorem step_effect (st : State) (op : Op) : Effect st op (step st op) := by
  cases op with
  | allege h rep acc id bh sig fee =>
    refine .of_tx fun st' hok => ?_
    obtain ⟨_, _, _, _, _, hacc, rfl⟩ := runAllege_ok hok
    refine ⟨.opened rep acc id bh hacc (cleanLoop_within _ _ _), ?_, fun _ => .same rfl⟩
    show (if st.tracker.contains id then st.tracker else st.tracker ++ [id]).Sublist _ ∨ _
    split
    · exact .inl (.refl _)
    · exact .inr ⟨id, by simpa using ‹¬ st.tracker.contains id = true›, rfl⟩
  | vote id voter c sig fee =>
    refine .of_tx fun st' hok => ?_
    obtain ⟨_, _, ar, har, _, _, hv, rfl⟩ := runVote_ok hok
    exact ⟨.voted id ar voter c har hv rfl, .inl (.refl _), fun _ => .same rfl⟩
  | release days val h now sig fee =>
    refine .of_tx fun st' hok => ?_
    obtain ⟨s, _, _, _, rfl⟩ := handleRelease_ok hok
    exact ⟨.within (.refl _), .inl (.refl _), fun a => if e : val = a then .released (· e) else .same (alookup_upsert_ne _ _ _ _ (e ·.symm))⟩
  | stake v s a => exact .of_staking (runStake_frame st v s a)
  | unstake v s a => exact .of_staking (runUnstake_frame st v s a)
  | withdraw vals v s a => exact .of_staking (runWithdraw_frame st vals v s a)
  | beginBlock o h now cv prev => exact beginBlock_effect o h now cv prev st
  | elect minSelf top h pop => exact .of_frame rfl rfl rfl
  | tally F env => exact tallyWith_effect F env _ _ st

/-! ## histories -/

theorem run_votesNodup (st : State) (ops : List Op) (h : VotesNodup st) : VotesNodup (run st ops) :=
  List.foldlRecOn ops step h fun s hs op _ => (step_effect s op).reqs.votesNodup hs

theorem run_onePerAccused (st : State) (ops : List Op) (h : OnePerAccused st) : OnePerAccused (run st ops) :=
  List.foldlRecOn ops step h fun s hs op _ => (step_effect s op).reqs.onePerAccused hs

theorem run_trackerNodup (st : State) (ops : List Op) (h : st.tracker.Nodup) : (run st ops).tracker.Nodup :=
  List.foldlRecOn (motive := fun s : State => s.tracker.Nodup) ops step h fun s hs op _ => by
    rcases (step_effect s op).tracker with hsub | ⟨id, hid, e⟩
    · exact hs.sublist hsub
    · rw [e]; exact (List.perm_append_singleton id s.tracker).nodup_iff.mpr (List.nodup_cons.mpr ⟨hid, hs⟩)

def TimeFrom (t0 : Int) : Op → Prop
  | .tally _ env => t0 ≤ env.time
  | _ => True

/-- `hP` is needed because a record that is not frozen need not survive BeginBlock: its missed-votes check may
    write a new one over it (`SuspStep.missed`). -/
theorem run_keeps (P : Susp → Prop) (hP : ∀ s, P s → isFrozenRec s = true) {st : State} {ops : List Op} {a : Addr}
    (hnr : ∀ op, op ∈ ops → NotRelease a op) (hb : ∀ F env, .tally F env ∈ ops → P (byzRec env))
    (h : HasAt st.susp a P) : HasAt (run st ops).susp a P :=
  List.foldlRecOn (motive := fun s : State => HasAt s.susp a P) ops step h fun s ⟨v, hv, hp⟩ op hop => by
    cases (step_effect s op).susp a with
    | same e => exact ⟨v, e.trans hv, hp⟩
    | released hr => exact absurd (hnr op hop) hr
    | missed hf => rw [isFrozen_iff.mpr ⟨v, hv, hP v hp⟩] at hf; cases hf
    | convicted e' e => exact ⟨_, e, hb _ _ (e' ▸ hop)⟩

theorem run_frozen_mono (st : State) (ops : List Op) (a : Addr) (hnr : ∀ op, op ∈ ops → NotRelease a op)
    (hf : isFrozen st a = true) : isFrozen (run st ops) a = true :=
  isFrozen_iff.mpr (run_keeps _ (fun _ h => h) hnr (fun _ _ _ => rfl) (isFrozen_iff.mp hf))

/-- `a` carries a byzantine-fault record, still frozen, written at or after `t0` -/
def ByzSince (st : State) (a : Addr) (t0 : Int) : Prop :=
  ∃ s, alookup a st.susp = some s ∧ s.status = 2 ∧ isFrozenRec s = true ∧ t0 ≤ s.frozenAt

theorem run_byzSince (st : State) (ops : List Op) (a : Addr) (t0 : Int)
    (hops : ∀ op, op ∈ ops → NotRelease a op ∧ TimeFrom t0 op)
    (hb : ByzSince st a t0) : ByzSince (run st ops) a t0 :=
  run_keeps (fun s => s.status = 2 ∧ isFrozenRec s = true ∧ t0 ≤ s.frozenAt) (fun _ h => h.2.1)
    (fun op hop => (hops op hop).1) (fun _ _ hop => ⟨rfl, rfl, (hops _ hop).2⟩) hb

theorem handleRelease_ok_time {st st' : State} {days : Int} {a : Addr} {h now t0 : Int}
    (hb : ByzSince st a t0) (hok : handleRelease st days a h now = (.ok, st')) : now > t0 + 86400 * days := by
  obtain ⟨s, hl, hs2, _, ht⟩ := hb
  obtain ⟨s', hl', _, hr, _⟩ := handleRelease_ok hok
  cases hl.symm.trans hl'
  exact Int.lt_of_le_of_lt (Int.add_le_add_right ht _) (releaseReady_byz hs2 hr)

/-! ## the verdict -/

theorem counts_le_voters (vs : List Vote) : countChoice 1 vs + countChoice 2 vs ≤ (vs.length : Int) := by
  unfold countChoice
  rw [← List.countP_eq_length_filter, ← List.countP_eq_length_filter]
  have h1 := List.length_eq_countP_add_countP (fun v : Vote => v.choice == 1) (l := vs)
  -- a no vote is not a yes vote
  have h2 : vs.countP (fun v => v.choice == 2) ≤ vs.countP (fun v => decide ¬ (v.choice == 1) = true) :=
    List.countP_mono_left fun v _ h => by rw [beq_iff_eq] at h; rw [h]; rfl
  omega

theorem activeVotes_idem (vs : List (Addr × VStat)) (ar : Request) :
    activeVotes vs { ar with votes := activeVotes vs ar } = activeVotes vs ar := by
  unfold activeVotes
  simp only [List.filter_filter, Bool.and_self]

/-! ## thresholds and amounts (integer arithmetic in the code) -/

theorem ediv_bounds (x : Int) {k : Int} (hk : 0 < k) : k * (x / k) ≤ x ∧ x < k * (x / k + 1) :=
  ⟨Int.mul_ediv_self_le (Int.ne_of_gt hk), by rw [Int.mul_add, Int.mul_one]; exact Int.lt_mul_ediv_self_add hk⟩

/-- a `FloatOps` whose penalty agrees with the exact reading -/
structure Exact (F : FloatOps) : Prop where
  penalty : ∀ s o, F.penalty s o = exactOps.penalty s o

theorem penalty_bounds (s pct dec : Int) (hd : 0 < dec) (hs : 0 ≤ s) (hp0 : 0 ≤ pct) (hp1 : pct ≤ dec) :
    0 ≤ (2 * s * pct + dec) / (2 * dec) ∧ (2 * s * pct + dec) / (2 * dec) ≤ s := by
  have hsp : 0 ≤ s * pct := Int.mul_nonneg hs hp0
  have hsd : s * pct ≤ s * dec := Int.mul_le_mul_of_nonneg_left hp1 hs
  have h2d : 0 < 2 * dec := Int.mul_pos (by decide) hd
  rw [Int.mul_assoc 2 s pct]
  refine ⟨Int.ediv_nonneg (Int.add_nonneg (Int.mul_nonneg (by decide) hsp) (Int.le_of_lt hd)) (Int.le_of_lt h2d),
    Int.le_of_lt_add_one (Int.ediv_lt_of_lt_mul h2d ?_)⟩
  rw [Int.add_mul, Int.one_mul, Int.mul_left_comm s 2 dec]
  omega

theorem bounty_bounds (P cp cd : Int) (hd : 0 < cd) (hP : 0 ≤ P) (h0 : 0 ≤ cp) (h1 : cp ≤ cd) :
    0 ≤ P * e18 * cp / cd ∧ P * e18 * cp / cd ≤ P * e18 :=
  mul_ediv_bounds (Int.mul_nonneg hP (by decide)) h0 h1 hd

/-! ## the election pass -/

theorem electStep_mal (minSelf top h : Int) (mal : List Addr) (acc : ElectAcc) (p : Addr × Int) (a : Addr)
    (hm : mal.contains a = true) :
    (a ∉ acc.elected → a ∉ (electStep minSelf top h mal acc p).elected) ∧
    (a = p.1 ∨ HasAt acc.vstat a (·.active = false) →
      HasAt (electStep minSelf top h mal acc p).vstat a (·.active = false)) := by
  unfold electStep
  by_cases hpa : a = p.1
  · rw [← hpa, hm]
    simp only [Bool.not_true, Bool.and_false, Bool.false_eq_true, if_false]
    refine ⟨id, fun _ => ?_⟩
    cases hl : alookup a acc.vstat with
    | none => exact ⟨_, alookup_upsert_self _ _ _, rfl⟩
    | some s =>
      cases hs : s.active with
      | false => exact ⟨s, by simp [hs, hl], hs⟩
      | true => exact ⟨⟨false, h⟩, by simp [hs], rfl⟩
  · refine ⟨fun hna => ?_, fun hi => ?_⟩
    · dsimp only; split
      · simpa [hpa] using hna
      · exact hna
    · have hi := hi.resolve_left hpa
      dsimp only
      split
      · exact hi.upsert (absurd · hpa)
      · split
        · exact hi.upsert (absurd · hpa)
        · exact hi

theorem electFold_mal (minSelf top h : Int) (mal : List Addr) (a : Addr) (hm : mal.contains a = true)
    (pop : List (Addr × Int)) (acc : ElectAcc) (hna : a ∉ acc.elected) :
    let r := pop.foldl (electStep minSelf top h mal) acc
    a ∉ r.elected ∧ (a ∈ pop.map (·.1) ∨ HasAt acc.vstat a (·.active = false) → HasAt r.vstat a (·.active = false)) := by
  induction pop generalizing acc with
  | nil => exact ⟨hna, (·.resolve_left List.not_mem_nil)⟩
  | cons p rest ih =>
    obtain ⟨s1, s2⟩ := electStep_mal minSelf top h mal acc p a hm
    refine (ih _ (s1 hna)).imp_right fun i2 h' => i2 ?_
    rcases h' with h' | h'
    · exact (List.mem_cons.mp h').imp (s2 ∘ .inl) id |>.symm
    · exact .inr (s2 (.inr h'))

end OLP.Alleg
