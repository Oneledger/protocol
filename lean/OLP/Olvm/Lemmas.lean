/-
  Layer D — lemmas about the OLVM pipeline (C17).

  Everything is said about `objOrNew s a`, the object the EVM works on for address `a` (the cached
  one, else what the keeper returns, else a fresh one). Every primitive of the StateDB replaces the
  object of one address by a function of it (`upd`); `Finalise` writes that view into the records.
-/
import OLP.Olvm.Model
import OLP.Ledger.Lemmas
import OLP.Base.Guard

namespace OLP.Olvm
open OLP OLP.Ledger

/-! ## the keeper -/

theorem loadAcct_some {w : World} {a : Addr} {o : Obj} (h : loadAcct w a = some o) :
    o.bal = bal w.bal a ∧ o.dirty = false ∧ o.suicided = false := by
  unfold loadAcct at h
  split at h
  · cases h; simp
  · split at h
    · cases h; simp
    · cases h

theorem loadAcct_none {w : World} {a : Addr} (h : loadAcct w a = none) : bal w.bal a = 0 := by
  unfold loadAcct at h
  split at h
  · cases h
  · split at h
    · cases h
    · rename_i h0; simpa using h0

theorem keeperNonce_eq (w : World) (a : Addr) : keeperNonce w a =
    match alookup a w.keeper with
    | some r => r.nonce
    | none => 0 := by
  unfold keeperNonce loadAcct
  cases alookup a w.keeper with
  | some r => rfl
  | none => by_cases h : bal w.bal a = 0 <;> simp [h]

/-! ## `putObj`, `peek`, `objOrNew` -/

@[simp] theorem putObj_w (s : St) (a : Addr) (o : Obj) : (putObj s a o).w = s.w := rfl

theorem peek_putObj (s : St) (a b : Addr) (o : Obj) :
    peek (putObj s a o) b = if b = a then some o else peek s b := by
  unfold peek putObj
  rw [alookup_upsert]
  by_cases h : b = a <;> simp [h]

theorem objOrNew_putObj (s : St) (a b : Addr) (o : Obj) :
    objOrNew (putObj s a o) b = if b = a then o else objOrNew s b := by
  unfold objOrNew
  rw [peek_putObj]
  by_cases h : b = a <;> simp only [h, if_true, if_false] <;> rfl

theorem objOrNew_of_cache {s : St} {a : Addr} {o : Obj} (h : alookup a s.cache = some o) :
    objOrNew s a = o := by
  simp [objOrNew, peek, h]

/-- Nothing is said about `dirty`: it is `true` for a fresh object (`freshObj`) and `false` for a
    loaded one (`loadAcct`), so for an uncached address it has no one value to state. -/
theorem objOrNew_uncached {s : St} {a : Addr} (h : alookup a s.cache = none) :
    (objOrNew s a).bal = bal s.w.bal a ∧ (objOrNew s a).nonce = keeperNonce s.w a ∧
    (objOrNew s a).suicided = false := by
  unfold objOrNew peek keeperNonce
  rw [h]
  cases hl : loadAcct s.w a with
  | none => exact ⟨rfl, rfl, rfl⟩
  | some o => exact ⟨(loadAcct_some hl).1, rfl, (loadAcct_some hl).2.2⟩

/-- `objOrNew_uncached` for every address at once; `dirty` is left out for the same reason -/
theorem objOrNew_of_empty {s : St} (h : s.cache = []) (a : Addr) :
    (objOrNew s a).bal = bal s.w.bal a ∧ (objOrNew s a).nonce = keeperNonce s.w a ∧
    (objOrNew s a).suicided = false :=
  objOrNew_uncached (by rw [h]; rfl)

theorem objOrNew_bal (s : St) (a : Addr) : (objOrNew s a).bal = evmBalance s a := by
  unfold objOrNew evmBalance
  cases hp : peek s a with
  | some o => rfl
  | none =>
    unfold peek at hp
    split at hp
    · cases hp
    · exact loadAcct_none hp

theorem objOrNew_nonce (s : St) (a : Addr) : (objOrNew s a).nonce = evmNonce s a := by
  unfold objOrNew evmNonce
  cases peek s a <;> rfl

/-! ## the primitives replace the object of one address by a function of it -/

def upd (s : St) (a : Addr) (g : Obj → Obj) : St := putObj s a (g (objOrNew s a))

def subF (n : Int) (o : Obj) : Obj := { o with bal := o.bal - n, dirty := o.dirty || decide (n ≠ 0) }
def addF (n : Int) (o : Obj) : Obj :=
  { o with bal := o.bal + n, dirty := o.dirty || decide (n ≠ 0) || isEmpty o }
def nonceF (k : Nat) (o : Obj) : Obj := { o with nonce := k, dirty := true }
def codeF (o : Obj) : Obj := { o with code := true, dirty := true }
def createF (o : Obj) : Obj := ⟨o.bal, 0, false, true, false⟩
def suicideF (o : Obj) : Obj := { o with suicided := true, bal := 0, dirty := true }

theorem subBalance_eq (s : St) (a : Addr) (n : Int) : subBalance s a n = upd s a (subF n) := by
  unfold subBalance upd subF
  by_cases h : n = 0 <;> simp [h]

theorem addBalance_eq (s : St) (a : Addr) (n : Int) : addBalance s a n = upd s a (addF n) := by
  unfold addBalance upd addF
  by_cases h : n = 0
  · cases he : isEmpty (objOrNew s a) <;> simp [h, he]
  · simp [h]

theorem setNonce_eq (s : St) (a : Addr) (k : Nat) : setNonce s a k = upd s a (nonceF k) := rfl

theorem setCode_eq (s : St) (a : Addr) : setCode s a = upd s a codeF := rfl

theorem createAccount_eq (s : St) (a : Addr) : createAccount s a = upd s a createF := by
  unfold createAccount upd objOrNew
  cases peek s a <;> rfl

theorem suicide_eq (s : St) (a : Addr) :
    suicide s a = if evmExist s a then upd s a suicideF else s := by
  unfold suicide evmExist upd objOrNew
  cases peek s a <;> rfl

theorem objOrNew_upd (s : St) (a b : Addr) (g : Obj → Obj) :
    objOrNew (upd s a g) b = if b = a then g (objOrNew s a) else objOrNew s b :=
  objOrNew_putObj s a b _

theorem forall_objOrNew_upd {P : Addr → Obj → Prop} {s : St} {a : Addr} {g : Obj → Obj}
    (h : ∀ b, P b (objOrNew s b)) (ha : P a (g (objOrNew s a))) (b : Addr) :
    P b (objOrNew (upd s a g) b) := by
  rw [objOrNew_upd]
  split
  · rename_i hb; rw [hb]; exact ha
  · exact h b

/-! ## one object per address -/

def WF (s : St) : Prop := (akeys s.cache).Nodup

theorem wf_of_empty {s : St} (h : s.cache = []) : WF s := by simp [WF, h, akeys]

theorem wf_upd {s : St} {a : Addr} {g : Obj → Obj} (h : WF s) : WF (upd s a g) :=
  nodup_akeys_upsert s.cache a _ h

theorem objOrNew_of_mem {s : St} {p : Addr × Obj} (hwf : WF s) (hp : p ∈ s.cache) : objOrNew s p.1 = p.2 :=
  objOrNew_of_cache (alookup_of_mem hwf hp)

/-! ## `Finalise` writes the view into the records -/

@[simp] theorem finalise_cache (s : St) : (finalise s).cache = [] := rfl

theorem finalise_pool (s : St) : (finalise s).w.pool = s.w.pool := by
  show (s.cache.foldl finaliseObj s.w).pool = s.w.pool
  generalize s.w = w
  induction s.cache generalizing w with
  | nil => rfl
  | cons p t ih =>
    rw [List.foldl_cons, ih]
    unfold finaliseObj
    split
    · rfl
    · split <;> rfl

theorem removeAccount_bal (w : World) (k a : Addr) :
    bal (removeAccount w k).bal a = if a = k then 0 else bal w.bal a := by
  unfold removeAccount
  simp only
  split
  · rename_i h0
    by_cases h : a = k
    · rw [if_pos h, h, h0]
    · rw [if_neg h]
  · exact bal_setBal w.bal k a 0

theorem finaliseObj_bal (w : World) (p : Addr × Obj) (a : Addr) :
    bal (finaliseObj w p).bal a =
      if a = p.1 then (if gone p.2 then 0 else if p.2.dirty then p.2.bal else bal w.bal a) else bal w.bal a := by
  unfold finaliseObj
  split
  · exact removeAccount_bal w p.1 a
  · split
    · exact bal_setBal w.bal p.1 a p.2.bal
    · rw [ite_self]

theorem finaliseObj_keeper (w : World) (p : Addr × Obj) (a : Addr) :
    alookup a (finaliseObj w p).keeper =
      if a = p.1 then (if gone p.2 then none else if p.2.dirty then some ⟨p.2.nonce, p.2.code⟩ else alookup a w.keeper)
      else alookup a w.keeper := by
  unfold finaliseObj
  split
  · exact alookup_aerase w.keeper p.1 a
  · split
    · exact alookup_upsert w.keeper p.1 a _
    · rw [ite_self]

/-- a clean object is what the keeper returned: it holds the stored balance and nonce -/
def Mirror (s : St) : Prop :=
  ∀ a, (objOrNew s a).dirty = false →
    (objOrNew s a).bal = bal s.w.bal a ∧ (objOrNew s a).nonce = keeperNonce s.w a

theorem gone_empty {o : Obj} (hg : gone o = true) (hs : o.suicided = false) : o.nonce = 0 ∧ o.bal = 0 := by
  simp only [gone, hs, isEmpty, Bool.false_or, Bool.and_eq_true, beq_iff_eq] at hg
  exact hg.2.1

theorem finalise_bal {s : St} (hwf : WF s) (hm : Mirror s) (a : Addr) :
    bal (finalise s).w.bal a = if (objOrNew s a).suicided then 0 else (objOrNew s a).bal := by
  have h := foldl_keyed (fun w a => bal w.bal a)
    (fun b o => if gone o then 0 else if o.dirty then o.bal else b) finaliseObj_bal hwf s.w a
  change bal (finalise s).w.bal a = _ at h
  rw [h]
  cases hc : alookup a s.cache with
  | none =>
    obtain ⟨hb, -, hs⟩ := objOrNew_uncached hc
    simp [hs, hb]
  | some o =>
    have hm' := hm a
    rw [objOrNew_of_cache hc] at hm' ⊢
    simp only
    cases hs : o.suicided
    · cases hg : gone o
      · cases hd : o.dirty
        · simp [(hm' hd).1]
        · simp
      · simp [(gone_empty hg hs).2]
    · simp [gone, hs]

theorem finalise_nonce {s : St} (hwf : WF s) (hm : Mirror s) (a : Addr) :
    keeperNonce (finalise s).w a = if gone (objOrNew s a) then 0 else (objOrNew s a).nonce := by
  have h := foldl_keyed (fun w a => alookup a w.keeper)
    (fun r o => if gone o then none else if o.dirty then some ⟨o.nonce, o.code⟩ else r) finaliseObj_keeper
    hwf s.w a
  change alookup a (finalise s).w.keeper = _ at h
  rw [keeperNonce_eq, h]
  cases hc : alookup a s.cache with
  | none =>
    obtain ⟨-, hn, hs⟩ := objOrNew_uncached hc
    rw [← keeperNonce_eq, ← hn]
    split
    · rename_i hg; exact (gone_empty hg hs).1
    · rfl
  | some o =>
    have hm' := hm a
    rw [objOrNew_of_cache hc] at hm' ⊢
    simp only
    cases hg : gone o
    · cases hd : o.dirty
      · simp [(hm' hd).2, keeperNonce_eq]
      · simp
    · simp

/-! ## what `Finalise` does to the total -/

/-- what the cache holds on top of the records -/
def pend (s : St) : Int := asum (fun a o => o.bal - bal s.w.bal a) s.cache

theorem pend_upd (s : St) (c : Addr) (g : Obj → Obj) :
    pend (upd s c g) = pend s + ((g (objOrNew s c)).bal - (objOrNew s c).bal) := by
  have hb : (alookup c s.cache).elim 0 (fun o => o.bal - bal s.w.bal c) = (objOrNew s c).bal - bal s.w.bal c := by
    cases hc : alookup c s.cache with
    | some o => rw [objOrNew_of_cache hc]; rfl
    | none => rw [(objOrNew_uncached hc).1, Int.sub_self]; rfl
  show asum (fun a o => o.bal - bal s.w.bal a) (upsert s.cache c _) = _
  rw [asum_upsert, hb, pend]
  omega

theorem total_removeAccount (w : World) (a : Addr) :
    total (removeAccount w a).bal = total w.bal - bal w.bal a := by
  unfold removeAccount
  simp only
  split
  · omega
  · rw [total_setBal]; omega

theorem total_finalise {s : St} (hwf : WF s) (hm : Mirror s) :
    total (finalise s).w.bal = total s.w.bal + pend s - burntAt s.cache := by
  -- `w` is the world on the way through the cache: it still holds the records of `s` at the keys to come
  have key : ∀ (c : List (Addr × Obj)) (w : World), (akeys c).Nodup →
      (∀ p ∈ c, bal w.bal p.1 = bal s.w.bal p.1 ∧ (p.2.dirty = false → p.2.bal = bal s.w.bal p.1)) →
      total (c.foldl finaliseObj w).bal =
        total w.bal + asum (fun a o => o.bal - bal s.w.bal a) c - burntAt c := by
    intro c
    induction c with
    | nil => intro w _ _; simp [asum, burntAt]
    | cons p t ih =>
      intro w hn hc
      have hn' : p.1 ∉ akeys t ∧ (akeys t).Nodup := by simpa [akeys] using hn
      have hne : ∀ q ∈ t, q.1 ≠ p.1 := fun q hq e => hn'.1 (e ▸ List.mem_map_of_mem hq)
      rw [List.foldl_cons, ih _ hn'.2 (fun q hq => by
        rw [finaliseObj_bal, if_neg (hne q hq)]
        exact hc q (List.mem_cons_of_mem _ hq))]
      obtain ⟨h1, h2⟩ := hc p List.mem_cons_self
      simp only [asum, burntAt]
      unfold finaliseObj
      split
      · rw [total_removeAccount]; omega
      · split
        · simp only [setAccount, total_setBal]; omega
        · rename_i hd
          have := h2 (by simpa using hd)
          omega
  exact key s.cache s.w hwf (fun p hp => ⟨rfl, fun hd => by
    have := hm p.1; rw [objOrNew_of_mem hwf hp] at this; exact (this hd).1⟩)

/-! ## what `Finalise` drops -/

/-- holds until the interpreter runs -/
def NoSui (s : St) : Prop := ∀ a, (objOrNew s a).suicided = false

/-- … and afterwards: a suicided object holds no debt, and the sender `snd` is not one (the refund,
    whose sign nobody checks, goes to the sender) -/
def SuiOk (snd : Addr) (s : St) : Prop :=
  ∀ a, (objOrNew s a).suicided = true → 0 ≤ (objOrNew s a).bal ∧ a ≠ snd

theorem noSui_of_empty {s : St} (h : s.cache = []) : NoSui s := fun a => (objOrNew_of_empty h a).2.2

theorem suiOk_of_noSui {snd : Addr} {s : St} (h : NoSui s) : SuiOk snd s := by
  intro a hs; rw [h a] at hs; cases hs

/-- the burnt amount is a sum of balances of dropped objects: what holds of 0, of sums and of each of
    these balances holds of it -/
theorem burntAt_ind {R : Int → Prop} {s : St} (h0 : R 0) (hadd : ∀ x y, R x → R y → R (x + y)) (hwf : WF s)
    (h : ∀ a, gone (objOrNew s a) = true → R (objOrNew s a).bal) : R (burntAt s.cache) := by
  have key : ∀ c : List (Addr × Obj), (∀ p ∈ c, gone p.2 = true → R p.2.bal) → R (burntAt c) := by
    intro c
    induction c with
    | nil => exact fun _ => h0
    | cons p t ih =>
      intro hc
      refine hadd _ _ ?_ (ih fun q hq => hc q (List.mem_cons_of_mem _ hq))
      split
      · rename_i hg; exact hc p List.mem_cons_self hg
      · exact h0
  exact key s.cache fun p hp => by
    have := h p.1; rwa [objOrNew_of_mem hwf hp] at this

theorem burntAt_nonneg {snd : Addr} {s : St} (hwf : WF s) (h : SuiOk snd s) : 0 ≤ burntAt s.cache :=
  burntAt_ind (R := (0 ≤ ·)) (Int.le_refl 0) (fun _ _ => Int.add_nonneg) hwf fun a hg => by
    cases hs : (objOrNew s a).suicided
    · exact Int.le_of_eq (gone_empty hg hs).2.symm
    · exact (h a hs).1

theorem burntAt_zero_of_noSui {s : St} (hwf : WF s) (h : NoSui s) : burntAt s.cache = 0 :=
  burntAt_ind (R := (· = 0)) rfl (fun x y hx hy => by rw [hx, hy]; rfl) hwf
    fun a hg => (gone_empty hg (h a)).2

/-! ## which updates keep the invariants -/

/-- `g` marks what it changes: a clean result is the clean argument -/
def Honest (g : Obj → Obj) : Prop :=
  ∀ o, (g o).dirty = false → o.dirty = false ∧ (g o).bal = o.bal ∧ (g o).nonce = o.nonce

/-- … and it does not make a suicided object (everything but `Suicide`) -/
def Tame (g : Obj → Obj) : Prop := Honest g ∧ ∀ o, o.suicided = false → (g o).suicided = false

theorem tame_subF (n : Int) : Tame (subF n) := by
  refine ⟨fun o h => ?_, fun o h => h⟩
  simp only [subF, Bool.or_eq_false_iff, decide_eq_false_iff_not, Decidable.not_not] at h
  simp [subF, h]

theorem tame_addF (n : Int) : Tame (addF n) := by
  refine ⟨fun o h => ?_, fun o h => h⟩
  simp only [addF, Bool.or_eq_false_iff, decide_eq_false_iff_not, Decidable.not_not] at h
  simp [addF, h]

theorem tame_nonceF (k : Nat) : Tame (nonceF k) := ⟨fun _ h => (by cases h), fun _ h => h⟩
theorem tame_codeF : Tame codeF := ⟨fun _ h => (by cases h), fun _ h => h⟩
theorem tame_createF : Tame createF := ⟨fun _ h => (by cases h), fun _ _ => rfl⟩
theorem honest_suicideF : Honest suicideF := fun _ h => by cases h

section
variable {s : St} {a : Addr} {g : Obj → Obj}

theorem mirror_upd (hg : Honest g) (h : Mirror s) : Mirror (upd s a g) :=
  forall_objOrNew_upd (P := fun b o => o.dirty = false → o.bal = bal s.w.bal b ∧ o.nonce = keeperNonce s.w b)
    h (fun hd => by
      obtain ⟨h1, h2, h3⟩ := hg _ hd
      rw [h2, h3]; exact h a h1)

theorem noSui_upd (hg : Tame g) (h : NoSui s) : NoSui (upd s a g) :=
  forall_objOrNew_upd (P := fun _ o => o.suicided = false) h (hg.2 _ (h a))

theorem suiOk_upd {snd : Addr} (h : SuiOk snd s)
    (ha : (g (objOrNew s a)).suicided = true → 0 ≤ (g (objOrNew s a)).bal ∧ a ≠ snd) :
    SuiOk snd (upd s a g) :=
  forall_objOrNew_upd (P := fun b o => o.suicided = true → 0 ≤ o.bal ∧ b ≠ snd) h ha

end

/-! ## the interpreter's calls -/

section
variable {s s' : St} {l : List Eff}

theorem applyEff_sub {a : Addr} {n : Int} (h : applyEff s (.sub a n) = some s') :
    0 ≤ (objOrNew s a).bal - n ∧ s' = subBalance s a n := by
  simp only [applyEff] at h
  split at h
  · cases h
  · cases h; exact ⟨by omega, rfl⟩

theorem applyEff_upd {e : Eff} (h : applyEff s e = some s') :
    s' = s ∨ ∃ g, Honest g ∧ s' = upd s e.addr g := by
  cases e with
  | sub a n => exact Or.inr ⟨subF n, (tame_subF n).1, (applyEff_sub h).2.trans (subBalance_eq s a n)⟩
  | add a n => cases h; exact Or.inr ⟨addF n, (tame_addF n).1, addBalance_eq s a n⟩
  | suicide a =>
    cases h
    simp only [suicide_eq, Eff.addr]
    split
    · exact Or.inr ⟨suicideF, honest_suicideF, rfl⟩
    · exact Or.inl rfl

theorem applyEffs_inv {P : St → Prop} (hstep : ∀ {x y e}, e ∈ l → P x → applyEff x e = some y → P y)
    (hs : P s) (he : applyEffs s l = some s') : P s' := by
  induction l generalizing s with
  | nil => cases he; exact hs
  | cons e t ih =>
    simp only [applyEffs] at he
    cases h1 : applyEff s e with
    | none => rw [h1] at he; cases he
    | some s1 =>
      rw [h1] at he
      exact ih (fun he' => hstep (List.mem_cons_of_mem _ he')) (hstep List.mem_cons_self hs h1) he

theorem applyEffs_frame {a : Addr} (hl : ∀ e ∈ l, e.addr ≠ a) (he : applyEffs s l = some s') :
    objOrNew s' a = objOrNew s a :=
  applyEffs_inv (P := fun x => objOrNew x a = objOrNew s a) (fun hm hx h => by
    rcases applyEff_upd h with rfl | ⟨g, -, rfl⟩
    · exact hx
    · rw [objOrNew_upd, if_neg (fun e' => hl _ hm e'.symm)]; exact hx) rfl he

theorem noSui_applyEffs (hs : NoSui s) (hn : noSuicide l = true) (he : applyEffs s l = some s') : NoSui s' := by
  have hmem : ∀ l : List Eff, noSuicide l = true → ∀ a, Eff.suicide a ∉ l := by
    intro l
    induction l with
    | nil => intro _ a h; cases h
    | cons e t ih =>
      intro hn a hm
      cases e with
      | suicide b => cases hn
      | sub b n | add b n => exact ih hn a (by simpa using hm)
  refine applyEffs_inv (fun {x y e} hm hx h => ?_) hs he
  cases e with
  | sub a n => rw [(applyEff_sub h).2, subBalance_eq]; exact noSui_upd (tame_subF n) hx
  | add a n => cases h; rw [addBalance_eq]; exact noSui_upd (tame_addF n) hx
  | suicide a => exact absurd hm (hmem l hn a)

theorem suiOk_applyEffs {snd : Addr} (hs : SuiOk snd s)
    (hadd : ∀ a n, Eff.add a n ∈ l → 0 ≤ n) (hsnd : Eff.suicide snd ∉ l)
    (he : applyEffs s l = some s') : SuiOk snd s' := by
  refine applyEffs_inv (fun {x y e} hm hx h => ?_) hs he
  cases e with
  | sub a n =>
    obtain ⟨hge, rfl⟩ := applyEff_sub h
    rw [subBalance_eq]
    exact suiOk_upd hx (fun hsu => ⟨hge, (hx a hsu).2⟩)
  | add a n =>
    cases h
    rw [addBalance_eq]
    exact suiOk_upd hx (fun hsu => ⟨Int.add_nonneg (hx a hsu).1 (hadd a n hm), (hx a hsu).2⟩)
  | suicide a =>
    cases h
    rw [suicide_eq]
    split
    · exact suiOk_upd hx (fun _ => ⟨Int.le_refl 0, fun e => hsnd (e ▸ hm)⟩)
    · exact hx

theorem pend_applyEffs (he : applyEffs s l = some s') : pend s' = pend s + vmNet s l := by
  induction l generalizing s with
  | nil => cases he; simp [vmNet]
  | cons e t ih =>
    simp only [applyEffs] at he
    cases h1 : applyEff s e with
    | none => rw [h1] at he; cases he
    | some s1 =>
      rw [h1] at he
      rw [ih he]
      cases e with
      | sub a n =>
        rw [(applyEff_sub h1).2, vmNet, subBalance_eq, pend_upd]
        simp only [subF]; omega
      | add a n =>
        cases h1
        rw [vmNet, addBalance_eq, pend_upd]
        simp only [addF]; omega
      | suicide a =>
        cases h1
        rw [vmNet, suicide_eq]
        split
        · rw [pend_upd, objOrNew_bal]; simp only [suicideF]; omega
        · rename_i hex
          have : evmBalance s a = 0 := by
            simp only [evmExist, Option.isSome_iff_ne_none, ne_eq, Decidable.not_not] at hex
            simp [evmBalance, hex]
          omega

theorem vmNet_noSuicide (s : St) (hn : noSuicide l = true) : vmNet s l = effSum l := by
  induction l generalizing s with
  | nil => rfl
  | cons e t ih =>
    cases e with
    | sub a n | add a n => simp only [vmNet, effSum]; rw [ih _ hn]
    | suicide a => cases hn

end

/-! ## inversion of the pipeline -/

variable {env : Env} {s s' s1 s2 : St} {tx : Tx} {vm : VmOut} {gas gl : Nat} {f : Bool} {er : ExecResult}
  {r : Resp}

theorem evmCall_cases {to : Addr} (h : evmCall s tx to gas vm = some (s2, gl, f)) :
    (s2 = s ∧ gl = gas ∧ f = true ∧ tx.value ≠ 0 ∧ evmBalance s tx.sender < tx.value)
    ∨ (s2 = s ∧ gl = gas ∧ f = false ∧ evmExist s to = false ∧ tx.value = 0)
    ∨ (s2 = transfer (callPrep s to) tx.sender to tx.value ∧ gl = gas ∧ f = false ∧
        evmCode (transfer (callPrep s to) tx.sender to tx.value) to = false)
    ∨ (s2 = s ∧ gl = vm.gasLeft ∧ f = true ∧ vm.failed = true)
    ∨ (applyEffs (transfer (callPrep s to) tx.sender to tx.value) vm.effs = some s2 ∧
        gl = vm.gasLeft ∧ f = false ∧ vm.failed = false) := by
  unfold evmCall at h
  simp only [ite_eq_iff, Option.some.injEq, Prod.mk.injEq] at h
  rcases h with ⟨h1, rfl, rfl, rfl⟩ | ⟨-, ⟨h2, rfl, rfl, rfl⟩ | ⟨-, ⟨h3, rfl, rfl, rfl⟩ |
    ⟨-, ⟨h4, rfl, rfl, rfl⟩ | ⟨h4, h⟩⟩⟩⟩
  · exact Or.inl ⟨rfl, rfl, rfl, h1⟩
  · exact Or.inr (Or.inl ⟨rfl, rfl, rfl, h2⟩)
  · exact Or.inr (Or.inr (Or.inl ⟨rfl, rfl, rfl, h3⟩))
  · exact Or.inr (Or.inr (Or.inr (Or.inl ⟨rfl, rfl, rfl, h4⟩)))
  · cases he : applyEffs (transfer (callPrep s to) tx.sender to tx.value) vm.effs with
    | none => rw [he] at h; cases h
    | some s3 =>
      rw [he] at h; cases h
      exact Or.inr (Or.inr (Or.inr (Or.inr ⟨rfl, rfl, rfl, by simpa using h4⟩)))

theorem evmCreate_cases (h : evmCreate env s tx vm gas = some (s2, gl, f)) :
    (s2 = s ∧ gl = gas ∧ f = true ∧ evmBalance s tx.sender < tx.value)
    ∨ (s2 = setNonce s tx.sender (evmNonce s tx.sender + 1) ∧ gl = 0 ∧ f = true)
    ∨ (s2 = setNonce s tx.sender (evmNonce s tx.sender + 1) ∧ gl = vm.gasLeft ∧ f = true ∧ vm.failed = true)
    ∨ (∃ s3, applyEffs (createPrep (setNonce s tx.sender (evmNonce s tx.sender + 1)) tx env.newAddr) vm.effs = some s3 ∧
        s2 = (if vm.retCode = true then setCode s3 env.newAddr else s3) ∧
        gl = vm.gasLeft ∧ f = false ∧ vm.failed = false ∧
        evmNonce (setNonce s tx.sender (evmNonce s tx.sender + 1)) env.newAddr = 0 ∧
        evmCode (setNonce s tx.sender (evmNonce s tx.sender + 1)) env.newAddr = false) := by
  unfold evmCreate at h
  simp only [ite_eq_iff, Option.some.injEq, Prod.mk.injEq] at h
  rcases h with ⟨h1, rfl, rfl, rfl⟩ | ⟨-, ⟨-, rfl, rfl, rfl⟩ | ⟨h2, ⟨h4, rfl, rfl, rfl⟩ | ⟨h4, h⟩⟩⟩
  · exact Or.inl ⟨rfl, rfl, rfl, h1⟩
  · exact Or.inr (Or.inl ⟨rfl, rfl, rfl⟩)
  · exact Or.inr (Or.inr (Or.inl ⟨rfl, rfl, rfl, h4⟩))
  · cases he : applyEffs (createPrep (setNonce s tx.sender (evmNonce s tx.sender + 1)) tx env.newAddr) vm.effs with
    | none => rw [he] at h; cases h
    | some s3 =>
      rw [he] at h; cases h
      have h2' := not_or.mp h2
      exact Or.inr (Or.inr (Or.inr ⟨s3, rfl, rfl, rfl, rfl, by simpa using h4, by simpa using h2'.1,
        by simpa using h2'.2⟩))

/-- the state after `buyGas` -/
def bought (s : St) (tx : Tx) : St := subBalance s tx.sender ((gasU tx : Int) * tx.price)

/-- … and with the sender's nonce raised: where the interpreter's frame starts -/
def started (s : St) (tx : Tx) : St :=
  setNonce (bought s tx) tx.sender (evmNonce (bought s tx) tx.sender + 1)

theorem vmInput_eq (env : Env) (s : St) (tx : Tx) : vmInput env s tx =
    match tx.to with
    | none => createPrep (started s tx) tx env.newAddr
    | some t => transfer (callPrep (started s tx) t) tx.sender t tx.value := rfl

theorem preCheck_ok {sb : St} (h : preCheck env s tx = .ok sb) :
    sb = bought s tx ∧ evmNonce s tx.sender ≤ tx.nonce ∧ evmCode s tx.sender = false ∧
    (gasU tx : Int) * tx.price ≤ evmBalance s tx.sender ∧ gasU tx ≤ env.gasPool := by
  unfold preCheck buyGas at h
  obtain ⟨h1, h⟩ := of_guard h
  obtain ⟨h2, h⟩ := of_guard h
  obtain ⟨h3, h⟩ := of_guard h
  obtain ⟨h4, h⟩ := of_guard h
  cases h
  exact ⟨rfl, by omega, by simpa using h2, by omega, by omega⟩

/-- `TransitionDb` from where the interpreter's frame starts, as the induction it allows: `Q` holds
    until the value moves, `P` from then on. Recipient and new contract are prepared, and the code of a
    creation stored, by updates of that one object that keep its balance and are not `Suicide`
    (`CreateAccount`, `SetNonce 1`, `SetCode`); the interpreter's calls are applied to `vmInput`; after a
    failed run, or with nothing to move to a missing recipient, the state is `started` again. What is
    left is the refund of `gf` gas. -/
theorem transitionDb_ind {Q P : St → Prop} (h : transitionDb env s tx vm = some (s1, .ok er))
    (hst : Q (started s tx))
    (hq : ∀ {x g}, Tame g → (∀ o, (g o).bal = o.bal) → Q x → Q (upd x (tx.to.getD env.newAddr) g))
    (hskip : (if er.failed then 0 else tx.value) = 0 → P (started s tx))
    (hmove : er.failed = false → ∀ {x}, Q x → P (transfer x tx.sender (tx.to.getD env.newAddr) tx.value))
    (heffs : ∀ {y}, applyEffs (vmInput env s tx) vm.effs = some y → P (vmInput env s tx) → P y)
    (hp : ∀ {x g}, Tame g → (∀ o, (g o).bal = o.bal) → P x → P (upd x (tx.to.getD env.newAddr) g)) :
    ∃ (s2 : St) (gf : Nat), s1 = addBalance s2 tx.sender ((gf : Int) * tx.price) ∧ er.usedGas = gasU tx - gf ∧ P s2 := by
  unfold transitionDb at h
  cases hpc : preCheck env s tx with
  | error e => rw [hpc] at h; cases h
  | ok sb =>
  rw [hpc] at h
  obtain ⟨rfl, -, -, hfunds, -⟩ := preCheck_ok hpc
  obtain ⟨-, h⟩ := of_guard h (by simp)
  obtain ⟨hv, h⟩ := of_guard h (by simp)
  cases hr : runVm env (bought s tx) tx vm with
  | none => rw [hr] at h; cases h
  | some res =>
  obtain ⟨s2, gl, f⟩ := res
  rw [hr] at h
  cases h
  refine ⟨s2, gasFinal tx vm gl, rfl, rfl, ?_⟩
  unfold runVm at hr
  rw [vmInput_eq] at heffs
  generalize hr' : tx.to.getD env.newAddr = r at hq hmove hp
  split at hr <;> rename_i hto <;> rw [hto] at hr' <;> cases hr' <;> simp only [hto] at heffs
  · rcases evmCreate_cases hr with
      ⟨-, -, -, hlt⟩ | ⟨rfl, -, rfl⟩ | ⟨rfl, -, rfl, -⟩ | ⟨s3, he, rfl, -, rfl, -⟩
    · -- the gas is paid for and the transfer-funds test is passed: the value is there
      have hb : evmBalance (bought s tx) tx.sender = evmBalance s tx.sender - (gasU tx : Int) * tx.price := by
        simp only [← objOrNew_bal, bought, subBalance_eq, objOrNew_upd, if_true, subF]
      omega
    · exact hskip rfl
    · exact hskip rfl
    · have h3 := heffs he (hmove rfl (hq (tame_nonceF 1) (fun _ => rfl)
        (createAccount_eq _ _ ▸ hq tame_createF (fun _ => rfl) hst)))
      split
      · exact hp tame_codeF (fun _ => rfl) h3
      · exact h3
  · rename_i to
    have hcp : Q (callPrep (started s tx) to) := by
      unfold callPrep
      split
      · exact hst
      · exact createAccount_eq _ _ ▸ hq tame_createF (fun _ => rfl) hst
    rcases evmCall_cases hr with
      ⟨rfl, -, rfl, -⟩ | ⟨rfl, -, rfl, -, hv0⟩ | ⟨rfl, -, rfl, -⟩ | ⟨rfl, -, rfl, -⟩ | ⟨he, -, rfl, -⟩
    · exact hskip rfl
    · exact hskip hv0
    · exact hmove rfl hcp
    · exact hskip rfl
    · exact heffs he (hmove rfl hcp)

/-! ## invariants through the pipeline -/

theorem started_inv {P : St → Prop} (hupd : ∀ {x a g}, Tame g → P x → P (upd x a g)) (tx : Tx) (hs : P s) :
    P (started s tx) := by
  rw [started, bought, setNonce_eq, subBalance_eq]
  exact hupd (tame_nonceF _) (hupd (tame_subF _) hs)

theorem transitionDb_inv {P : St → Prop} (h : transitionDb env s tx vm = some (s1, .ok er))
    (hupd : ∀ {x a g}, Tame g → P x → P (upd x a g))
    (heffs : ∀ {x y}, P x → applyEffs x vm.effs = some y → P y) (hs : P s) : P s1 := by
  have hst := started_inv hupd tx hs
  obtain ⟨s2, gf, rfl, -, h2⟩ := transitionDb_ind h hst (fun hg _ => hupd hg) (fun _ => hst)
    (fun _ _ hx => by
      rw [Olvm.transfer, addBalance_eq, subBalance_eq]
      exact hupd (tame_addF _) (hupd (tame_subF _) hx))
    (fun he hx => heffs hx he) (fun hg _ => hupd hg)
  rw [addBalance_eq]
  exact hupd (tame_addF _) h2

theorem transitionDb_honest {P : St → Prop} (h : transitionDb env s tx vm = some (s1, .ok er))
    (hupd : ∀ {x a g}, Honest g → P x → P (upd x a g)) (hs : P s) : P s1 :=
  transitionDb_inv h (fun hg => hupd hg.1)
    (applyEffs_inv (P := P) fun _ hx he => by
      rcases applyEff_upd he with rfl | ⟨g, hg, rfl⟩
      · exact hx
      · exact hupd hg hx) hs

theorem transitionDb_w (h : transitionDb env s tx vm = some (s1, .ok er)) : s1.w = s.w :=
  transitionDb_honest (P := fun x => x.w = s.w) h (fun _ hx => hx) rfl

theorem transitionDb_sound (h0 : s.cache = []) (h : transitionDb env s tx vm = some (s1, .ok er)) :
    WF s1 ∧ Mirror s1 :=
  transitionDb_honest (P := fun x => WF x ∧ Mirror x) h (fun hg hx => ⟨wf_upd hx.1, mirror_upd hg hx.2⟩)
    ⟨wf_of_empty h0, fun a _ => ⟨(objOrNew_of_empty h0 a).1, (objOrNew_of_empty h0 a).2.1⟩⟩

theorem noSui_transitionDb (h0 : s.cache = []) (hn : noSuicide vm.effs = true)
    (h : transitionDb env s tx vm = some (s1, .ok er)) : NoSui s1 :=
  transitionDb_inv h noSui_upd (fun hx he => noSui_applyEffs hx hn he) (noSui_of_empty h0)

theorem suiOk_transitionDb (h0 : s.cache = []) (hadd : ∀ a n, Eff.add a n ∈ vm.effs → 0 ≤ n)
    (hsnd : Eff.suicide tx.sender ∉ vm.effs)
    (h : transitionDb env s tx vm = some (s1, .ok er)) : SuiOk tx.sender s1 := by
  have hst := started_inv (P := NoSui) noSui_upd tx (noSui_of_empty h0)
  obtain ⟨s2, gf, rfl, -, h2⟩ := transitionDb_ind (P := SuiOk tx.sender) h hst (fun hg _ => noSui_upd hg)
    (fun _ => suiOk_of_noSui hst)
    (fun _ _ hx => by
      rw [Olvm.transfer, addBalance_eq, subBalance_eq]
      exact suiOk_of_noSui (noSui_upd (tame_addF _) (noSui_upd (tame_subF _) hx)))
    (fun he hx => suiOk_applyEffs hx hadd hsnd he)
    (fun {z _} hg hb hz => suiOk_upd hz fun hs => by
      -- a tame update of a suicided object: it was suicided before, and the balance is kept
      cases ho : (objOrNew z _).suicided
      · rw [hg.2 _ ho] at hs; cases hs
      · rw [hb]; exact hz _ ho)
  -- the refund goes to the sender, whose object is not suicided
  rw [addBalance_eq]
  exact suiOk_upd h2 (fun hs => absurd rfl (h2 tx.sender hs).2)

/-- `hr`: the induction does not know that a creation at the sender's own address stops at the collision
    test (the nonce there has just been raised); it would have to take the nonce through `CreateAccount` -/
theorem transitionDb_nonce (h0 : s.cache = []) (hr : tx.sender ≠ tx.to.getD env.newAddr)
    (heff : ∀ e ∈ vm.effs, e.addr ≠ tx.sender)
    (h : transitionDb env s tx vm = some (s1, .ok er)) :
    (objOrNew s1 tx.sender).nonce = keeperNonce s.w tx.sender + 1 := by
  have hst : (objOrNew (started s tx) tx.sender).nonce = keeperNonce s.w tx.sender + 1 := by
    simp only [started, bought, setNonce_eq, subBalance_eq, objOrNew_upd, if_true, ← objOrNew_nonce,
      nonceF, subF, (objOrNew_of_empty h0 _).2.1]
  -- preparing the recipient leaves the sender's object alone
  have hprep : ∀ {x g}, (objOrNew x tx.sender).nonce = keeperNonce s.w tx.sender + 1 →
      (objOrNew (upd x (tx.to.getD env.newAddr) g) tx.sender).nonce = keeperNonce s.w tx.sender + 1 :=
    fun hx => by rw [objOrNew_upd, if_neg hr, hx]
  obtain ⟨s2, gf, rfl, -, h2⟩ := transitionDb_ind (Q := fun x => (objOrNew x tx.sender).nonce = _)
    (P := fun x => (objOrNew x tx.sender).nonce = _) h hst (fun _ _ => hprep) (fun _ => hst)
    (fun _ _ hx => by
      simp only [Olvm.transfer, addBalance_eq, subBalance_eq, objOrNew_upd, if_neg hr, if_true, subF, hx])
    (fun he hx => by rw [applyEffs_frame heff he, hx]) (fun _ _ => hprep)
  rw [addBalance_eq, objOrNew_upd, if_pos rfl]
  exact h2

/-! ## sums of working balances through the pipeline -/

/-- `μ` adds up the working balances of the addresses `k` counts: an update changes it by what the
    updated object gains. The balance of one address is such a sum, and so is `pend`. -/
def Sums (k : Addr → Prop) [DecidablePred k] (μ : St → Int) : Prop :=
  ∀ x c g, μ (upd x c g) = μ x + if k c then (g (objOrNew x c)).bal - (objOrNew x c).bal else 0

theorem sums_bal (a : Addr) : Sums (fun c => a = c) (fun x => (objOrNew x a).bal) := by
  intro x c g
  simp only [objOrNew_upd]
  split
  · rename_i h; rw [h]; omega
  · omega

theorem sums_pend : Sums (fun _ => True) pend := fun x c g => by
  rw [pend_upd, if_pos trivial]

theorem sums_transitionDb {k : Addr → Prop} [DecidablePred k] {μ : St → Int} (hμ : Sums k μ)
    (heffs : ∀ y, applyEffs (vmInput env s tx) vm.effs = some y → μ y = μ (vmInput env s tx))
    (h : transitionDb env s tx vm = some (s1, .ok er)) (hne : er.usedGas ≠ 0) :
    μ s1 = μ s
      - (if k tx.sender then (er.usedGas : Int) * tx.price + (if er.failed then 0 else tx.value) else 0)
      + (if k (tx.to.getD env.newAddr) then (if er.failed then 0 else tx.value) else 0) := by
  have hsub : ∀ x c n, μ (subBalance x c n) = μ x - if k c then n else 0 := fun x c n => by
    rw [subBalance_eq, hμ]; simp only [subF]; split <;> omega
  have hadd : ∀ x c n, μ (addBalance x c n) = μ x + if k c then n else 0 := fun x c n => by
    rw [addBalance_eq, hμ]; simp only [addF]; split <;> omega
  have hst : μ (started s tx) = μ s - if k tx.sender then (gasU tx : Int) * tx.price else 0 := by
    rw [started, setNonce_eq, hμ, bought, hsub]; simp only [nonceF, Int.sub_self, ite_self, Int.add_zero]
  -- preparing the recipient moves nothing
  have hprep : ∀ {c x g} {v : Int}, (∀ o, (g o).bal = o.bal) → μ x = v → μ (upd x c g) = v := fun hg hx => by
    rw [hμ, hg, Int.sub_self, ite_self, Int.add_zero, hx]
  obtain ⟨s2, gf, rfl, hu, h2⟩ := transitionDb_ind (Q := fun x => μ x = _) h hst (fun _ => hprep)
    (P := fun x => μ x = μ s - (if k tx.sender then (gasU tx : Int) * tx.price else 0)
      - (if k tx.sender then (if er.failed then 0 else tx.value) else 0)
      + (if k (tx.to.getD env.newAddr) then (if er.failed then 0 else tx.value) else 0))
    (fun hm => by rw [hm, ite_self, ite_self, hst]; omega)
    (fun hf _ hx => by rw [Olvm.transfer, hadd, hsub, hx, hf]; rfl)
    (fun he hx => (heffs _ he).trans hx) (fun _ => hprep)
  have hu' : (er.usedGas : Int) * tx.price = (gasU tx : Int) * tx.price - (gf : Int) * tx.price := by
    rw [hu, Int.natCast_sub (by omega), Int.sub_mul]
  rw [hadd, h2, hu']
  by_cases hs : k tx.sender <;> simp only [hs, if_true, if_false] <;> omega

theorem transitionDb_account {a : Addr} (h0 : s.cache = []) (heff : ∀ e ∈ vm.effs, e.addr ≠ a)
    (h : transitionDb env s tx vm = some (s1, .ok er)) (hne : er.usedGas ≠ 0) :
    (objOrNew s1 a).suicided = false ∧
    (objOrNew s1 a).bal = (objOrNew s a).bal
      - (if a = tx.sender then (er.usedGas : Int) * tx.price + (if er.failed then 0 else tx.value) else 0)
      + (if a = tx.to.getD env.newAddr then (if er.failed then 0 else tx.value) else 0) :=
  ⟨transitionDb_inv (P := fun x => (objOrNew x a).suicided = false) h
    (fun hg hx => by
      rw [objOrNew_upd]
      split
      · rename_i hc; exact hg.2 _ (hc ▸ hx)
      · exact hx)
    (fun hx he => (applyEffs_frame heff he) ▸ hx) (noSui_of_empty h0 a),
   sums_transitionDb (sums_bal a) (fun y he => by rw [applyEffs_frame heff he]) h hne⟩

theorem pend_transitionDb (h0 : s.cache = []) (hz : vmNet (vmInput env s tx) vm.effs = 0)
    (h : transitionDb env s tx vm = some (s1, .ok er)) (hne : er.usedGas ≠ 0) :
    pend s1 = - ((er.usedGas : Int) * tx.price) := by
  rw [sums_transitionDb sums_pend (fun y he => by rw [pend_applyEffs he, hz, Int.add_zero]) h hne,
    pend, h0]
  simp only [if_true, asum]
  omega

/-! ## a whole transaction -/

/-- executed and charged, `s1` being what `TransitionDb` returns; the three bounds on `er.usedGas` are
    what `ContractFeeHandling` accepts -/
structure Executed (env : Env) (s : St) (tx : Tx) (vm : VmOut) (s1 : St) (er : ExecResult) : Prop where
  valid : validate env s.w tx = none
  run : transitionDb env s tx vm = some (s1, .ok er)
  used_ne : er.usedGas ≠ 0
  used_le : (er.usedGas : Int) ≤ tx.gas
  used_lt : er.usedGas < env.feeGasLeft
  burnt_eq : burnt env s tx vm = burntAt s1.cache

/-- refused: the cache is untouched (`Validate` refused, or the run panicked) or dropped; only the
    gas-overflow answer of the fee step reports gas -/
structure Refused (env : Env) (s s' : St) (tx : Tx) (vm : VmOut) (r : Resp) : Prop where
  state : s' = s ∨ s' = ⟨s.w, []⟩
  burnt_eq : burnt env s tx vm = 0
  no_gas : r.stage ≠ .gasOverflow → r.gasUsed = 0

theorem deliver_cases (h : deliverOlvm env s tx vm = (s', r)) :
    (r.code = 0 → ∃ s1 er, Executed env s tx vm s1 er ∧
      s' = ⟨{ (finalise s1).w with pool := (finalise s1).w.pool + tx.price * (er.usedGas : Int) }, []⟩ ∧
      r = ⟨0, er.usedGas, tx.gas, if er.failed then .reverted else .success⟩) ∧
    (r.code ≠ 0 → Refused env s s' tx vm r) := by
  unfold deliverOlvm at h
  -- `burnt` goes down the same ladder
  have hb := burnt.eq_def env s tx vm
  cases hv : validate env s.w tx with
  | some e => rw [hv] at h hb; cases h; exact ⟨nofun, fun _ => ⟨Or.inl rfl, hb, fun _ => rfl⟩⟩
  | none =>
  rw [hv] at h hb
  cases ht : transitionDb env s tx vm with
  | none => rw [ht] at h hb; cases h; exact ⟨nofun, fun _ => ⟨Or.inl rfl, hb, fun _ => rfl⟩⟩
  | some res =>
  obtain ⟨s1, rr⟩ := res
  rw [ht] at h hb
  cases rr with
  | error e => cases h; exact ⟨nofun, fun _ => ⟨Or.inr rfl, hb, fun _ => rfl⟩⟩
  | ok er =>
  simp only at h hb
  by_cases h1 : er.usedGas = 0
  · rw [if_pos h1] at h; cases h
    exact ⟨nofun, fun _ => ⟨Or.inr rfl, hb.trans (if_pos (Or.inl h1)), fun _ => rfl⟩⟩
  rw [if_neg h1] at h
  by_cases h2 : (er.usedGas : Int) > tx.gas
  · rw [if_pos h2] at h; cases h
    exact ⟨nofun, fun _ => ⟨Or.inr rfl, hb.trans (if_pos (Or.inr (Or.inl h2))), fun hs => absurd rfl hs⟩⟩
  rw [if_neg h2] at h
  by_cases h3 : env.feeGasLeft ≤ er.usedGas
  · rw [if_pos h3] at h; cases h
    exact ⟨nofun, fun _ => ⟨Or.inr rfl, hb.trans (if_pos (Or.inr (Or.inr h3))), fun _ => rfl⟩⟩
  rw [if_neg h3] at h; cases h
  exact ⟨fun _ => ⟨s1, er, ⟨hv, ht, h1, by omega, by omega, hb.trans (if_neg (by omega))⟩, rfl, rfl⟩,
    fun hc => absurd rfl hc⟩

theorem validate_none_value {w : World} (h : validate env w tx = none) : 0 ≤ tx.value := by
  unfold validate at h
  -- the twelfth guard is the one on the amount
  iterate 11 obtain ⟨-, h⟩ := of_guard h
  obtain ⟨hv, -⟩ := of_guard h
  simp only [Bool.or_eq_true, decide_eq_true_eq, not_or] at hv
  omega

end OLP.Olvm
