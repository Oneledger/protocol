/-
  Lemmas for the delegation-pool model (the property theorems are in OLP/Props/C12.lean).

  The BeginBlock loops are reasoned about on the records they touch (`payQ`, `accQ`; `beginBlock_eq`
  writes BeginBlock as three such loops), a history step through its eliminator `step_cases` (one
  case per successful operation, with the handler's guards and the new state written out), and
  both maturity queues through the one invariant `QInv`.
-/
import OLP.Deleg.Model
import OLP.Base.Guard
import OLP.Base.Sort

namespace OLP.Deleg

section basic
variable {K : Type} [DecidableEq K]

@[simp] theorem getD_upsert (l : List (K × Int)) (k k' : K) (v : Int) :
    getD (upsert l k v) k' = if k' = k then v else getD l k' :=
  getD_alookup_upsert l k k' v 0

@[simp] theorem getD_nil (k : K) : getD ([] : List (K × Int)) k = 0 := rfl

theorem getD_cons (k k' : K) (v : Int) (t : List (K × Int)) :
    getD ((k', v) :: t) k = if k = k' then v else getD t k := by
  rw [getD, alookup_cons]
  exact apply_ite (Option.getD · 0) ..

theorem getD_credit (l : List (K × Int)) (k k' : K) (v : Int) :
    getD (upsert l k (getD l k + v)) k' = getD l k' + if k' = k then v else 0 :=
  getD_alookup_credit l k k' v

theorem getD_debit (l : List (K × Int)) (k k' : K) (v : Int) :
    getD (upsert l k (getD l k - v)) k' = getD l k' - if k' = k then v else 0 :=
  getD_alookup_debit l k k' v

theorem getD_of_not_mem (l : List (K × Int)) (k : K) (h : k ∉ akeys l) : getD l k = 0 := by
  unfold getD; rw [alookup_of_not_mem l k h]; rfl

theorem mem_akeys_of_mem {K : Type} [DecidableEq K] (l : List (K × Int)) (k : K) (x : Int) (h : (k, x) ∈ l) :
    k ∈ akeys l := List.mem_map.mpr ⟨(k, x), h, rfl⟩

theorem getD_nonneg {l : List (K × Int)} (k : K) (h : ∀ e ∈ l, 0 ≤ e.2) : 0 ≤ getD l k :=
  alookup_getD_nonneg h

theorem pendAdd_eq (l : List (K × Int)) (k : K) (amt : Int) :
    pendAdd l k amt = upsert l k (getD l k + amt) := by
  unfold pendAdd getD
  cases alookup k l <;> simp

omit [DecidableEq K] in
theorem sumV_eq_asum (l : List (K × Int)) : sumV l = asum (fun _ v => v) l := by
  induction l with
  | nil => rfl
  | cons hd t ih => exact congrArg (hd.2 + ·) ih

theorem sumV_upsert (l : List (K × Int)) (k : K) (v : Int) :
    sumV (upsert l k v) = sumV l - getD l k + v := by
  rw [sumV_eq_asum, sumV_eq_asum, asum_upsert, getD]
  cases alookup k l <;> rfl

theorem getD_le_sumV {l : List (K × Int)} (k : K) (h : ∀ e ∈ l, 0 ≤ e.2) : getD l k ≤ sumV l := by
  induction l with
  | nil => exact Int.le_refl 0
  | cons hd t ih =>
    obtain ⟨k', v'⟩ := hd
    rw [List.forall_mem_cons] at h
    rw [getD_cons, sumV]
    split
    · exact Int.le_add_of_nonneg_right (Int.le_trans (getD_nonneg k h.2) (ih h.2))
    · exact Int.le_trans (ih h.2) (Int.le_add_of_nonneg_left h.1)

theorem sumKey_cons (k k' : K) (v : Int) (t : List (K × Int)) :
    sumKey k ((k', v) :: t) = (if k = k' then v else 0) + sumKey k t := by
  by_cases h : k = k' <;> simp [sumKey, h, eq_comm (a := k')]

theorem sumKey_append (k : K) (l₁ l₂ : List (K × Int)) :
    sumKey k (l₁ ++ l₂) = sumKey k l₁ + sumKey k l₂ := by
  induction l₁ with
  | nil => simp [sumKey]
  | cons hd t ih => rw [List.cons_append, sumKey_cons, sumKey_cons, ih, Int.add_assoc]

theorem sumKey_of_not_mem {k : K} {l : List (K × Int)} (h : k ∉ akeys l) : sumKey k l = 0 := by
  induction l with
  | nil => rfl
  | cons hd t ih =>
    rw [mem_akeys_cons, not_or] at h
    rw [sumKey_cons, ih h.2, if_neg h.1]
    rfl

theorem sumKey_nonneg (k : K) {l : List (K × Int)} (h : ∀ e ∈ l, 0 ≤ e.2) : 0 ≤ sumKey k l := by
  induction l with
  | nil => exact Int.le_refl 0
  | cons hd t ih =>
    obtain ⟨k', v'⟩ := hd
    rw [List.forall_mem_cons] at h
    rw [sumKey_cons]
    refine Int.add_nonneg ?_ (ih h.2)
    split
    · exact h.1
    · exact Int.le_refl 0

end basic

/-! ## insertion sort permutes -/

section sort
variable {K : Type}

theorem perm_insertBy (lt : K → K → Bool) (x : K) (l : List K) : (insertBy lt x l).Perm (x :: l) :=
  ins_perm (insertBy lt) (fun _ => rfl) (fun _ _ _ => rfl) x l

theorem perm_sortBy (lt : K → K → Bool) (l : List K) : (sortBy lt l).Perm l := by
  induction l with
  | nil => exact .refl _
  | cons x t ih => exact (perm_insertBy lt x _).trans (ih.cons x)

theorem nodup_sortBy_filter (lt : K → K → Bool) (f : K → Bool) {l : List K} (hn : l.Nodup) :
    (sortBy lt (l.filter f)).Nodup :=
  (perm_sortBy _ _).nodup_iff.mpr (hn.filter f)

end sort

/-! ## the un-separated decimal prefix (S17) -/

theorem decPrefixAux_self (fuel h : Nat) : decPrefixAux fuel h h = true := by
  cases fuel <;> simp [decPrefixAux]

theorem decPrefixAux_true {fuel h h' : Nat} (hf : decPrefixAux fuel h h' = true) :
    h' = h ∨ 10 * h ≤ h' := by
  induction fuel generalizing h' with
  | zero => exact .inl (by simpa [decPrefixAux] using hf)
  | succ n ih =>
    unfold decPrefixAux at hf
    split at hf
    · exact .inl (by simpa using ‹(h' == h) = true›)
    · split at hf
      · cases hf
      · right
        rcases ih hf with e | e
        · rw [← e, Nat.mul_comm]
          exact Nat.div_mul_le_self h' 10
        · exact Nat.le_trans e (Nat.div_le_self h' 10)

theorem decPrefix_self (h : Nat) : decPrefix h h = true := decPrefixAux_self h h

theorem decPrefix_ten (h : Nat) (hh : 1 ≤ h) : decPrefix h (10 * h) = true := by
  have h2 : ¬ 10 * h < 10 := Nat.not_lt.mpr (Nat.mul_le_mul_left 10 hh)
  -- the fuel `10 * h` is a successor: one step of the loop, to `10 * h / 10 = h`
  obtain ⟨n, e⟩ : ∃ n, 10 * h = n + 1 := Nat.exists_eq_succ_of_ne_zero fun z => h2 (z ▸ by decide)
  rw [decPrefix, e, decPrefixAux, ← e, if_neg h2, Nat.mul_div_cancel_left h (by decide), decPrefixAux_self]
  split <;> rfl

theorem decPrefix_false {h h' : Nat} (h1 : h' ≠ h) (h2 : h' < 10 * h) : decPrefix h h' = false := by
  cases hd : decPrefix h h' with
  | false => rfl
  | true => exact (decPrefixAux_true hd).elim (absurd · h1) (fun e => absurd h2 (Nat.not_lt.mpr e))

/-! ## the handlers, spelled out -/

variable {A : Type} [DecidableEq A]

/-- `MinusFromAddress(a)`, then `AddToAddress(pool)` on the result -/
def moveToPool (c : Cfg A) (b : List (A × Int)) (a : A) (amt : Int) : List (A × Int) :=
  upsert (upsert b a (getD b a - amt)) c.pool (getD (upsert b a (getD b a - amt)) c.pool + amt)

theorem delegate_ok {c : Cfg A} {s s' : St A} {a : A} {amt : Int} :
    delegate c s a amt = .ok s' ↔ 0 ≤ amt ∧ amt ≤ s.balOf a ∧
    s' = { s with
      bal := moveToPool c s.bal a amt,
      active := upsert s.active a (getD s.active a + amt) } := by
  simp only [delegate, ite_error_eq_ok, Except.ok.injEq, Int.not_lt, Int.sub_nonneg, eq_comm (b := s')]
  rfl

theorem undelegate_ok {c : Cfg A} {s s' : St A} {h : Nat} {a : A} {amt : Int} :
    undelegate c s h a amt = .ok s' ↔
    (c.checkSign = true → 0 ≤ amt) ∧ amt ≤ getD s.active a ∧ amt ≤ s.balOf c.pool ∧
    s' = { s with
      bal := upsert s.bal c.pool (s.balOf c.pool - amt),
      active := upsert s.active a (getD s.active a - amt),
      pending := upsert s.pending (h + c.maturity, a) (getD s.pending (h + c.maturity, a) + amt) } := by
  simp only [undelegate, ite_error_eq_ok, pendAdd_eq, Except.ok.injEq, Bool.and_eq_true,
    decide_eq_true_eq, not_and, Int.not_lt, Int.sub_nonneg, eq_comm (b := s')]
  rfl

theorem withdraw_ok {c : Cfg A} {s s' : St A} {h : Nat} {a : A} {amt : Int} :
    withdraw c s h a amt = .ok s' ↔
    (c.checkSign = true → 0 ≤ amt) ∧ amt ≤ getD s.rw a ∧
    s' = { s with
      rw := upsert s.rw a (getD s.rw a - amt),
      rwPending := upsert s.rwPending (h + c.maturity, a) (getD s.rwPending (h + c.maturity, a) + amt) } := by
  simp only [withdraw, ite_error_eq_ok, Except.ok.injEq, Bool.and_eq_true,
    decide_eq_true_eq, not_and, Int.not_lt, Int.sub_nonneg, eq_comm (b := s')]

theorem reinvest_ok {c : Cfg A} {s s' : St A} {a : A} {amt : Int} :
    reinvest c s a amt = .ok s' ↔
    (c.checkSign = true → 0 ≤ amt) ∧ amt ≤ getD s.rw a ∧
    s' = { s with
      rw := upsert s.rw a (getD s.rw a - amt),
      bal := upsert s.bal c.pool (s.balOf c.pool + amt),
      active := upsert s.active a (getD s.active a + amt) } := by
  simp only [reinvest, ite_error_eq_ok, Except.ok.injEq, Bool.and_eq_true,
    decide_eq_true_eq, not_and, Int.not_lt, Int.sub_nonneg, eq_comm (b := s')]
  rfl

theorem donate_ok {c : Cfg A} {s s' : St A} {a : A} {amt : Int} {ck : Bool} :
    donate c s a amt ck = .ok s' ↔
    (ck = true → 0 ≤ amt) ∧ amt ≤ s.balOf a ∧
    s' = { s with
      bal := moveToPool c s.bal a amt } := by
  simp only [donate, ite_error_eq_ok, Except.ok.injEq, Bool.and_eq_true,
    decide_eq_true_eq, not_and, Int.not_lt, Int.sub_nonneg, eq_comm (b := s')]
  rfl

/-! ## the BeginBlock loops, on the records they touch -/

/-- The maturity loop (`payAll` and `payRwAll` alike) on balances `b` and one pending queue `q`:
    the new balances, the new queue, the payment log. -/
def payQ (h : Nat) : List (Nat × A) → List (A × Int) → List ((Nat × A) × Int) →
    List (A × Int) × List ((Nat × A) × Int) × List (A × Int)
  | [], b, q => (b, q, [])
  | k :: ks, b, q =>
    let r := payQ h ks (upsert b k.2 (getD b k.2 + getD q k)) (upsert q (h, k.2) 0)
    (r.1, r.2.1, (k.2, getD q k) :: r.2.2)

theorem payAll_eq (h : Nat) (ks : List (Nat × A)) (s : St A) :
    payAll h ks s = ({ s with bal := (payQ h ks s.bal s.pending).1,
                              pending := (payQ h ks s.bal s.pending).2.1 },
                     (payQ h ks s.bal s.pending).2.2) := by
  induction ks generalizing s with
  | nil => rfl
  | cons k ks ih => simp only [payAll, ih]; rfl

theorem payRwAll_eq (h : Nat) (ks : List (Nat × A)) (s : St A) :
    payRwAll h ks s = ({ s with bal := (payQ h ks s.bal s.rwPending).1,
                                rwPending := (payQ h ks s.bal s.rwPending).2.1 },
                       (payQ h ks s.bal s.rwPending).2.2) := by
  induction ks generalizing s with
  | nil => rfl
  | cons k ks ih => simp only [payRwAll, ih]; rfl

/-! The facts about a loop speak of a variable `m` with `payQ h ks b q = m`: a user has the equation
    (`step_cases`) and never writes the loop out. -/

section
variable {h : Nat} {ks : List (Nat × A)} {b : List (A × Int)} {q : List ((Nat × A) × Int)}
  {m : List (A × Int) × List ((Nat × A) × Int) × List (A × Int)} (hm : payQ h ks b q = m)
include hm

theorem payQ_bal (a : A) : getD m.1 a = getD b a + sumKey a m.2.2 := by
  subst hm
  induction ks generalizing b q with
  | nil => exact (Int.add_zero _).symm
  | cons k ks ih =>
    simp only [payQ]
    rw [ih, getD_credit, sumKey_cons, Int.add_assoc]

theorem payQ_spec (hk : ∀ k ∈ ks, k.1 = h) (knd : ks.Nodup) :
    m.2.2 = ks.map (fun k => (k.2, getD q k)) ∧
    (∀ k', alookup k' m.2.1 = if k' ∈ ks then some 0 else alookup k' q) ∧
    ((akeys q).Nodup → (akeys m.2.1).Nodup) := by
  subst hm
  induction ks generalizing b q with
  | nil => simp [payQ]
  | cons k ks ih =>
    -- `k.1 = h`: the entry that is zeroed, `(h, k.2)`, is `k` itself
    obtain ⟨rfl, hk⟩ := List.forall_mem_cons.mp hk
    obtain ⟨hnk, knd⟩ := List.nodup_cons.mp knd
    obtain ⟨i1, i2, i3⟩ := ih (b := upsert b k.2 (getD b k.2 + getD q k)) (q := upsert q k 0) hk knd
    refine ⟨?_, fun k' => ?_, fun hn => i3 (nodup_akeys_upsert _ _ _ hn)⟩
    · exact congrArg _ (i1.trans (List.map_congr_left fun k' hk' => by
        rw [getD_upsert, if_neg (fun e : k' = k => hnk (e ▸ hk'))]))
    · refine (i2 k').trans ?_
      rw [alookup_upsert]
      by_cases e : k' = k <;> simp [e]

theorem payQ_avoid (p : A)
    (hks : ∀ k ∈ ks, k.2 ≠ p) (hq : ∀ k ∈ akeys q, k.2 ≠ p) :
    getD m.1 p = getD b p ∧ ∀ k ∈ akeys m.2.1, k.2 ≠ p := by
  subst hm
  induction ks generalizing b q with
  | nil => exact ⟨rfl, hq⟩
  | cons k ks ih =>
    rw [List.forall_mem_cons] at hks
    have := ih (b := upsert b k.2 (getD b k.2 + getD q k)) (q := upsert q (h, k.2) 0) hks.2
      (forall_mem_akeys_upsert 0 hq hks.1)
    rwa [getD_upsert, if_neg (Ne.symm hks.1)] at this

end

/-- The accrual loop (`accrueAll`) on the reward balances and their total. -/
def accQ (T P : Int) : List (A × Int) → List (A × Int) → Int → List (A × Int) × Int × List (A × Int)
  | [], rw, tot => (rw, tot, [])
  | e :: es, rw, tot =>
    let r := accQ T P es (upsert rw e.1 (getD rw e.1 + T * e.2 / P)) (tot + T * e.2 / P)
    (r.1, r.2.1, (e.1, T * e.2 / P) :: r.2.2)

theorem accrueAll_eq (T P : Int) (es : List (A × Int)) (s : St A) :
    accrueAll T P es s = ({ s with rw := (accQ T P es s.rw s.rwTotal).1,
                                   rwTotal := (accQ T P es s.rw s.rwTotal).2.1 },
                          (accQ T P es s.rw s.rwTotal).2.2) := by
  induction es generalizing s with
  | nil => rfl
  | cons e es ih => simp only [accrueAll, ih]; rfl

section
variable {T P : Int} {es rw : List (A × Int)} {tot : Int} {acc : List (A × Int) × Int × List (A × Int)}
  (hacc : accQ T P es rw tot = acc)
include hacc

theorem accQ_rw (a : A) : getD acc.1 a = getD rw a + sumKey a acc.2.2 := by
  subst hacc
  induction es generalizing rw tot with
  | nil => exact (Int.add_zero _).symm
  | cons e es ih =>
    simp only [accQ]
    rw [ih, getD_credit, sumKey_cons, Int.add_assoc]

theorem accQ_log_nonneg (hT : 0 ≤ T) (hes : ∀ e ∈ es, 0 ≤ e.2 ∧ 0 ≤ P) : ∀ e ∈ acc.2.2, 0 ≤ e.2 := by
  subst hacc
  induction es generalizing rw tot with
  | nil => simp [accQ]
  | cons e es ih =>
    rw [List.forall_mem_cons] at hes
    exact List.forall_mem_cons.mpr
      ⟨Int.ediv_nonneg (Int.mul_nonneg hT hes.1.1) hes.1.2, ih hes.2⟩

end

omit [DecidableEq A] in
theorem mem_visitPending {c : Cfg A} {h : Nat} {p : List ((Nat × A) × Int)} {k : Nat × A} :
    k ∈ visitPending c h p ↔
      k ∈ akeys p ∧ (if c.sepPrefix then (k.1 == h) else decPrefix h k.1) = true := by
  unfold visitPending
  rw [(perm_sortBy _ _).mem_iff, List.mem_filter]

omit [DecidableEq A] in
theorem mem_visitRwPending {c : Cfg A} {h : Nat} {p : List ((Nat × A) × Int)} {k : Nat × A} :
    k ∈ visitRwPending c h p ↔ k ∈ akeys p ∧ k.1 = h := by
  unfold visitRwPending
  rw [(perm_sortBy _ _).mem_iff, List.mem_filter, beq_iff_eq]

/-- BeginBlock is three loops over disjoint records: matured undelegations (balances, `pending`),
    accrual (`rw`, `rwTotal`; it reads the pool balance the first loop left) and matured reward
    withdrawals (balances, `rwPending`). -/
theorem beginBlock_eq (c : Cfg A) (s : St A) (h : Nat) (T : Int) :
    beginBlock c s h T =
      let m := payQ h (visitPending c h s.pending) s.bal s.pending
      -- a skipped accrual is the accrual over no delegator
      let a := accQ T (getD m.1 c.pool) (if 0 < getD m.1 c.pool then s.active else []) s.rw s.rwTotal
      let r := payQ h (visitRwPending c h s.rwPending) m.1 s.rwPending
      { st := { bal := r.1, active := s.active, pending := m.2.1, rw := a.1, rwTotal := a.2.1,
                rwPending := r.2.1 },
        paid := m.2.2, accrued := a.2.2, rwPaid := r.2.2 } := by
  simp only [beginBlock, matureUndeleg, matureRewards, payAll_eq, St.balOf]
  split <;> simp only [accrueAll_eq, payRwAll_eq, accQ]

/-! ## histories -/

theorem run_nil (c : Cfg A) (H : Hist A) : run c H [] = H := rfl

theorem run_append (c : Cfg A) (H : Hist A) (l₁ l₂ : List (Op A)) :
    run c H (l₁ ++ l₂) = run c (run c H l₁) l₂ := List.foldl_append

theorem run_snoc (c : Cfg A) (H : Hist A) (l : List (Op A)) (op : Op A) :
    run c H (l ++ [op]) = step c (run c H l) op := by
  rw [run_append]; rfl

theorem run_induct (c : Cfg A) (P : Hist A → Prop) (Ok : Op A → Prop)
    (hstep : ∀ H op, Ok op → P H → P (step c H op)) (H : Hist A) (h0 : P H) (ops : List (Op A))
    (hok : ∀ op ∈ ops, Ok op) : P (run c H ops) :=
  List.foldlRecOn ops (step c) h0 fun H hH op hop => hstep H op (hok op hop) hH

theorem run_preserves (c : Cfg A) (P : Hist A → Prop) (hstep : ∀ H op, P H → P (step c H op))
    (H : Hist A) (h0 : P H) (ops : List (Op A)) : P (run c H ops) :=
  List.foldlRecOn ops (step c) h0 fun H hH op _ => hstep H op hH

/-- BeginBlock is its three loops (`beginBlock_eq`), their results the variables `m`, `acc`, `r`:
    stated of `(beginBlock c H.st _ T).st` a case would make the unifier unfold the loops to compare
    projections. -/
theorem step_cases {c : Cfg A} {H : Hist A} {P : Op A → Hist A → Prop}
    (fail : ∀ t, P (.tx t) H)
    (delegate : ∀ a amt, 0 ≤ amt → amt ≤ H.st.balOf a →
      P (.tx (.delegate a amt)) { H with st := { H.st with
        bal := moveToPool c H.st.bal a amt,
        active := upsert H.st.active a (getD H.st.active a + amt) } })
    (undelegate : ∀ a amt, (c.checkSign = true → 0 ≤ amt) → amt ≤ getD H.st.active a →
      amt ≤ H.st.balOf c.pool →
      P (.tx (.undelegate a amt)) { H with
        st := { H.st with
          bal := upsert H.st.bal c.pool (H.st.balOf c.pool - amt),
          active := upsert H.st.active a (getD H.st.active a - amt),
          pending := upsert H.st.pending (H.height + c.maturity, a)
                       (getD H.st.pending (H.height + c.maturity, a) + amt) },
        ulog := ((H.height, a), amt) :: H.ulog })
    (withdraw : ∀ a amt, (c.checkSign = true → 0 ≤ amt) → amt ≤ getD H.st.rw a →
      P (.tx (.withdraw a amt)) { H with
        st := { H.st with
          rw := upsert H.st.rw a (getD H.st.rw a - amt),
          rwPending := upsert H.st.rwPending (H.height + c.maturity, a)
                         (getD H.st.rwPending (H.height + c.maturity, a) + amt) },
        wlog := ((H.height, a), amt) :: H.wlog })
    (reinvest : ∀ a amt, (c.checkSign = true → 0 ≤ amt) → amt ≤ getD H.st.rw a →
      P (.tx (.reinvest a amt)) { H with
        st := { H.st with
          rw := upsert H.st.rw a (getD H.st.rw a - amt),
          bal := upsert H.st.bal c.pool (H.st.balOf c.pool + amt),
          active := upsert H.st.active a (getD H.st.active a + amt) },
        rlog := (a, amt) :: H.rlog })
    (donate : ∀ a amt ck, (ck = true → 0 ≤ amt) → amt ≤ H.st.balOf a →
      P (.tx (.donate a amt ck)) { H with
        st := { H.st with
          bal := moveToPool c H.st.bal a amt },
        donated := H.donated + amt })
    (env : ∀ a d, P (.env a d) { H with st := H.st.setBal a (H.st.balOf a + d) })
    (beginBlock : ∀ T m acc r,
      payQ (H.height + 1) (visitPending c (H.height + 1) H.st.pending) H.st.bal H.st.pending = m →
      accQ T (getD m.1 c.pool) (if 0 < getD m.1 c.pool then H.st.active else []) H.st.rw H.st.rwTotal = acc →
      payQ (H.height + 1) (visitRwPending c (H.height + 1) H.st.rwPending) m.1 H.st.rwPending = r →
      P (.beginBlock T) { H with
        st := { bal := r.1, active := H.st.active, pending := m.2.1, rw := acc.1, rwTotal := acc.2.1,
                rwPending := r.2.1 },
        height := H.height + 1, paid := tagH (H.height + 1) m.2.2 ++ H.paid,
        rwPaid := tagH (H.height + 1) r.2.2 ++ H.rwPaid, alog := acc.2.2 ++ H.alog })
    (op : Op A) : P op (step c H op) := by
  cases op with
  | env a d => exact env a d
  | beginBlock T =>
    simp only [step, beginBlock_eq]
    exact beginBlock T _ _ _ rfl rfl rfl
  | tx t =>
    simp only [step]
    cases hh : handler c H.st H.height t with
    | error e => exact fail t
    | ok s' =>
      cases t with
      | delegate a amt =>
        obtain ⟨h1, h2, rfl⟩ := delegate_ok.mp hh
        exact delegate a amt h1 h2
      | undelegate a amt =>
        obtain ⟨h1, h2, h3, rfl⟩ := undelegate_ok.mp hh
        exact undelegate a amt h1 h2 h3
      | withdraw a amt =>
        obtain ⟨h1, h2, rfl⟩ := withdraw_ok.mp hh
        exact withdraw a amt h1 h2
      | reinvest a amt =>
        obtain ⟨h1, h2, rfl⟩ := reinvest_ok.mp hh
        exact reinvest a amt h1 h2
      | donate a amt ck =>
        obtain ⟨h1, h2, rfl⟩ := donate_ok.mp hh
        exact donate a amt ck h1 h2

/-! ## a maturity queue: entries added at `height + M`, matured exactly at their height -/

section queue

/-- `Q` = the pending store, `L` = ghost log of the additions ((block, addr) ↦ amount),
    `Pd` = ghost log of the payments ((height, addr) ↦ amount) -/
structure QInv (M height : Nat) (Q L Pd : List ((Nat × A) × Int)) : Prop where
  nodup : (akeys Q).Nodup
  -- for `visitPending_exact`: a live entry lies at most `M` above `height`
  logle : ∀ k ∈ akeys L, k.1 ≤ height
  -- an entry yet to mature holds what its block `h' - M` logged
  future : ∀ h' a, height < h' → alookup (h', a) Q =
      if M ≤ h' ∧ (h' - M, a) ∈ akeys L then some (sumKey (h' - M, a) L) else none
  -- `payQ` zeroes a matured entry, it does not delete it
  past : ∀ h' a, h' ≤ height → alookup (h', a) Q = none ∨ alookup (h', a) Q = some 0
  pdNodup : (akeys Pd).Nodup
  pd : ∀ h a x, ((h, a), x) ∈ Pd ↔
      (M ≤ h ∧ h ≤ height ∧ (h - M, a) ∈ akeys L ∧ x = sumKey (h - M, a) L)

theorem QInv.init (M : Nat) : QInv (A := A) M 0 [] [] [] := by
  refine ⟨.nil, nofun, ?_, fun _ _ _ => .inl rfl, .nil, ?_⟩
  · intro h' a _; simp [akeys]
  · intro h a x; simp [akeys]

variable {M height : Nat} {Q L Pd : List ((Nat × A) × Int)}

theorem QInv.mem_future (inv : QInv M height Q L Pd) {h' : Nat} (a : A) (hlt : height < h') :
    (h', a) ∈ akeys Q ↔ M ≤ h' ∧ (h' - M, a) ∈ akeys L := by
  rw [mem_akeys_iff_alookup, inv.future h' a hlt]
  split <;> simp [*]

theorem QInv.getD_future (inv : QInv M height Q L Pd) {h' : Nat} (a : A) (hlt : height < h') (hM : M ≤ h') :
    getD Q (h', a) = sumKey (h' - M, a) L := by
  unfold getD
  rw [inv.future h' a hlt]
  by_cases m : (h' - M, a) ∈ akeys L
  · rw [if_pos ⟨hM, m⟩]; rfl
  · rw [if_neg (fun h => m h.2), sumKey_of_not_mem m]; rfl

theorem QInv.add (hM : 1 ≤ M) (inv : QInv M height Q L Pd) (a : A) (amt : Int) :
    QInv M height (upsert Q (height + M, a) (getD Q (height + M, a) + amt)) (((height, a), amt) :: L) Pd := by
  refine ⟨nodup_akeys_upsert _ _ _ inv.nodup, List.forall_mem_cons.mpr ⟨Nat.le_refl _, inv.logle⟩,
    ?_, ?_, inv.pdNodup, ?_⟩
  · intro h' a' hlt
    rw [alookup_upsert, inv.future h' a' hlt]
    simp only [mem_akeys_cons, sumKey_cons]
    by_cases hk : (h', a') = (height + M, a)
    · obtain ⟨rfl, rfl⟩ := Prod.mk.inj hk
      simp [inv.getD_future a' hlt (Nat.le_add_left ..), Int.add_comm]
    · rw [if_neg hk]
      by_cases hm : M ≤ h'
      · have hne : (h' - M, a') ≠ (height, a) := by
          intro e
          obtain ⟨e1, e2⟩ := Prod.mk.inj e
          exact hk (by rw [← e1, e2, Nat.sub_add_cancel hm])
        simp [hne]
      · simp [hm]
  · intro h' a' hle
    rw [alookup_upsert_ne _ _ _ _ (fun e => by have := (Prod.mk.inj e).1; omega)]
    exact inv.past h' a' hle
  · intro h a' x
    rw [inv.pd h a' x]
    refine and_congr_right fun h1 => and_congr_right fun h2 => ?_
    have hne : (h - M, a') ≠ (height, a) := fun e => by have := (Prod.mk.inj e).1; omega
    rw [mem_akeys_cons, sumKey_cons, if_neg hne, Int.zero_add, or_iff_right hne]

/-- the queue's side of `QInv.payQ`, for any store `Q'` that zeroes exactly the keys `ks` of the next height -/
theorem QInv.mature {M height : Nat} {Q L Pd : List ((Nat × A) × Int)}
    (inv : QInv M height Q L Pd) (ks : List (Nat × A))
    (hks : ∀ k, k ∈ ks ↔ k ∈ akeys Q ∧ k.1 = height + 1) (knd : ks.Nodup)
    (Q' : List ((Nat × A) × Int))
    (hQ' : ∀ k', alookup k' Q' = if k' ∈ ks then some 0 else alookup k' Q) (hnd : (akeys Q').Nodup) :
    QInv M (height + 1) Q' L (ks.map (fun k => (k, getD Q k)) ++ Pd) := by
  have lt := Nat.lt_succ_self height
  refine ⟨hnd, fun k hk => Nat.le_succ_of_le (inv.logle k hk), ?_, ?_, ?_, ?_⟩
  · intro h' a hlt
    have hn : (h', a) ∉ ks := fun m => Nat.lt_irrefl _ (((hks _).mp m).2 ▸ hlt)
    rw [hQ', if_neg hn]
    exact inv.future h' a (Nat.lt_of_succ_lt hlt)
  · intro h' a hle
    rw [hQ']
    split
    · exact .inr rfl
    · rename_i m
      rcases Nat.le_or_eq_of_le_succ hle with hh | rfl
      · exact inv.past h' a hh
      · exact .inl (alookup_of_not_mem _ _ fun mk => m ((hks _).mpr ⟨mk, rfl⟩))
  · have hk : akeys (ks.map (fun k => (k, getD Q k)) ++ Pd) = ks ++ akeys Pd := by
      simp [akeys, List.map_append, List.map_map, Function.comp_def]
    rw [hk, List.nodup_append]
    refine ⟨knd, inv.pdNodup, ?_⟩
    -- a key of `ks` has height `height + 1`, a paid one at most `height`
    rintro k hk _ hp rfl
    obtain ⟨e, he, rfl⟩ := List.mem_map.mp hp
    exact Nat.not_succ_le_self _ (((hks _).mp hk).2 ▸ ((inv.pd _ _ e.2).mp he).2.1)
  · intro h a x
    rw [List.mem_append, inv.pd, List.mem_map]
    constructor
    · rintro (⟨k, hk, e⟩ | ⟨h1, h2, h3, h4⟩)
      · obtain ⟨rfl, rfl⟩ := Prod.mk.inj e
        obtain ⟨mq, rfl⟩ := (hks _).mp hk
        obtain ⟨h1, h3⟩ := (inv.mem_future a lt).mp mq
        exact ⟨h1, Nat.le_refl _, h3, inv.getD_future a lt h1⟩
      · exact ⟨h1, Nat.le_succ_of_le h2, h3, h4⟩
    · rintro ⟨h1, h2, h3, rfl⟩
      rcases Nat.le_or_eq_of_le_succ h2 with hh | rfl
      · exact .inr ⟨h1, hh, h3, rfl⟩
      · exact .inl ⟨_, (hks _).mpr ⟨(inv.mem_future a lt).mpr ⟨h1, h3⟩, rfl⟩,
          congrArg _ (inv.getD_future a lt h1)⟩

omit [DecidableEq A] in
theorem tagH_map {h : Nat} {ks : List (Nat × A)} (f : Nat × A → Int) (hk : ∀ k ∈ ks, k.1 = h) :
    tagH h (ks.map (fun k => (k.2, f k))) = ks.map (fun k => (k, f k)) := by
  unfold tagH
  rw [List.map_map]
  exact List.map_congr_left fun k m => by rw [← hk k m]; rfl

theorem QInv.payQ (inv : QInv M height Q L Pd) {ks : List (Nat × A)} {b : List (A × Int)}
    {m : List (A × Int) × List ((Nat × A) × Int) × List (A × Int)} (hm : payQ (height + 1) ks b Q = m)
    (hks : ∀ k, k ∈ ks ↔ k ∈ akeys Q ∧ k.1 = height + 1) (knd : ks.Nodup) :
    QInv M (height + 1) m.2.1 L (tagH (height + 1) m.2.2 ++ Pd) := by
  have hk1 : ∀ k ∈ ks, k.1 = height + 1 := fun k m => ((hks k).mp m).2
  obtain ⟨s1, s2, s3⟩ := payQ_spec hm hk1 knd
  rw [s1, tagH_map _ hk1]
  exact inv.mature ks hks knd _ s2 (s3 inv.nodup)

theorem visitPending_exact {c : Cfg A} (hex : c.sepPrefix = true ∨ c.maturity ≤ 9)
    (inv : QInv c.maturity height Q L Pd) (k : Nat × A) :
    k ∈ visitPending c (height + 1) Q ↔ k ∈ akeys Q ∧ k.1 = height + 1 := by
  rw [mem_visitPending]
  refine and_congr_right fun m => ?_
  rcases hex with hs | hM9
  · simp [hs]
  cases c.sepPrefix
  case true => simp
  simp only [Bool.false_eq_true, if_false]
  constructor
  · intro d
    refine Decidable.byContradiction fun h2 => ?_
    -- a match at another height is at least ten times the height: a live key, entered at most
    -- `maturity ≤ 9` blocks above the current height
    have far : ¬ k.1 < 10 * (height + 1) := fun lt => by rw [decPrefix_false h2 lt] at d; cases d
    have ⟨_, h4⟩ := (inv.mem_future k.2 (by omega)).mp m
    have hl : k.1 - c.maturity ≤ height := inv.logle _ h4
    omega
  · intro e
    rw [e]; exact decPrefix_self _

theorem QInv.never_early_or_twice (inv : QInv M height Q L Pd) :
    (akeys Pd).Nodup ∧
    (∀ hb a, height < hb + M →
      (∀ x, ((hb + M, a), x) ∉ Pd) ∧ getD Q (hb + M, a) = sumKey (hb, a) L) ∧
    (∀ h' a, h' ≤ height → getD Q (h', a) = 0) := by
  refine ⟨inv.pdNodup, fun hb a hlt => ⟨fun x hx => ?_, ?_⟩, fun h' a hle => ?_⟩
  · exact Nat.lt_irrefl _ (Nat.lt_of_lt_of_le hlt ((inv.pd _ _ _).mp hx).2.1)
  · rw [inv.getD_future a hlt (Nat.le_add_left ..), Nat.add_sub_cancel]
  · unfold getD
    rcases inv.past h' a hle with e | e <;> rw [e] <;> rfl

theorem QInv.pd_nonneg (inv : QInv M height Q L Pd) (hL : ∀ e ∈ L, 0 ≤ e.2) : ∀ e ∈ Pd, 0 ≤ e.2 := by
  intro ⟨⟨h, a⟩, x⟩ he
  rw [((inv.pd h a x).mp he).2.2.2]
  exact sumKey_nonneg _ hL

end queue

/-! ## invariants of histories -/

/-- `d0` = the pool's initial balance; `pk`, `rk`: BeginBlock pays nothing to the pool (`beginBlock_pool`) -/
structure PoolInv (c : Cfg A) (d0 : Int) (H : Hist A) : Prop where
  eq : H.st.balOf c.pool = sumV H.st.active + d0 + H.donated
  pk : ∀ k ∈ akeys H.st.pending, k.2 ≠ c.pool
  rk : ∀ k ∈ akeys H.st.rwPending, k.2 ≠ c.pool

theorem step_poolInv {c : Cfg A} {d0 : Int} (H : Hist A) (op : Op A) (hw : op.wf c = true)
    (inv : PoolInv c d0 H) : PoolInv c d0 (step c H op) := by
  obtain ⟨eq, pk, rk⟩ := inv
  revert hw
  apply step_cases (P := fun op H' => op.wf c = true → PoolInv c d0 H')
  case fail => exact fun _ _ => ⟨eq, pk, rk⟩
  case delegate =>
    intro a amt _ _ hw
    have ha : c.pool ≠ a := Ne.symm (of_decide_eq_true hw)
    refine ⟨?_, pk, rk⟩
    simp only [St.balOf, moveToPool, getD_upsert, if_true, if_neg ha, sumV_upsert] at eq ⊢
    omega
  case undelegate =>
    intro a amt _ _ _ hw
    -- the new queue entry is keyed by its sender, who is not the pool
    refine ⟨?_, forall_mem_akeys_upsert _ pk (of_decide_eq_true hw), rk⟩
    simp only [St.balOf, getD_upsert, if_true, sumV_upsert] at eq ⊢
    omega
  case withdraw => exact fun a amt _ _ hw => ⟨eq, pk, forall_mem_akeys_upsert _ rk (of_decide_eq_true hw)⟩
  case reinvest =>
    intro a amt _ _ _
    refine ⟨?_, pk, rk⟩
    simp only [St.balOf, getD_upsert, if_true, sumV_upsert] at eq ⊢
    omega
  case donate =>
    intro a amt ck _ _ hw
    have ha : c.pool ≠ a := Ne.symm (of_decide_eq_true hw)
    refine ⟨?_, pk, rk⟩
    simp only [St.balOf, moveToPool, getD_upsert, if_true, if_neg ha] at eq ⊢
    omega
  case env =>
    intro a d hw
    have ha : c.pool ≠ a := Ne.symm (of_decide_eq_true hw)
    refine ⟨?_, pk, rk⟩
    simpa only [St.balOf, St.setBal, getD_upsert, if_neg ha] using eq
  case beginBlock =>
    intro T m acc r hm _ hr _
    -- the keys visited are keys of the queue: none pays the pool
    have h1 := payQ_avoid hm c.pool (fun k hk => pk k (mem_visitPending.mp hk).1) pk
    have h2 := payQ_avoid hr c.pool (fun k hk => rk k (mem_visitRwPending.mp hk).1) rk
    exact ⟨(h2.1.trans h1.1).trans eq, h1.2, h2.2⟩

def UndInv (c : Cfg A) (H : Hist A) : Prop := QInv c.maturity H.height H.st.pending H.ulog H.paid
def RwdInv (c : Cfg A) (H : Hist A) : Prop := QInv c.maturity H.height H.st.rwPending H.wlog H.rwPaid

theorem step_undInv {c : Cfg A} (hM : 1 ≤ c.maturity) (hex : c.sepPrefix = true ∨ c.maturity ≤ 9)
    (H : Hist A) (op : Op A) (und : UndInv c H) : UndInv c (step c H op) := by
  apply step_cases (P := fun _ H' => UndInv c H')
  case undelegate => exact fun a amt _ _ _ => und.add hM a amt
  case beginBlock =>
    exact fun T m acc r hm _ _ => und.payQ hm (visitPending_exact hex und) (nodup_sortBy_filter _ _ und.nodup)
  all_goals intros; exact und

theorem step_rwdInv {c : Cfg A} (hM : 1 ≤ c.maturity) (H : Hist A) (op : Op A)
    (rwd : RwdInv c H) : RwdInv c (step c H op) := by
  apply step_cases (P := fun _ H' => RwdInv c H')
  case withdraw => exact fun a amt _ _ => rwd.add hM a amt
  case beginBlock =>
    exact fun T m acc r _ _ hr => rwd.payQ hr (fun _ => mem_visitRwPending) (nodup_sortBy_filter _ _ rwd.nodup)
  all_goals intros; exact rwd

theorem sumAddr_cons (a : A) (k : Nat × A) (v : Int) (t : List ((Nat × A) × Int)) :
    sumAddr a ((k, v) :: t) = (if a = k.2 then v else 0) + sumAddr a t := by
  by_cases e : a = k.2 <;> simp [sumAddr, e, eq_comm (a := k.2)]

def RwInv (H : Hist A) : Prop :=
  ∀ a, getD H.st.rw a = sumKey a H.alog - sumAddr a H.wlog - sumKey a H.rlog

theorem step_rwInv {c : Cfg A} (H : Hist A) (op : Op A) (inv : RwInv H) : RwInv (step c H op) := by
  apply step_cases (P := fun _ H' => RwInv H')
  case withdraw =>
    intro a amt _ _ a'
    have := inv a'
    simp only [getD_debit, sumAddr_cons]
    omega
  case reinvest =>
    intro a amt _ _ a'
    have := inv a'
    simp only [getD_debit, sumKey_cons]
    omega
  case beginBlock =>
    intro T m acc r _ hacc _ a
    have := inv a
    simp only [accQ_rw hacc, sumKey_append]
    omega
  all_goals intros; exact inv

structure SignInv (H : Hist A) : Prop where
  act : ∀ e ∈ H.st.active, 0 ≤ e.2
  rw : ∀ a, 0 ≤ getD H.st.rw a
  rl : ∀ e ∈ H.rlog, 0 ≤ e.2

theorem step_signInv {c : Cfg A} (hc : c.checkSign = true) (H : Hist A) (op : Op A)
    (hn : op.rewardNonneg = true) (inv : SignInv H) : SignInv (step c H op) := by
  obtain ⟨act, rw, rl⟩ := inv
  revert hn
  have sub : ∀ (a : A) (amt : Int), amt ≤ getD H.st.rw a →
      ∀ a', 0 ≤ getD (upsert H.st.rw a (getD H.st.rw a - amt)) a' := by
    intro a amt h a'
    rw [getD_upsert]
    split
    · exact Int.sub_nonneg_of_le h
    · exact rw a'
  apply step_cases (P := fun op H' => op.rewardNonneg = true → SignInv H')
  case delegate =>
    intro a amt h0 _ _
    exact ⟨forall_nonneg_credit act h0, rw, rl⟩
  case undelegate =>
    intro a amt _ h _ _
    exact ⟨forall_mem_upsert act (Int.sub_nonneg_of_le h), rw, rl⟩
  case withdraw => exact fun a amt _ h _ => ⟨act, sub a amt h, rl⟩
  case reinvest =>
    intro a amt hs h _
    exact ⟨forall_nonneg_credit act (hs hc), sub a amt h,
      List.forall_mem_cons.mpr ⟨hs hc, rl⟩⟩
  case beginBlock =>
    intro T m acc r _ hacc _ hn
    refine ⟨act, fun a => ?_, rl⟩
    rw [accQ_rw hacc]
    refine Int.add_nonneg (rw a) (sumKey_nonneg a (accQ_log_nonneg hacc (of_decide_eq_true hn) ?_))
    split
    · exact fun e he => ⟨act e he, Int.le_of_lt ‹_›⟩
    · nofun
  all_goals intros; exact ⟨act, rw, rl⟩

end OLP.Deleg
