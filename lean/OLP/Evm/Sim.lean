/-
  C16 — the simulation relation of the refinement `Impl ⊑ Ref` (statements in OLP/Props/C16.lean).

  `Sim` says: same abstract world now, and for every valid revision, undoing the journal suffix
  abstractly gives the world the reference saved.  A call that appends entries `es` keeps `Sim` because
  undoing `es` abstractly gives back the previous world (`Sim.journaled`); the calls are chains of three
  kinds of such steps (`Sim.recached`, `Sim.mutate`, `Sim.plain`), each of which starts and ends in `Sim`.
-/
import OLP.Evm.Abs

namespace OLP.Evm

def All2 {α β : Type} (P : α → β → Prop) : List α → List β → Prop
  | [], [] => True
  | x :: xs, y :: ys => P x y ∧ All2 P xs ys
  | _, _ => False

theorem All2.imp_mem {α β : Type} {P Q : α → β → Prop} :
    ∀ {l1 : List α} {l2 : List β}, (∀ x ∈ l1, ∀ y, P x y → Q x y) → All2 P l1 l2 → All2 Q l1 l2
  | [], [], _, _ => trivial
  | a :: l1, b :: l2, h, hp => ⟨h a (by simp) b hp.1, All2.imp_mem (fun x hx y => h x (List.mem_cons_of_mem _ hx) y) hp.2⟩
  | [], _ :: _, _, hp => hp.elim
  | _ :: _, [], _, hp => hp.elim

theorem All2.imp {α β : Type} {P Q : α → β → Prop} (h : ∀ x y, P x y → Q x y) {l1 : List α} {l2 : List β}
    (hp : All2 P l1 l2) : All2 Q l1 l2 := All2.imp_mem (fun x _ y => h x y) hp

theorem All2.length {α β : Type} {P : α → β → Prop} : ∀ {l1 : List α} {l2 : List β}, All2 P l1 l2 → l1.length = l2.length
  | [], [], _ => rfl
  | _ :: _, _ :: _, hp => by simp [All2.length hp.2]
  | [], _ :: _, hp => hp.elim
  | _ :: _, [], hp => hp.elim

theorem All2.snoc {α β : Type} {P : α → β → Prop} {x : α} {y : β} (hxy : P x y) :
    ∀ {l1 : List α} {l2 : List β}, All2 P l1 l2 → All2 P (l1 ++ [x]) (l2 ++ [y])
  | [], [], _ => ⟨hxy, trivial⟩
  | _ :: _, _ :: _, hp => ⟨hp.1, All2.snoc hxy hp.2⟩
  | [], _ :: _, hp => hp.elim
  | _ :: _, [], hp => hp.elim

theorem All2.take {α β : Type} {P : α → β → Prop} (n : Nat) :
    ∀ {l1 : List α} {l2 : List β}, All2 P l1 l2 → All2 P (l1.take n) (l2.take n) := by
  induction n with
  | zero => intro l1 l2 _; simp [All2]
  | succ n ih =>
    intro l1 l2 h
    match l1, l2, h with
    | [], [], _ => simp [All2]
    | _ :: _, _ :: _, hp => exact ⟨hp.1, ih hp.2⟩

theorem All2.get {α β : Type} {P : α → β → Prop} :
    ∀ {l1 : List α} {l2 : List β} (i : Nat) (x : α), All2 P l1 l2 → l1[i]? = some x → ∃ y, l2[i]? = some y ∧ P x y
  | [], [], _, _, _, h => nomatch h
  | _ :: _, b :: _, 0, _, hp, h => ⟨b, rfl, Option.some.inj h ▸ hp.1⟩
  | _ :: _, _ :: _, i + 1, x, hp, h => All2.get i x hp.2 h
  | [], _ :: _, _, _, hp, _ => hp.elim
  | _ :: _, [], _, _, hp, _ => hp.elim

theorem All2.takeWhile_length {α β : Type} {P : α → β → Prop} {p : α → Bool} {q : β → Bool} (hpq : ∀ x y, P x y → p x = q y) :
    ∀ {l1 : List α} {l2 : List β}, All2 P l1 l2 → (l1.takeWhile p).length = (l2.takeWhile q).length
  | [], [], _ => rfl
  | x :: _, y :: _, hp => by
    simp only [List.takeWhile_cons, hpq x y hp.1]
    split <;> simp [All2.takeWhile_length hpq hp.2]
  | [], _ :: _, hp => hp.elim
  | _ :: _, [], hp => hp.elim

/-- a valid revision `(id, journalIndex)` against the world the reference saved for it -/
structure RevOK (st : Store) (es : List Entry) (W0 : AW) (x : Nat × Nat) (y : Nat × RWorld) : Prop where
  id : x.1 = y.1
  le : x.2 ≤ es.length
  abs : undoAbs st ((es.drop x.2).reverse) W0 = absR y.2
  touched : ∀ a, a ∈ y.2.touched ↔ a ∈ (es.take x.2).filterMap Entry.dirtied      -- becomes `Sim.touched` on a revert to it
  tc : ∀ a, a ∉ y.2.touched → y.2.view a = st.view a       -- an untouched account is as the records have it
  nodup : (akeys y.2.accts).Nodup

structure Sim (s : Impl) (r : Ref) : Prop where
  cinv : CInv s
  entries : EntriesOK s.store s.journal.entries
  abs : absI s = absR r.cur
  thash : s.thash = r.thash
  nextRev : s.nextRev = r.nextRev
  -- with `cnt`: a touched account, when cached, is in `dirtySet`, so `Finalise` visits it (`finalise_cases`)
  touched : ∀ a, a ∈ r.cur.touched ↔ a ∈ s.journal.entries.filterMap Entry.dirtied
  tc : ∀ a, a ∉ r.cur.touched → r.cur.view a = s.store.view a
  nodup : (akeys r.cur.accts).Nodup
  revs : All2 (RevOK s.store s.journal.entries (absI s)) s.revisions r.stack
  idsLt : ∀ x ∈ s.revisions, x.1 < s.nextRev
  idsSorted : (s.revisions.map (·.1)).Pairwise (· < ·)      -- what `sort.Search` needs (`findRev`)
  jSorted : (s.revisions.map (·.2)).Pairwise (· ≤ ·)        -- a revert keeps the earlier ones valid
  jok : JOK s.store (absI s) s.journal.entries.reverse
  cnt : JCnt s.journal
  ook : OOK s.okOf s.journal.entries.reverse

/-- an op that appends the entries `es` to the journal (possibly none) and moves both sides to
    the same new abstract world, from which undoing `es` leads back -/
theorem Sim.journaled {s s' : Impl} {r : Ref} {w' : RWorld} (h : Sim s r) (es : List Entry)
    (hc : CInv s') (hst : s'.store = s.store) (hje : s'.journal.entries = s.journal.entries ++ es)
    (hrev : s'.revisions = s.revisions) (hnr : s'.nextRev = s.nextRev) (hth : s'.thash = s.thash)
    (hes : EntriesOK s.store es)
    (habs : absI s' = absR w') (hundo : undoAbs s.store es.reverse (absI s') = absI s)
    (htouched : ∀ a, a ∈ w'.touched ↔ a ∈ r.cur.touched ∨ a ∈ es.filterMap Entry.dirtied)
    (htc : ∀ a, a ∉ w'.touched → w'.view a = s.store.view a)
    (hnd : (akeys w'.accts).Nodup)
    (hjok : JOK s.store (absI s') es.reverse) (hcnt : JCnt s'.journal)
    (hook : OOK s'.okOf s'.journal.entries.reverse) :
    Sim s' (r.withCur w') := by
  refine ⟨hc, ?_, habs, ?_, ?_, ?_, ?_, hnd, ?_, ?_, ?_, ?_, ?_, hcnt, hook⟩
  · rw [hst, hje]; exact entriesOK_append.mpr ⟨h.entries, hes⟩
  · rw [hth]; exact h.thash
  · rw [hnr]; exact h.nextRev
  · intro a
    show a ∈ w'.touched ↔ _
    rw [hje, List.filterMap_append, List.mem_append, htouched, h.touched]
  · intro a ha; rw [hst]; exact htc a ha
  · rw [hrev, hst, hje]
    refine All2.imp ?_ h.revs
    intro x y hxy
    refine ⟨hxy.id, by rw [List.length_append]; exact Nat.le_trans hxy.le (Nat.le_add_right _ _), ?_, ?_, hxy.tc, hxy.nodup⟩
    · rw [List.drop_append_of_le_length hxy.le, List.reverse_append, undoAbs_append, hundo]
      exact hxy.abs
    · intro a
      rw [List.take_append_of_le_length hxy.le]
      exact hxy.touched a
  · rw [hrev, hnr]; exact h.idsLt
  · rw [hrev]; exact h.idsSorted
  · rw [hrev]; exact h.jSorted
  · rw [hst, hje, List.reverse_append, JOK_append, hundo]
    exact ⟨hjok, h.jok⟩

/-- an adapter state and a reference world reached from `s` / `r.cur` by journaled changes -/
structure Step (s s1 : Impl) (r : Ref) (w1 : RWorld) (es : List Entry) : Prop where
  cinv : CInv s1
  store : s1.store = s.store
  entries : s1.journal.entries = s.journal.entries ++ es
  revisions : s1.revisions = s.revisions
  nextRev : s1.nextRev = s.nextRev
  thash : s1.thash = s.thash
  static : EntriesOK s.store es
  abs : absI s1 = absR w1
  undo : undoAbs s.store es.reverse (absI s1) = absI s
  touched : ∀ a, a ∈ w1.touched ↔ a ∈ r.cur.touched ∨ a ∈ es.filterMap Entry.dirtied
  tc : ∀ a, a ∉ w1.touched → w1.view a = s.store.view a
  nodup : (akeys w1.accts).Nodup
  jok : JOK s.store (absI s1) es.reverse
  cnt : JCnt s1.journal
  ook : OOK s1.okOf s1.journal.entries.reverse

variable {s : Impl} {r : Ref}

/-- `absI s = absR w`, field by field -/
structure SameObs (s : Impl) (w : RWorld) : Prop where
  view : s.view = w.view
  refund : s.refund = w.refund
  logs : ∀ h, (alookup h s.logs).getD [] = (w.logs.filter (fun l => l.1 == h)).map (·.2)
  logSize : s.logSize = w.logs.length
  alAddrs : ∀ a, s.alAddrs.count a = w.alAddrs.count a
  alSlots : ∀ p, s.alSlots.count p = w.alSlots.count p

theorem Sim.fields (h : Sim s r) : SameObs s r.cur :=
  ⟨congrArg AW.acct h.abs, congrArg AW.refund h.abs, congrFun (congrArg AW.logs h.abs), congrArg AW.logSize h.abs,
    congrFun (congrArg AW.alAddrs h.abs), congrFun (congrArg AW.alSlots h.abs)⟩

theorem Sim.view (h : Sim s r) (a : Addr) : s.view a = (r.cur.get a).map viewR :=
  congrFun h.fields.view a

/-- between transactions -/
theorem sim_clean (hs : StoreOK s.store) (ho : s.objs = []) (hj : s.journal = Journal.new)
    (hrv : s.revisions = []) (habs : absI s = absR r.cur) (hth : s.thash = r.thash) (hnr : s.nextRev = r.nextRev)
    (hnd : (akeys r.cur.accts).Nodup) (ht : r.cur.touched = []) (hst : r.stack = []) : Sim s r := by
  have hv : ∀ a, r.cur.view a = s.store.view a := fun a => by
    rw [← view_of_uncached s a (by rw [ho]; rfl)]; exact (congrFun (congrArg AW.acct habs) a).symm
  exact ⟨⟨fun a o ha => (by rw [ho] at ha; cases ha), by rw [ho]; exact List.nodup_nil, hs⟩,
    by rw [hj]; exact fun _ h => (nomatch h), habs, hth, hnr, by rw [ht, hj]; exact fun _ => Iff.rfl, fun a _ => hv a, hnd,
    by rw [hrv, hst]; trivial, by rw [hrv]; exact fun _ h => (nomatch h), by rw [hrv]; exact List.Pairwise.nil,
    by rw [hrv]; exact List.Pairwise.nil, by rw [hj]; trivial, by rw [hj]; exact JCnt.new, by rw [hj]; trivial⟩

/-- the simulation says nothing about the reference's sticky touches: with no empty account in the
    records they never decide anything in `Finalise` (see `sim_finalise`) -/
theorem Sim.anySticky (h : Sim s r) (l : List Addr) : Sim s { r with sticky := l } :=
  { h with }

/-- the extra dirty count of the RIPEMD touch exception changes nothing the simulation looks at -/
theorem Sim.extraDirty (h : Sim s r) (b : Addr) :
    Sim { s with journal := s.journal.addDirty b } r :=
  { h with cinv := { h.cinv with }, cnt := h.cnt.extra b }

theorem Sim.step {s1 : Impl} {w1 : RWorld} {es : List Entry} (h : Sim s r) (st : Step s s1 r w1 es) :
    Sim s1 (r.withCur w1) :=
  h.journaled es st.cinv st.store st.entries st.revisions st.nextRev st.thash st.static st.abs st.undo
    st.touched st.tc st.nodup st.jok st.cnt st.ook

theorem Sim.recached {s1 : Impl} (h : Sim s r) (hr : Recached s s1) : Sim s1 r :=
  h.step (w1 := r.cur) (es := [])
    ⟨hr.cinv, hr.same.store, by rw [hr.same.journal, List.append_nil], hr.same.revisions, hr.same.nextRev, hr.same.thash,
     fun _ he => (nomatch he), hr.abs.trans h.abs, hr.abs, by simp, h.tc, h.nodup, trivial, by rw [hr.same.journal]; exact h.cnt,
     by rw [hr.same.journal]; exact OOK_mono hr.okOf h.ook⟩

/-- the step of an account-changing call: the entries `el`, all dirtying `a`, are appended and the
    object of `a` is replaced (or made: `v = none`) by `o'`; undoing `el` gives the old view `v` back -/
theorem Sim.mutate (h : Sim s r) (a : Addr) (v : Option AView) (hv : s.view a = v)
    (el : List Entry) (hd : ∀ b, b ∈ el.filterMap Entry.dirtied ↔ b = a) (hstatic : EntriesOK s.store el)
    (o' : Obj) (x' : RAcct) (haddr : o'.addr = a) (hok : ObjOK s.store o') (hview' : viewObj s.store o' = viewR x')
    (hundo : ∀ W : AW, undoAbs s.store el.reverse { W with acct := updF W.acct a (some (viewObj s.store o')) } =
        { W with acct := updF W.acct a v })
    (hlive : ∀ W : AW, JOK s.store { W with acct := updF W.acct a (some (viewObj s.store o')) } el.reverse)
    (hook : OOK (fun b k => if b = a then (alookup k o'.origin).isSome else s.okOf b k)
      (el.reverse ++ s.journal.entries.reverse)) :
    Sim ((s.jappends el).setObj o') (r.withCur (r.cur.put a x')) := by
  have habs : absI ((s.jappends el).setObj o') = { absI s with acct := updF (absI s).acct a (some (viewObj s.store o')) } := by
    rw [absI_setObj _ hok.live, haddr]; rfl
  refine h.step (es := el) ⟨setObj_cinv (s := s.jappends el) (h.cinv.congr rfl rfl) hok, rfl, foldl_append_entries el _, rfl, rfl, rfl,
    hstatic, ?_, ?_, ?_, ?_, nodup_akeys_upsert _ _ _ h.nodup, ?_, h.cnt.appends el, ?_⟩
  · rw [habs, absR_put, h.abs, hview']
  · rw [habs, hundo]
    show ({ absI s with acct := updF s.view a v } : AW) = absI s
    rw [← hv, updF_self]; rfl
  · intro b
    simp only [RWorld.put, List.mem_append, List.mem_singleton, hd b]
  · intro b hb
    simp only [RWorld.put, List.mem_append, List.mem_singleton, not_or] at hb
    rw [RWorld.view_put, updF_ne hb.2]
    exact h.tc b hb.1
  · rw [habs]; exact hlive _
  · show OOK ((s.jappends el).setObj o').okOf (el.foldl Journal.append s.journal).entries.reverse
    rw [foldl_append_entries, List.reverse_append]
    refine OOK_mono (fun b k hb => ?_) hook
    rw [okOf_setObj, haddr]
    exact hb

/-- the usual case of `Sim.mutate`'s last hypothesis: plain entries, the new object has the original
    values cached that the address had, storage entries are about slots cached in the new object -/
theorem ook_plain_mutate (a : Addr) (o' : Obj) (el : List Entry)
    (horig : ∀ k, s.okOf a k = true → (alookup k o'.origin).isSome = true)
    (hel : ∀ e ∈ el, e.plain = true ∧
      EntrySupp (fun b k => if b = a then (alookup k o'.origin).isSome else s.okOf b k) e)
    (hook : OOK s.okOf s.journal.entries.reverse) :
    OOK (fun b k => if b = a then (alookup k o'.origin).isSome else s.okOf b k)
      (el.reverse ++ s.journal.entries.reverse) := by
  refine OOK_plain el.reverse (fun e he => hel e (List.mem_reverse.mp he)) (OOK_mono ?_ hook)
  intro b k hb
  split
  · subst_vars; exact horig k hb
  · exact hb

/-- the step of a call that changes no account: `s2` is `s` with one entry `e` appended that neither
    creates nor replaces a state object, up to the refund, the logs and the access list; the object
    cache and the reference's accounts stay, the address `e` dirties (if any) counts as touched -/
theorem Sim.plain {s2 : Impl} {w2 : RWorld} (h : Sim s r) (e : Entry)
    (hs2 : { s2 with refund := s.refund, logs := s.logs, logSize := s.logSize, alAddrs := s.alAddrs, alSlots := s.alSlots } =
      { s with journal := s.journal.append e })
    (hpl : e.plain = true) (hst : EntryStatic s.store e) (hsup : EntrySupp s.okOf e)
    (habs : absI s2 = absR w2) (hundo : e.undo s.store (absI s2) = absI s) (hlive : EntryLive (absI s2) e)
    (hacc : w2.accts = r.cur.accts)
    (htch : w2.touched = match e.dirtied with | none => r.cur.touched | some b => r.cur.touched ++ [b]) :
    Sim s2 (r.withCur w2) := by
  have hobjs : s2.objs = s.objs := (congrArg Impl.objs hs2 :)
  have hj : s2.journal = s.journal.append e := (congrArg Impl.journal hs2 :)
  refine h.step (es := [e]) ⟨h.cinv.congr hobjs ((congrArg Impl.store hs2 :)), (congrArg Impl.store hs2 :), by rw [hj, append_entries],
    (congrArg Impl.revisions hs2 :), (congrArg Impl.nextRev hs2 :), (congrArg Impl.thash hs2 :), fun e' he' => List.mem_singleton.mp he' ▸ hst,
    habs, hundo, ?_, ?_, by rw [hacc]; exact h.nodup, ⟨hlive, trivial⟩, by rw [hj]; exact h.cnt.append e, ?_⟩
  · intro b
    rw [htch]
    cases hd : e.dirtied <;> simp [List.filterMap, hd]
  · intro a ha
    have : w2.view a = r.cur.view a := by simp [RWorld.view, RWorld.get, hacc]
    rw [this]
    refine h.tc a fun hc => ha ?_
    rw [htch]; split
    · exact hc
    · exact List.mem_append_left _ hc
  · rw [hj, append_entries, List.reverse_append, okOf_congr hobjs]
    exact ⟨hsup, by rw [undoF_plain e _ hpl]; exact h.ook⟩

end OLP.Evm
