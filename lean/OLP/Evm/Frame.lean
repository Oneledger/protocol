/-
  C16 — no call but `Finalise` changes the persistent records: the calls are made of cache lookups, cache
  writes and journal entries.  A fact about `Impl.step` alone (no invariant is needed).
-/
import OLP.Evm.Model

namespace OLP.Evm

@[simp] theorem getObj_fst_store (s : Impl) (a : Addr) : (s.getObj a).1.store = s.store := by
  unfold Impl.getObj
  split <;> split <;> rfl

theorem getObj_store {s s1 : Impl} {a : Addr} {ro : Option Obj} (h : s.getObj a = (s1, ro)) : s1.store = s.store := by
  rw [← getObj_fst_store s a, h]

theorem createObject_store {s : Impl} {a : Addr} {x : Impl × Obj × Option Obj} (h : s.createObject a = some x) :
    x.1.store = s.store := by
  simp only [Impl.createObject, Impl.jappend, Option.map_some, Option.some.injEq] at h
  subst h; exact getObj_fst_store s a

theorem getOrNew_store {s : Impl} {a : Addr} {x : Impl × Obj} (h : s.getOrNew a = some x) : x.1.store = s.store := by
  simp only [Impl.getOrNew] at h
  split at h
  · cases h; exact getObj_store ‹_›
  · obtain ⟨y, hy, rfl⟩ := Option.map_eq_some_iff.mp h
    exact (createObject_store hy).trans (getObj_store ‹_›)

/-- the account-changing calls: `GetOrNewStateObject`, then journal entries and a cache write -/
theorem acctOp_store {s s' : Impl} {a : Addr} {f : Impl → Obj → Option Impl}
    (hf : ∀ s1 o s2, f s1 o = some s2 → s2.store = s1.store)
    (h : (match s.getOrNew a with | none => none | some (s1, o) => f s1 o) = some s') : s'.store = s.store := by
  split at h
  · cases h
  · exact (hf _ _ _ h).trans (getOrNew_store ‹_›)

theorem revertEntry_store {s s' : Impl} {e : Entry} (h : s.revertEntry e = some s') : s'.store = s.store := by
  unfold Impl.revertEntry at h
  repeat' split at h
  all_goals simp only [Option.some.injEq, reduceCtorEq] at h
  -- the ascription: otherwise `s1` is unified with the whole `s1.setObj ..` of the goal
  all_goals subst h; first | rfl | exact (getObj_store ‹_› : Impl.store _ = _)

theorem undoLast_store {s s' : Impl} (h : s.undoLast = some s') : s'.store = s.store := by
  unfold Impl.undoLast at h
  repeat' split at h
  all_goals simp only [Option.some.injEq, reduceCtorEq] at h
  all_goals subst h; first | rfl | exact (revertEntry_store ‹_› : Impl.store _ = _)

theorem revertTo_store (snap : Nat) : ∀ (n : Nat) (s s' : Impl), s.revertTo snap n = some s' → s'.store = s.store
  | 0, s, s', h => by cases h; rfl
  | n + 1, s, s', h => by
    simp only [Impl.revertTo] at h
    repeat' split at h
    · cases h; rfl
    · cases h
    · exact (revertTo_store snap n _ _ h).trans (undoLast_store ‹_›)

theorem touch_store {c : Cfg} {s s' : Impl} {a : Addr} (h : s.touch c a = some s') : s'.store = s.store := by
  simp only [Impl.touch, Impl.jappend] at h
  split at h <;> cases h <;> rfl

theorem orPanic_store {s : Impl} {ro : Option Impl} (h : ∀ s', ro = some s' → s'.store = s.store) :
    (orPanic s ro).1.store = s.store := by
  cases ro with
  | none => rfl
  | some s' => exact h s' rfl

theorem readObj_store {s : Impl} {a : Addr} {f : Impl → Option Obj → Impl × Out}
    (hf : ∀ s1 o, (f s1 o).1.store = s1.store) : (s.readObj a f).1.store = s.store :=
  (hf _ _).trans (getObj_fst_store s a)

theorem step_store (c : Cfg) (s : Impl) (op : Op) (hop : ∀ b, op ≠ .finalise b) : (s.step c op).1.store = s.store := by
  cases op with
  | finalise b => exact absurd rfl (hop b)
  | getBalance | getNonce | getCodeHash | getCode | getCodeSize | hasSuicided | exist | empty =>
    exact readObj_store fun _ _ => rfl
  | getCommittedState a k | getState a k => exact readObj_store fun s1 o => by cases o <;> rfl
  | getRefund | addressInAccessList | slotInAccessList | prepare | getLogs | snapshot | reset | addRefund => rfl
  | subRefund n => simp only [Impl.step, Impl.jappend]; split <;> rfl
  | createAccount a =>
    refine orPanic_store fun s' h => ?_
    simp only [Impl.createAccount, Impl.objSetBalance, Impl.jappend, Option.map_some] at h
    split at h <;> cases h <;> exact createObject_store ‹_›
  | suicide a =>
    simp only [Impl.step]
    split
    · rfl
    · rename_i h
      simp only [Impl.suicide, Impl.objSetBalance, Impl.jappend, Option.map_some] at h
      split at h <;> cases h <;> exact (getObj_store ‹_› : Impl.store _ = _)
  | revertToSnapshot id =>
    refine orPanic_store fun s' h => ?_
    simp only [Impl.revertToSnapshot] at h
    repeat' split at h
    all_goals first | cases h | skip
    obtain ⟨s1, h1, rfl⟩ := Option.map_eq_some_iff.mp h
    exact (revertTo_store _ _ _ _ h1 : Impl.store s1 = _)
  | subBalance a n | addBalance a n | setNonce a n | setCode a n | setState a k n =>
    refine orPanic_store fun s' h => acctOp_store (fun s1 o s2 h => ?_) h
    simp only [Impl.jappend, Option.map_some] at h
    repeat' split at h
    all_goals first | exact touch_store h | cases h <;> rfl
  | addLog a p => exact orPanic_store fun s' h => by cases h; rfl
  | addAddressToAccessList a =>
    refine orPanic_store fun s' h => ?_
    simp only [Impl.alAddAddr, Impl.jappend] at h
    split at h <;> cases h <;> rfl
  | addSlotToAccessList a k =>
    refine orPanic_store fun s' h => ?_
    simp only [Impl.alAddSlot, Impl.jappend] at h
    split at h
    · cases h
    · rename_i s2 h2
      have : s2.store = s.store := by split at h2 <;> cases h2 <;> rfl
      split at h <;> cases h <;> exact this

end OLP.Evm
