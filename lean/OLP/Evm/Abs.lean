/-
  C16 — what the interface can observe of an adapter state (`absI`) and of a reference world (`absR`),
  the abstract meaning `Entry.undo` of every journal entry, and the invariants of the adapter alone:
  every entry can be undone (`JOK`), the dirty counters cover the live entries (`JCnt`), the cached
  objects agree with the records (`CInv`), every dirty slot has its original value cached (`OOK`).
-/
import OLP.Evm.Model

namespace OLP.Evm

structure AView where
  nonce : Nat
  bal : Nat
  hash : Code
  code : Code
  stor : Key → Val
  cstor : Key → Val
  suicided : Bool

def updF {α β : Type} [DecidableEq α] (f : α → β) (a : α) (b : β) : α → β := fun x => if x = a then b else f x

@[simp] theorem updF_same {α β : Type} [DecidableEq α] (f : α → β) (a : α) (b : β) : updF f a b a = b := by simp [updF]
theorem updF_ne {α β : Type} [DecidableEq α] {f : α → β} {a x : α} {b : β} (h : x ≠ a) : updF f a b x = f x := by simp [updF, h]

theorem eq_updF {α β : Type} [DecidableEq α] {f g : α → β} {a : α} {b : β} (ha : g a = b)
    (hne : ∀ x, x ≠ a → g x = f x) : g = updF f a b := by
  funext x; by_cases h : x = a
  · rw [h, ha, updF_same]
  · rw [hne x h, updF_ne h]

theorem updF_updF {α β : Type} [DecidableEq α] (f : α → β) (a : α) (b c : β) : updF (updF f a b) a c = updF f a c :=
  eq_updF (updF_same _ _ _) fun x h => by rw [updF_ne h, updF_ne h]

theorem updF_self {α β : Type} [DecidableEq α] (f : α → β) (a : α) : updF f a (f a) = f :=
  (eq_updF rfl fun _ _ => rfl).symm

/-- storage as the object shows it: dirty value, else the record (nothing for a `created` object) -/
def Obj.slotView (st : Store) (o : Obj) (k : Key) : Val :=
  match alookup k o.dirty with
  | some v => v
  | none => o.base st k

def viewObj (st : Store) (o : Obj) : AView :=
  { nonce := o.nonce, bal := o.bal, hash := o.codeHash, code := o.getCode st,
    stor := o.slotView st, cstor := fun k => o.base st k, suicided := o.suicided }

def Store.view (st : Store) (a : Addr) : Option AView := (st.getAccount a).map (viewObj st)

def Impl.view (s : Impl) (a : Addr) : Option AView :=
  match alookup a s.objs with
  | some o => if o.deleted then none else some (viewObj s.store o)
  | none => s.store.view a

def viewR (r : RAcct) : AView :=
  { nonce := r.nonce, bal := r.bal, hash := r.code, code := r.code, stor := r.slot, cstor := r.cslot,
    suicided := r.suicided }

def RWorld.view (w : RWorld) (a : Addr) : Option AView := (w.get a).map viewR

/-- the abstract world: everything the interface can observe -/
structure AW where
  acct : Addr → Option AView
  refund : Nat
  logs : Nat → List (Nat × Addr × Nat)
  logSize : Nat
  alAddrs : Addr → Nat            -- how often the address is listed (0 or 1 in every reachable state)
  alSlots : Addr × Key → Nat

def absI (s : Impl) : AW :=
  { acct := s.view, refund := s.refund, logs := fun h => (alookup h s.logs).getD [], logSize := s.logSize,
    alAddrs := fun a => s.alAddrs.count a, alSlots := fun p => s.alSlots.count p }

def absR (w : RWorld) : AW :=
  { acct := w.view, refund := w.refund, logs := fun h => (w.logs.filter (fun l => l.1 == h)).map (·.2),
    logSize := w.logs.length, alAddrs := fun a => w.alAddrs.count a, alSlots := fun p => w.alSlots.count p }

theorem view_congr {s s2 : Impl} (hobjs : s2.objs = s.objs) (hstore : s2.store = s.store) : s2.view = s.view := by
  funext a; simp [Impl.view, hobjs, hstore]

/-- `viewObj st o = viewR x`, field by field -/
structure SameView (st : Store) (o : Obj) (x : RAcct) : Prop where
  nonce : o.nonce = x.nonce
  bal : o.bal = x.bal
  hash : o.codeHash = x.code
  code : o.getCode st = x.code
  suicided : o.suicided = x.suicided
  slot : ∀ k, o.slotView st k = x.slot k
  cslot : ∀ k, o.base st k = x.cslot k

theorem view_fields {st : Store} {o : Obj} {x : RAcct} (h : viewObj st o = viewR x) : SameView st o x :=
  ⟨congrArg AView.nonce h, congrArg AView.bal h, congrArg AView.hash h, congrArg AView.code h, congrArg AView.suicided h,
    congrFun (congrArg AView.stor h), congrFun (congrArg AView.cstor h)⟩

theorem empty_eq {st : Store} {o : Obj} {x : RAcct} (h : viewObj st o = viewR x) : o.empty = x.empty := by
  have hf := view_fields h
  simp [Obj.empty, RAcct.empty, hf.nonce, hf.bal, hf.hash]

theorem RWorld.view_put (w : RWorld) (a : Addr) (x : RAcct) : (w.put a x).view = updF w.view a (some (viewR x)) :=
  eq_updF (by simp [RWorld.view, RWorld.get, RWorld.put])
    fun b hb => by simp [RWorld.view, RWorld.get, RWorld.put, alookup_upsert_ne _ _ _ _ hb]

theorem absR_put (w : RWorld) (a : Addr) (x : RAcct) :
    absR (w.put a x) = { absR w with acct := updF (absR w).acct a (some (viewR x)) } := by
  simp only [absR, RWorld.view_put]
  rfl

def AW.modAcct (W : AW) (a : Addr) (f : AView → AView) : AW := { W with acct := updF W.acct a ((W.acct a).map f) }

theorem AW.modAcct_none {W : AW} {a : Addr} (h : W.acct a = none) (f : AView → AView) : W.modAcct a f = W := by
  simp only [AW.modAcct, h, Option.map_none]
  rw [← h, updF_self]

/-- what reverting an entry does to the abstract world -/
def Entry.undo (st : Store) : Entry → AW → AW
  | .createObject a, W => { W with acct := updF W.acct a none }
  | .resetObject prev, W => { W with acct := updF W.acct prev.addr (some (viewObj st prev)) }
  | .suicide a p pb, W => W.modAcct a fun v => { v with suicided := p, bal := pb }
  | .balance a p, W => W.modAcct a fun v => { v with bal := p }
  | .nonce a p, W => W.modAcct a fun v => { v with nonce := p }
  | .storage a k p, W => W.modAcct a fun v => { v with stor := updF v.stor k p }
  | .code a pc ph, W => W.modAcct a fun v => { v with code := pc, hash := ph }
  | .refund p, W => { W with refund := p }
  | .addLog h, W => { W with logs := updF W.logs h (W.logs h).dropLast, logSize := W.logSize - 1 }
  | .touch _, W => W
  | .alAddr a, W => { W with alAddrs := updF W.alAddrs a (W.alAddrs a - 1) }
  | .alSlot a k, W => { W with alSlots := updF W.alSlots (a, k) (W.alSlots (a, k) - 1) }

/-- undo a list of entries, most recent first -/
def undoAbs (st : Store) : List Entry → AW → AW
  | [], W => W
  | e :: rest, W => undoAbs st rest (e.undo st W)

theorem undoAbs_append (st : Store) (l1 l2 : List Entry) (W : AW) :
    undoAbs st (l1 ++ l2) W = undoAbs st l2 (undoAbs st l1 W) := by
  induction l1 generalizing W with
  | nil => rfl
  | cons e t ih => simp [undoAbs, ih]

def EntryLive (W : AW) : Entry → Prop
  | .balance a _ => (W.acct a).isSome
  | .nonce a _ => (W.acct a).isSome
  | .storage a _ _ => (W.acct a).isSome
  | .code a _ _ => (W.acct a).isSome
  | .addLog h => W.logs h ≠ []
  | _ => True

/-- every journal entry can be undone: its account (log) is there when its turn comes; entries most
    recent first -/
def JOK (st : Store) : AW → List Entry → Prop
  | _, [] => True
  | W, e :: rest => EntryLive W e ∧ JOK st (e.undo st W) rest

theorem JOK_append (st : Store) (l1 l2 : List Entry) (W : AW) :
    JOK st W (l1 ++ l2) ↔ JOK st W l1 ∧ JOK st (undoAbs st l1 W) l2 := by
  induction l1 generalizing W with
  | nil => simp [JOK, undoAbs]
  | cons e t ih => simp [JOK, undoAbs, ih, and_assoc]

def cntOf (es : List Entry) (a : Addr) : Nat := (es.filterMap Entry.dirtied).count a

/-- the dirty counters cover the live journal entries: an address that a live entry dirties has at
    least that count (exactly that count, but for the RIPEMD touch exception, whose extra counts no
    revert takes back), so `Finalise` treats it as dirty -/
def JCnt (j : Journal) : Prop := ∀ a, cntOf j.entries a ≤ j.getDirty a

theorem cntOf_snoc (pre : List Entry) (e : Entry) (a : Addr) :
    cntOf (pre ++ [e]) a = cntOf pre a + (if e.dirtied = some a then 1 else 0) := by
  simp only [cntOf, List.filterMap_append, List.count_append]
  cases hd : e.dirtied with
  | none => simp [List.filterMap, hd]
  | some b => by_cases hb : b = a <;> simp [List.filterMap, hd, hb]

theorem JCnt.new : JCnt Journal.new := fun _ => Nat.le_refl 0

theorem getDirty_upsert (j : Journal) (b a : Addr) (n : Nat) :
    ({ j with dirties := upsert j.dirties b n } : Journal).getDirty a = if a = b then n else j.getDirty a := by
  simp only [Journal.getDirty, alookup_upsert]; split <;> rfl

theorem append_entries (j : Journal) (e : Entry) : (j.append e).entries = j.entries ++ [e] := by
  unfold Journal.append; cases e.dirtied <;> rfl

theorem getDirty_append (j : Journal) (e : Entry) (a : Addr) :
    (j.append e).getDirty a = j.getDirty a + (if e.dirtied = some a then 1 else 0) := by
  unfold Journal.append
  cases hd : e.dirtied with
  | none => rfl
  | some b =>
    show (Journal.addDirty _ b).getDirty a = _
    rw [Journal.addDirty, getDirty_upsert]
    by_cases hb : a = b
    · subst hb; simp; rfl
    · simp [hb, Ne.symm hb]; rfl

/-- the extra count of the RIPEMD touch -/
theorem JCnt.extra {j : Journal} (h : JCnt j) (b : Addr) : JCnt (j.addDirty b) := fun a => by
  have := h a
  rw [Journal.addDirty, getDirty_upsert]
  split
  · subst_vars; exact Nat.le_succ_of_le this
  · exact this

theorem JCnt.append {j : Journal} (h : JCnt j) (e : Entry) : JCnt (j.append e) := by
  intro a
  rw [append_entries, cntOf_snoc, getDirty_append]
  exact Nat.add_le_add_right (h a) _

theorem getDirty_subDirty (j : Journal) (a b : Addr) :
    (j.subDirty a).getDirty b = if b = a then j.getDirty b - 1 else j.getDirty b := by
  unfold Journal.subDirty
  split
  · split <;> simp_all [Journal.getDirty]
  · split
    · subst_vars; split <;> simp_all [Journal.getDirty]
    · rw [getDirty_upsert]; split <;> simp_all [Journal.getDirty]

theorem getDirty_deleteDirty (j : Journal) (a b : Addr) :
    (j.deleteDirty a).getDirty b = if b = a then 0 else j.getDirty b := by
  simp only [Journal.getDirty, Journal.deleteDirty, alookup_aerase]; split <;> rfl

/-- a counter that reaches zero is removed, which reads as zero all the same -/
theorem getDirty_undirty (j : Journal) (e : Entry) (b : Addr) :
    (j.undirty e).getDirty b = if e.dirtied = some b then j.getDirty b - 1 else j.getDirty b := by
  unfold Journal.undirty
  cases e.dirtied with
  | none => rfl
  | some a =>
    simp only [Option.some.injEq, eq_comm (a := a)]
    split
    · rename_i hz
      rw [getDirty_deleteDirty, getDirty_subDirty]; split
      · subst_vars; rw [getDirty_subDirty, if_pos rfl] at hz; exact hz.symm
      · rfl
    · exact getDirty_subDirty j a b

theorem JCnt.pop {j : Journal} (h : JCnt j) {pre : List Entry} {e : Entry} (hsplit : j.entries = pre ++ [e]) :
    JCnt { (j.undirty e) with entries := pre } := by
  intro a
  show cntOf pre a ≤ (j.undirty e).getDirty a
  have := h a
  rw [hsplit, cntOf_snoc] at this
  rw [getDirty_undirty]
  split at this <;> simp only [*, if_true, if_false] <;> omega

theorem JCnt.mem {j : Journal} (h : JCnt j) {a : Addr} (ha : a ∈ j.entries.filterMap Entry.dirtied) :
    a ∈ j.dirties.map (·.1) := by
  have hpos : 0 < cntOf j.entries a := List.count_pos_iff.mpr ha
  refine Decidable.by_contra fun hm => ?_
  have : j.getDirty a = 0 := by simp [Journal.getDirty, alookup_of_not_mem _ _ hm]
  have := h a
  omega

def OriginOK (st : Store) (o : Obj) : Prop := ∀ k v, alookup k o.origin = some v → v = o.base st k
def DirtyHasOrigin (o : Obj) : Prop := ∀ k, (alookup k o.dirty).isSome → (alookup k o.origin).isSome

structure ObjOK (st : Store) (o : Obj) : Prop where
  origin : OriginOK st o
  code : o.getCode st = o.codeHash      -- a hash is identified with its code (Model.lean)
  codeEq : o.code ≠ 0 → o.code = o.codeHash
  live : o.deleted = false              -- only `Finalise` sets the flag, and it empties the cache
  nd : (akeys o.dirty).Nodup
  dc : o.code ≠ 0 → o.dirtyCode = true
  dho : DirtyHasOrigin o

structure StoreOK (st : Store) : Prop where
  nonEmpty : ∀ a o, st.getAccount a = some o → o.empty = false
  codes : ∀ a n h, alookup a st.acct = some (n, h) → h ≠ 0 → st.codeAt h = h

/-- no storage record is left under an address that has no account (what 8684164 repairs at the
    level of the records; not needed for the refinement, where a `created` object hides such
    records anyway): kept by every call, see Props/C16.lean `no_orphan_storage_step` -/
def NoOrphanStorage (st : Store) : Prop := ∀ a, st.getAccount a = none → ∀ k, st.slot a k = 0

structure CInv (s : Impl) : Prop where
  objs : ∀ a o, alookup a s.objs = some o → o.addr = a ∧ ObjOK s.store o
  nodup : (akeys s.objs).Nodup
  store : StoreOK s.store

theorem CInv.congr {s s' : Impl} (hc : CInv s) (ho : s'.objs = s.objs) (hs : s'.store = s.store) : CInv s' :=
  ⟨by rw [ho, hs]; exact hc.objs, by rw [ho]; exact hc.nodup, by rw [hs]; exact hc.store⟩

theorem ObjOK.account {st : Store} {o : Obj} (h : ObjOK st o) (n b : Nat) (sd : Bool) :
    ObjOK st { o with nonce := n, bal := b, suicided := sd } :=
  { h with }

theorem getCode_setCodeRaw (st : Store) (o : Obj) (c : Code) : (o.setCodeRaw c c).getCode st = c := by
  simp only [Obj.getCode, Obj.setCodeRaw]
  by_cases hz : c = 0 <;> simp [hz]

theorem ObjOK.setCode {st : Store} {o : Obj} (h : ObjOK st o) (c : Code) : ObjOK st (o.setCodeRaw c c) :=
  { h with code := getCode_setCodeRaw st o c, codeEq := fun _ => rfl, dc := fun _ => rfl }

theorem ObjOK.setState {st : Store} {o : Obj} (h : ObjOK st o) (k : Key) (p : Val)
    (hk : (alookup k o.origin).isSome) : ObjOK st (o.setStateRaw k p) :=
  { h with
    nd := nodup_akeys_upsert _ _ _ h.nd
    dho := fun k' hk' => by
      simp only [Obj.setStateRaw, alookup_upsert] at hk'
      by_cases hkk : k' = k
      · subst hkk; exact hk
      · simp only [hkk, if_false] at hk'; exact h.dho k' hk' }

theorem viewObj_setStateRaw (st : Store) (o : Obj) (k : Key) (p : Val) :
    viewObj st (o.setStateRaw k p) = { viewObj st o with stor := updF (viewObj st o).stor k p } := by
  have : Obj.slotView st (o.setStateRaw k p) = updF (Obj.slotView st o) k p :=
    eq_updF (by simp [Obj.slotView, Obj.setStateRaw])
      fun k' hk => by simp only [Obj.slotView, Obj.setStateRaw, alookup_upsert_ne _ _ _ _ hk]; rfl
  simp only [viewObj, this]
  rfl

/-- the object `createObject` makes shows an account without storage, whatever the records hold
    under the address (8684164) -/
theorem viewObj_make (st : Store) (a : Addr) (b : Nat) :
    viewObj st (Obj.make a b) = viewR (RAcct.fresh b) := by
  simp only [viewObj, viewR, Obj.make, Obj.fresh, RAcct.fresh, Obj.getCode, AView.mk.injEq]
  refine ⟨trivial, trivial, trivial, by simp, ?_, ?_, trivial⟩
  · funext k; simp [Obj.slotView, RAcct.slot, Obj.base, alookup]
  · funext k; simp [RAcct.cslot, Obj.base, alookup]

theorem objOK_make (st : Store) (a : Addr) (b : Nat) : ObjOK st (Obj.make a b) :=
  ⟨fun _ _ h => (nomatch h), rfl, fun h => absurd rfl h, rfl, List.nodup_nil, fun h => absurd rfl h, fun _ h => (nomatch h)⟩

/-- `newStateObject` with the keeper's nonce and code hash -/
theorem getAccount_eq {st : Store} {a : Addr} {o : Obj} (h : st.getAccount a = some o) :
    ∃ n hh, o = { Obj.fresh a (st.balOf a) with nonce := n, codeHash := hh } ∧
      (alookup a st.acct = some (n, hh) ∨ alookup a st.acct = none ∧ n = 0 ∧ hh = 0 ∧ st.balOf a ≠ 0) := by
  unfold Store.getAccount at h
  split at h
  · cases h; exact ⟨_, _, rfl, Or.inl ‹_›⟩
  · split at h
    · cases h
    · cases h; exact ⟨0, 0, rfl, Or.inr ⟨‹_›, rfl, rfl, ‹_›⟩⟩

theorem getAccount_ok {st : Store} (hs : StoreOK st) {a : Addr} {o : Obj} (h : st.getAccount a = some o) : ObjOK st o := by
  obtain ⟨n, hh, rfl, hrec⟩ := getAccount_eq h
  refine ⟨fun k v hk => (nomatch hk), ?_, fun hc => absurd rfl hc, rfl, List.nodup_nil, fun hc => absurd rfl hc,
    fun k hk => (nomatch hk)⟩
  show (if hh = 0 then 0 else st.codeAt hh) = hh
  split
  · exact Eq.symm ‹_›
  · rcases hrec with hrec | hrec
    · exact hs.codes a n hh hrec ‹_›
    · exact absurd hrec.2.2.1 ‹_›

theorem viewObj_loaded {st : Store} {a : Addr} {o : Obj} (h : st.getAccount a = some o) :
    o.addr = a ∧ viewObj st o =
      ⟨o.nonce, st.balOf a, o.codeHash, if o.codeHash = 0 then 0 else st.codeAt o.codeHash, st.slot a, st.slot a, false⟩ := by
  obtain ⟨n, hh, rfl, -⟩ := getAccount_eq h
  exact ⟨rfl, rfl⟩

theorem store_view_none {st : Store} {a : Addr} (h : st.view a = none) : st.getAccount a = none ∧ st.balOf a = 0 := by
  simp only [Store.view, Option.map_eq_none_iff] at h
  refine ⟨h, ?_⟩
  unfold Store.getAccount at h
  split at h
  · cases h
  · split at h
    · assumption
    · cases h

/-- which original values are cached: address ↦ slot ↦ cached? -/
def Impl.okOf (s : Impl) (a : Addr) (k : Key) : Bool :=
  match alookup a s.objs with
  | some o => (alookup k o.origin).isSome
  | none => false

theorem okOf_cached {s : Impl} {a : Addr} {o : Obj} (h : alookup a s.objs = some o) (k : Key) :
    s.okOf a k = (alookup k o.origin).isSome := by simp [Impl.okOf, h]

theorem okOf_congr {s s2 : Impl} (hobjs : s2.objs = s.objs) : s2.okOf = s.okOf := by
  funext b k; simp [Impl.okOf, hobjs]

theorem okOf_setObj (s : Impl) (o : Obj) (b : Addr) (k : Key) :
    (s.setObj o).okOf b k = if b = o.addr then (alookup k o.origin).isSome else s.okOf b k := by
  simp only [Impl.okOf, Impl.setObj, alookup_upsert]
  by_cases hb : b = o.addr <;> simp [hb]

theorem view_of_cached {s : Impl} {a : Addr} {o : Obj} (h : alookup a s.objs = some o) (hl : o.deleted = false) :
    s.view a = some (viewObj s.store o) := by
  simp [Impl.view, h, hl]

theorem view_of_uncached (s : Impl) (a : Addr) (h : alookup a s.objs = none) : s.view a = s.store.view a := by
  simp [Impl.view, h]

theorem view_none_uncached {s : Impl} (hc : CInv s) {a : Addr} (h : s.view a = none) :
    alookup a s.objs = none ∧ s.store.view a = none := by
  cases hl : alookup a s.objs with
  | some o =>
    have := view_of_cached hl (hc.objs a o hl).2.live
    rw [h] at this; cases this
  | none => exact ⟨rfl, by rw [← view_of_uncached s a hl]; exact h⟩

/-- frame: `getObj` only ever adds a clean object to the cache -/
structure SameBut (s s1 : Impl) : Prop where
  store : s1.store = s.store
  journal : s1.journal = s.journal
  revisions : s1.revisions = s.revisions
  nextRev : s1.nextRev = s.nextRev
  refund : s1.refund = s.refund
  thash : s1.thash = s.thash
  logs : s1.logs = s.logs
  logSize : s1.logSize = s.logSize
  alAddrs : s1.alAddrs = s.alAddrs
  alSlots : s1.alSlots = s.alSlots

theorem SameBut.refl (s : Impl) : SameBut s s := ⟨rfl, rfl, rfl, rfl, rfl, rfl, rfl, rfl, rfl, rfl⟩

/-- everything but the object cache and the journal is unchanged -/
structure SameRest (s s1 : Impl) : Prop where
  store : s1.store = s.store
  revisions : s1.revisions = s.revisions
  nextRev : s1.nextRev = s.nextRev
  refund : s1.refund = s.refund
  thash : s1.thash = s.thash
  logs : s1.logs = s.logs
  logSize : s1.logSize = s.logSize
  alAddrs : s1.alAddrs = s.alAddrs
  alSlots : s1.alSlots = s.alSlots

theorem SameBut.toRest {s s1 : Impl} (h : SameBut s s1) : SameRest s s1 :=
  { h with }

theorem absI_of_sameRest {s s1 : Impl} (h : SameRest s s1) (hv : s1.view = s.view) : absI s1 = absI s := by
  simp [absI, hv, h.refund, h.logs, h.logSize, h.alAddrs, h.alSlots]

theorem setObj_view (s : Impl) {o : Obj} (hl : o.deleted = false) :
    (s.setObj o).view = updF s.view o.addr (some (viewObj s.store o)) :=
  eq_updF (by simp [Impl.setObj, Impl.view, hl])
    fun b hb => by simp only [Impl.setObj, Impl.view, alookup_upsert_ne _ _ _ _ hb]

theorem absI_setObj (s : Impl) {o : Obj} (hl : o.deleted = false) :
    absI (s.setObj o) = { absI s with acct := updF (absI s).acct o.addr (some (viewObj s.store o)) } := by
  simp only [absI, setObj_view s hl]
  rfl

theorem setObj_cinv {s : Impl} (hc : CInv s) {o : Obj} (hok : ObjOK s.store o) : CInv (s.setObj o) := by
  refine ⟨?_, nodup_akeys_upsert _ _ _ hc.nodup, hc.store⟩
  intro b o' hb
  simp only [Impl.setObj, alookup_upsert] at hb
  by_cases hba : b = o.addr
  · subst hba; simp at hb; subst hb; exact ⟨rfl, hok⟩
  · simp [hba] at hb; exact hc.objs b o' hb

/-- `s1` is `s` with more clean objects or original values cached: nothing the interface or a later
    revert can tell from `s` -/
structure Recached (s s1 : Impl) : Prop where
  cinv : CInv s1
  same : SameBut s s1
  view : s1.view = s.view
  okOf : ∀ b k, s.okOf b k = true → s1.okOf b k = true

theorem Recached.refl {s : Impl} (hc : CInv s) : Recached s s := ⟨hc, SameBut.refl s, rfl, fun _ _ h => h⟩

theorem Recached.abs {s s1 : Impl} (h : Recached s s1) : absI s1 = absI s := absI_of_sameRest h.same.toRest h.view

theorem Recached.setObj {s : Impl} (hc : CInv s) {o : Obj} (hok : ObjOK s.store o)
    (hv : s.view o.addr = some (viewObj s.store o))
    (horig : ∀ k, s.okOf o.addr k = true → (alookup k o.origin).isSome = true) : Recached s (s.setObj o) := by
  refine ⟨setObj_cinv hc hok, ⟨rfl, rfl, rfl, rfl, rfl, rfl, rfl, rfl, rfl, rfl⟩, ?_, ?_⟩
  · rw [setObj_view s hok.live, ← hv, updF_self]
  · intro b k hb
    rw [okOf_setObj]
    split
    · subst_vars; exact horig k hb
    · exact hb

/-- `getStateObject`: the account the address shows, cached afterwards -/
theorem getObj_spec {s : Impl} (hc : CInv s) (a : Addr) {s1 : Impl} {ro : Option Obj} (h : s.getObj a = (s1, ro)) :
    Recached s s1 ∧ s.view a = ro.map (viewObj s.store) ∧ (ro = none → s1 = s) ∧
    ∀ o, ro = some o → alookup a s1.objs = some o ∧ o.addr = a ∧ ObjOK s.store o := by
  unfold Impl.getObj at h
  cases hl : alookup a s.objs with
  | some o =>
    have ho := hc.objs a o hl
    simp only [hl, ho.2.live, Bool.false_eq_true, if_false] at h
    cases h
    exact ⟨Recached.refl hc, view_of_cached hl ho.2.live, (fun h => nomatch h), fun o' h => by cases h; exact ⟨hl, ho.1, ho.2⟩⟩
  | none =>
    have hv := view_of_uncached s a hl
    simp only [hl] at h
    cases hg : s.store.getAccount a with
    | none =>
      simp only [hg] at h; cases h
      exact ⟨Recached.refl hc, by rw [hv, Store.view, hg], fun _ => rfl, fun _ h => nomatch h⟩
    | some o =>
      simp only [hg] at h; cases h
      have hok := getAccount_ok hc.store hg
      obtain rfl : o.addr = a := (viewObj_loaded hg).1
      rw [Store.view, hg] at hv
      refine ⟨Recached.setObj hc hok hv fun k hk => ?_, hv, (fun h => nomatch h), fun o' h => by cases h; exact ⟨by simp, rfl, hok⟩⟩
      simp [Impl.okOf, hl] at hk

@[simp] theorem jappend_eq (s : Impl) (e : Entry) : s.jappend e = some { s with journal := s.journal.append e } := rfl

def Impl.jappends (s : Impl) (el : List Entry) : Impl := { s with journal := el.foldl Journal.append s.journal }

theorem foldl_append_entries (el : List Entry) (j : Journal) : (el.foldl Journal.append j).entries = j.entries ++ el := by
  induction el generalizing j with
  | nil => simp
  | cons e t ih => simp [ih, append_entries]

theorem JCnt.appends {j : Journal} (h : JCnt j) (el : List Entry) : JCnt (el.foldl Journal.append j) :=
  List.foldlRecOn el _ h fun _ h e _ => h.append e

/-! ## every dirty slot has its original value cached

  `commitState` skips a dirty slot whose original value is not cached.  `SetState` caches it before
  it makes the slot dirty; the undo of a `storageChange` writes the dirty slot of whatever object
  stands at the address then.  `OOK` says that object has the slot's origin cached: it follows the
  state objects through `createObject` / `resetObject` entries (`undoF`). -/

def undoF : Entry → (Addr → Key → Bool) → (Addr → Key → Bool)
  | .createObject a, F => updF F a (fun _ => false)
  | .resetObject prev, F => updF F prev.addr (fun k => (alookup k prev.origin).isSome)
  | _, F => F

def EntrySupp (F : Addr → Key → Bool) : Entry → Prop
  | .storage a k _ => F a k = true
  | _ => True

/-- entries most recent first -/
def OOK : (Addr → Key → Bool) → List Entry → Prop
  | _, [] => True
  | F, e :: rest => EntrySupp F e ∧ OOK (undoF e F) rest

theorem undoF_mono (e : Entry) {F F' : Addr → Key → Bool} (h : ∀ a k, F a k = true → F' a k = true) :
    ∀ a k, undoF e F a k = true → undoF e F' a k = true := by
  intro a k
  cases e <;> simp only [undoF] <;> try exact h a k
  · rename_i b; by_cases hb : a = b <;> simp [updF, hb]; exact h a k
  · rename_i prev; by_cases hb : a = prev.addr <;> simp [updF, hb]; exact h a k

theorem OOK_mono : ∀ {l : List Entry} {F F' : Addr → Key → Bool}, (∀ a k, F a k = true → F' a k = true) → OOK F l → OOK F' l
  | [], _, _, _, _ => trivial
  | e :: rest, F, F', h, hk => by
    refine ⟨?_, OOK_mono (undoF_mono e h) hk.2⟩
    cases e <;> try trivial
    exact h _ _ hk.1

def Entry.plain : Entry → Bool
  | .createObject _ => false
  | .resetObject _ => false
  | _ => true

theorem undoF_plain (e : Entry) (F : Addr → Key → Bool) (h : e.plain = true) : undoF e F = F := by
  cases e <;> simp [Entry.plain] at h <;> rfl

theorem OOK_plain {F : Addr → Key → Bool} {rest : List Entry} : ∀ (el : List Entry),
    (∀ e ∈ el, e.plain = true ∧ EntrySupp F e) → OOK F rest → OOK F (el ++ rest)
  | [], _, h => h
  | e :: t, hel, h => by
    have he := hel e (by simp)
    refine ⟨he.2, ?_⟩
    rw [undoF_plain e F he.1]
    exact OOK_plain t (fun e' he' => hel e' (List.mem_cons_of_mem _ he')) h

/-- static side conditions of journal entries (the records do not change within a transaction) -/
def EntryStatic (st : Store) : Entry → Prop
  | .createObject a => st.view a = none       -- its revert only drops the cached object: the records must show no account
  | .resetObject prev => ObjOK st prev
  | .code _ pc ph => pc = ph
  | _ => True

def EntriesOK (st : Store) (es : List Entry) : Prop := ∀ e ∈ es, EntryStatic st e

theorem entriesOK_append {st : Store} {l1 l2 : List Entry} : EntriesOK st (l1 ++ l2) ↔ EntriesOK st l1 ∧ EntriesOK st l2 := by
  simp only [EntriesOK, List.mem_append, or_imp, forall_and]

theorem entriesOK_nil (st : Store) : EntriesOK st [] := fun _ h => nomatch h

theorem entriesOK_cons {st : Store} {e : Entry} {l : List Entry} : EntriesOK st (e :: l) ↔ EntryStatic st e ∧ EntriesOK st l :=
  List.forall_mem_cons

end OLP.Evm
