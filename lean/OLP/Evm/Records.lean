/-
  C16 — what `Finalise` does to the persistent records: `commitState` of one object, the body of the
  loop for one object, the whole loop.
-/
import OLP.Evm.Abs

namespace OLP.Evm

theorem slot_setSlot (st : Store) (a : Addr) (k : Key) (v : Val) (a' : Addr) (k' : Key) :
    (st.setSlot a k v).slot a' k' = if a' = a ∧ k' = k then v else st.slot a' k' := by
  simp only [Store.slot, Store.setSlot, alookup_upsert, Prod.mk.injEq]
  by_cases h : a' = a ∧ k' = k <;> simp [h]

theorem slot_delSlot (st : Store) (a : Addr) (k : Key) (a' : Addr) (k' : Key) :
    (st.delSlot a k).slot a' k' = if a' = a ∧ k' = k then 0 else st.slot a' k' := by
  simp only [Store.slot, Store.delSlot, alookup_aerase, Prod.mk.injEq]
  by_cases h : a' = a ∧ k' = k <;> simp [h]

theorem slot_delStorage (st : Store) (a a' : Addr) (k' : Key) :
    (st.delStorage a).slot a' k' = if a' = a then 0 else st.slot a' k' := by
  have := alookup_filter_key (fun x => x.1 != a) st.stor (a', k')
  simp only [Store.slot, Store.delStorage, this]
  by_cases h : a' = a <;> simp [h]

theorem baseStore_slot (st : Store) (o : Obj) (a' : Addr) (k : Key) :
    (o.baseStore st).slot a' k = if a' = o.addr then o.base st k else st.slot a' k := by
  unfold Obj.baseStore Obj.base
  by_cases hc : o.created = true
  · simp only [hc, if_true, slot_delStorage]
  · simp only [hc]; split <;> simp_all

/-- the records other than storage slots -/
structure Store.sameMeta (st st2 : Store) : Prop where
  acct : st2.acct = st.acct
  bal : st2.bal = st.bal
  code : st2.code = st.code

theorem Store.sameMeta.trans {st st2 st3 : Store} (h1 : st.sameMeta st2) (h2 : st2.sameMeta st3) : st.sameMeta st3 :=
  ⟨h2.acct.trans h1.acct, h2.bal.trans h1.bal, h2.code.trans h1.code⟩

theorem baseStore_meta (st : Store) (o : Obj) : st.sameMeta (o.baseStore st) := by
  unfold Obj.baseStore; split <;> exact ⟨rfl, rfl, rfl⟩

/-- one iteration of `commitState` on a dirty slot whose original value is cached and is the record:
    the record becomes the dirty value, whichever of the three branches is taken -/
theorem commitSlot_spec {a : Addr} {st : Store} {org : List (Key × Val)} {k : Key} (v : Val) {ov : Val}
    (h : alookup k org = some ov) (hov : ov = st.slot a k) :
    st.sameMeta (commitSlot a (st, org) (k, v)).1 ∧
    (∀ a' k', (commitSlot a (st, org) (k, v)).1.slot a' k' = if a' = a ∧ k' = k then v else st.slot a' k') ∧
    ∀ k', k' ≠ k → alookup k' (commitSlot a (st, org) (k, v)).2 = alookup k' org := by
  by_cases hv : v = 0
  · subst hv
    have : commitSlot a (st, org) (k, 0) = (st.delSlot a k, aerase org k) := by simp [commitSlot, h]
    rw [this]
    exact ⟨⟨rfl, rfl, rfl⟩, slot_delSlot st a k, fun k' hk' => alookup_aerase_ne _ _ _ hk'⟩
  · by_cases hvo : v = ov
    · subst hvo
      have : commitSlot a (st, org) (k, v) = (st, org) := by simp [commitSlot, h, hv]
      rw [this]
      refine ⟨⟨rfl, rfl, rfl⟩, fun a' k' => ?_, fun _ _ => rfl⟩
      split
      · rename_i hak; rw [hak.1, hak.2, ← hov]
      · rfl
    · have : commitSlot a (st, org) (k, v) = (st.setSlot a k v, upsert org k v) := by simp [commitSlot, h, hv, hvo]
      rw [this]
      exact ⟨⟨rfl, rfl, rfl⟩, slot_setSlot st a k v, fun k' hk' => alookup_upsert_ne _ _ _ _ hk'⟩

theorem commit_fold (a : Addr) : ∀ (d : List (Key × Val)) (st : Store) (org : List (Key × Val)),
    (akeys d).Nodup →
    (∀ k v, alookup k d = some v → (alookup k org).isSome) →
    (∀ k ov, alookup k org = some ov → k ∈ akeys d → ov = st.slot a k) →
    st.sameMeta (d.foldl (commitSlot a) (st, org)).1 ∧
    ∀ a' k', (d.foldl (commitSlot a) (st, org)).1.slot a' k' =
      if a' = a then (match alookup k' d with | some v => v | none => st.slot a k') else st.slot a' k' := by
  intro d
  induction d with
  | nil =>
    intro st org _ _ _
    exact ⟨⟨rfl, rfl, rfl⟩, fun a' k' => by by_cases ha : a' = a <;> simp [ha, alookup]⟩
  | cons hd t ih =>
    intro st org hnd hdho hcoh
    obtain ⟨k, v⟩ := hd
    have hnd' : k ∉ akeys t ∧ (akeys t).Nodup := by simpa [akeys] using hnd
    obtain ⟨ov, hov⟩ := Option.isSome_iff_exists.mp (hdho k v (by simp [alookup]))
    obtain ⟨hmeta, hslot, horg⟩ := commitSlot_spec v hov (hcoh k ov hov (by simp [akeys]))
    have hne : ∀ k', k' ∈ akeys t → k' ≠ k := fun k' hm e => hnd'.1 (e ▸ hm)
    rw [List.foldl_cons]
    obtain ⟨hm2, hs2⟩ := ih (commitSlot a (st, org) (k, v)).1 (commitSlot a (st, org) (k, v)).2 hnd'.2
      (fun k' v' hk' => by
        have hk := hne k' (mem_akeys_of_alookup hk')
        rw [horg k' hk]
        exact hdho k' v' (by simp [alookup, hk.symm, hk']))
      (fun k' ov' hk' hmem => by
        rw [horg k' (hne k' hmem)] at hk'
        rw [hslot a k']
        simp only [hne k' hmem, and_false, if_false]
        exact hcoh k' ov' hk' (by simp [akeys]; exact Or.inr (by simpa [akeys] using hmem)))
    refine ⟨hmeta.trans hm2, fun a' k' => ?_⟩
    rw [hs2 a' k', hslot, hslot]
    by_cases ha : a' = a
    · by_cases hk : k = k'
      · subst hk; simp [alookup, ha, alookup_of_not_mem t k hnd'.1]
      · simp [alookup, ha, hk, Ne.symm hk]
    · simp [ha]

theorem commitState_spec {st : Store} {o : Obj} (hnd : (akeys o.dirty).Nodup) (hdho : o.dirtyHasOrigin = true)
    (hcoh : ∀ k ov, alookup k o.origin = some ov → ov = st.slot o.addr k) :
    st.sameMeta (o.commitState st) ∧
    ∀ a' k', (o.commitState st).slot a' k' =
      if a' = o.addr then (match alookup k' o.dirty with | some v => v | none => st.slot o.addr k') else st.slot a' k' :=
  commit_fold o.addr o.dirty st o.origin hnd
    (fun k v hk => by
      simp only [Obj.dirtyHasOrigin, List.all_eq_true] at hdho
      exact hdho (k, v) (mem_of_alookup hk))
    (fun k ov hk _ => hcoh k ov hk)

structure RecEq (st st2 : Store) (b : Addr) : Prop where
  acct : alookup b st2.acct = alookup b st.acct
  bal : st2.balOf b = st.balOf b
  slot : ∀ k, st2.slot b k = st.slot b k

theorem RecEq.refl (st : Store) (b : Addr) : RecEq st st b := ⟨rfl, rfl, fun _ => rfl⟩
theorem RecEq.trans {st st2 st3 : Store} {b : Addr} (h1 : RecEq st st2 b) (h2 : RecEq st2 st3 b) : RecEq st st3 b :=
  ⟨h2.acct.trans h1.acct, h2.bal.trans h1.bal, fun k => (h2.slot k).trans (h1.slot k)⟩

theorem codeAt_setCode (c : Cfg) (st : Store) (h code h' : Code) (ht : code ≠ c.tomb) :
    (st.setCode c h code).codeAt h' = if h' = h then code else st.codeAt h' := by
  unfold Store.setCode Store.codeAt
  simp only [ht, if_false, alookup_upsert]
  by_cases hh : h' = h <;> simp [hh]

theorem setCode_recs (c : Cfg) (st : Store) (h code : Code) :
    (st.setCode c h code).acct = st.acct ∧ (st.setCode c h code).bal = st.bal ∧ (st.setCode c h code).stor = st.stor := by
  unfold Store.setCode
  split <;> exact ⟨rfl, rfl, rfl⟩

theorem balOf_removeAccount (st : Store) (a b : Addr) :
    (st.removeAccount a).balOf b = if b = a then 0 else st.balOf b := by
  unfold Store.removeAccount
  by_cases hz : st.balOf a = 0
  · simp only [hz, if_true]
    split
    · subst_vars; exact hz
    · rfl
  · simp only [Store.balOf, show ¬ (alookup a st.bal).getD 0 = 0 from hz, if_false, alookup_upsert]
    split <;> rfl

theorem balOf_setAccount (st : Store) (o : Obj) (b : Addr) :
    (st.setAccount o).balOf b = if b = o.addr then o.bal else st.balOf b := by
  simp only [Store.balOf, Store.setAccount, alookup_upsert]
  split <;> rfl

/-- `Finalise` deletes this object -/
def finDel (ds : List Addr) (ao : Addr × Obj) : Bool := ao.2.suicided || (decide (ao.1 ∈ ds) && ao.2.empty)

theorem finaliseObj_del (c : Cfg) (ds : List Addr) (st : Store) (ao : Addr × Obj) (h : finDel ds ao = true) :
    finaliseObj c true ds st ao = (st.removeAccount ao.2.addr).delStorage ao.2.addr := by
  simp only [finDel] at h
  simp [finaliseObj, h]

theorem finDel_false {ds : List Addr} {ao : Addr × Obj} (h : finDel ds ao = false) :
    ao.2.suicided = false ∧ (ao.1 ∈ ds → ao.2.empty = false) := by
  simp only [finDel, Bool.or_eq_false_iff, Bool.and_eq_false_iff, decide_eq_false_iff_not] at h
  exact ⟨h.1, fun hd => h.2.resolve_left (not_not_intro hd)⟩

theorem finaliseObj_commit (c : Cfg) (ds : List Addr) (st : Store) (ao : Addr × Obj) (h : finDel ds ao = false)
    (hd : ao.1 ∈ ds) :
    finaliseObj c true ds st ao =
      (if ao.2.code ≠ 0 && ao.2.dirtyCode then (ao.2.commitState (ao.2.baseStore st)).setCode c ao.2.codeHash ao.2.code
       else ao.2.commitState (ao.2.baseStore st)).setAccount ao.2 := by
  simp [finaliseObj, (finDel_false h).1, (finDel_false h).2 hd, hd]

theorem finaliseObj_skip (c : Cfg) (ds : List Addr) (st : Store) (ao : Addr × Obj) (h : finDel ds ao = false)
    (hd : ao.1 ∉ ds) : finaliseObj c true ds st ao = st := by
  simp [finaliseObj, (finDel_false h).1, hd]

structure FinHyp (c : Cfg) (ds : List Addr) (st : Store) (ao : Addr × Obj) : Prop where
  nd : (akeys ao.2.dirty).Nodup
  dho : ao.2.dirtyHasOrigin = true
  coh : ∀ k ov, alookup k ao.2.origin = some ov → ov = ao.2.base st k
  ce : ao.2.code ≠ 0 → ao.2.code = ao.2.codeHash
  nf : commitFails c true ds ao = false

theorem base_congr {st st2 : Store} {o : Obj} (hs : ∀ k, st2.slot o.addr k = st.slot o.addr k) (k : Key) :
    o.base st2 k = o.base st k := by
  simp only [Obj.base, hs k]

theorem FinHyp.transfer {c : Cfg} {ds : List Addr} {st st2 : Store} {ao : Addr × Obj} (h : FinHyp c ds st ao)
    (hs : ∀ k, st2.slot ao.2.addr k = st.slot ao.2.addr k) : FinHyp c ds st2 ao :=
  { h with coh := fun k ov hk => by rw [base_congr hs k]; exact h.coh k ov hk }

theorem slotView_congr {st st2 : Store} {o : Obj} (hs : ∀ k, st2.slot o.addr k = st.slot o.addr k) (k : Key) :
    o.slotView st2 k = o.slotView st k := by
  simp only [Obj.slotView, base_congr hs k]

structure Own (ds : List Addr) (st st' : Store) (ao : Addr × Obj) : Prop where
  del : finDel ds ao = true → alookup ao.2.addr st'.acct = none ∧ st'.balOf ao.2.addr = 0 ∧
      ∀ k, st'.slot ao.2.addr k = 0
  commit : finDel ds ao = false → ao.1 ∈ ds → alookup ao.2.addr st'.acct = some (ao.2.nonce, ao.2.codeHash) ∧
      st'.balOf ao.2.addr = ao.2.bal ∧ ∀ k, st'.slot ao.2.addr k = ao.2.slotView st k
  skip : finDel ds ao = false → ao.1 ∉ ds → RecEq st st' ao.2.addr

/-- the body of the loop for one object: the records of other addresses stay, those of its own address
    are deleted, written or left; the code records only grow, by codes stored under themselves -/
theorem finaliseObj_spec {c : Cfg} {ds : List Addr} {st : Store} {ao : Addr × Obj} (h : FinHyp c ds st ao) :
    (∀ b, b ≠ ao.2.addr → RecEq st (finaliseObj c true ds st ao) b) ∧ Own ds st (finaliseObj c true ds st ao) ao ∧
    (∀ hh, st.codeAt hh = hh → (finaliseObj c true ds st ao).codeAt hh = hh) ∧
    (finDel ds ao = false → ao.1 ∈ ds → ao.2.code ≠ 0 → ao.2.dirtyCode = true →
      (finaliseObj c true ds st ao).codeAt ao.2.codeHash = ao.2.codeHash) := by
  have hno : ∀ {P : Prop} {b : Bool}, finDel ds ao = b → finDel ds ao = !b → P := fun {_ b} h1 h2 => by
    rw [h1] at h2; cases b <;> cases h2
  rcases Bool.eq_false_or_eq_true (finDel ds ao) with hdel | hdel
  · rw [finaliseObj_del c ds st ao hdel]
    have hbal : ∀ b, ((st.removeAccount ao.2.addr).delStorage ao.2.addr).balOf b = if b = ao.2.addr then 0 else st.balOf b :=
      balOf_removeAccount st _
    exact ⟨fun b hb => ⟨by simp [Store.delStorage, Store.removeAccount, alookup_aerase, hb], by rw [hbal]; simp [hb],
        fun k => by rw [slot_delStorage]; simp only [hb, if_false]; rfl⟩,
      ⟨fun _ => ⟨by simp [Store.delStorage, Store.removeAccount], by rw [hbal]; simp, fun k => by rw [slot_delStorage]; simp⟩,
        fun hc => hno hdel hc, fun hc => hno hdel hc⟩, fun _ hh => hh, fun hc => hno hdel hc⟩
  · by_cases hd : ao.1 ∈ ds
    · rw [finaliseObj_commit c ds st ao hdel hd]
      obtain ⟨hmeta, hslot⟩ := commitState_spec (st := ao.2.baseStore st) h.nd h.dho
        (fun k ov hk => by rw [baseStore_slot, if_pos rfl]; exact h.coh k ov hk)
      have hmeta := (baseStore_meta st ao.2).trans hmeta
      -- the store before `SetAccount`: the committed storage, with or without the new code record
      generalize hX : (if (ao.2.code ≠ 0 && ao.2.dirtyCode) = true then
          (ao.2.commitState (ao.2.baseStore st)).setCode c ao.2.codeHash ao.2.code
        else ao.2.commitState (ao.2.baseStore st)) = X
      have hXr : X.acct = st.acct ∧ X.bal = st.bal ∧ X.stor = (ao.2.commitState (ao.2.baseStore st)).stor := by
        rw [← hX]; split
        · have := setCode_recs c (ao.2.commitState (ao.2.baseStore st)) ao.2.codeHash ao.2.code
          exact ⟨this.1.trans hmeta.acct, this.2.1.trans hmeta.bal, this.2.2⟩
        · exact ⟨hmeta.acct, hmeta.bal, rfl⟩
      have hXs : ∀ b k, (X.setAccount ao.2).slot b k =
          if b = ao.2.addr then ao.2.slotView st k else st.slot b k := fun b k => by
        have : (X.setAccount ao.2).slot b k = (ao.2.commitState (ao.2.baseStore st)).slot b k := by
          simp [Store.slot, Store.setAccount, hXr.2.2]
        rw [this, hslot]
        split
        · simp only [Obj.slotView, baseStore_slot, if_true]; rfl
        · rw [baseStore_slot, if_neg ‹_›]
      have hXc : ∀ hh, (X.setAccount ao.2).codeAt hh =
          if (ao.2.code ≠ 0 && ao.2.dirtyCode) = true ∧ hh = ao.2.codeHash then ao.2.code else st.codeAt hh := fun hh => by
        show X.codeAt hh = _
        rw [← hX]
        by_cases hcd : (ao.2.code ≠ 0 && ao.2.dirtyCode) = true
        · have hcd' : ao.2.code ≠ 0 ∧ ao.2.dirtyCode = true := by simpa using hcd
          have hnt : ¬ ao.2.code = c.tomb := fun e => by
            have := h.nf
            simp [commitFails, (finDel_false hdel).1, (finDel_false hdel).2 hd, hd, hcd'.2, e] at this
            exact hcd'.1 (e.trans this)
          simp only [hcd, if_true, true_and, codeAt_setCode _ _ _ _ _ hnt]
          split <;> simp [Store.codeAt, hmeta.code]
        · simp only [hcd, Bool.false_eq_true, if_false, false_and]
          simp [Store.codeAt, hmeta.code]
      refine ⟨fun b hb => ⟨?_, ?_, fun k => by rw [hXs, if_neg hb]⟩,
        ⟨fun hc => hno hdel hc, fun _ _ => ⟨?_, ?_, fun k => by rw [hXs, if_pos rfl]⟩, fun _ hnd => absurd hd hnd⟩,
        fun hh hcode => ?_, fun _ _ h1 h2 => ?_⟩
      · simp only [Store.setAccount, alookup_upsert_ne _ _ _ _ hb, hXr.1]
      · rw [balOf_setAccount, if_neg hb]; simp [Store.balOf, hXr.2.1]
      · simp [Store.setAccount]
      · rw [balOf_setAccount, if_pos rfl]
      · rw [hXc]; split
        · rename_i hc; rw [hc.2]; exact h.ce (by have := hc.1; simp at this; exact this.1)
        · exact hcode
      · rw [hXc, if_pos ⟨by simp [h1, h2], rfl⟩]; exact h.ce h1
    · rw [finaliseObj_skip c ds st ao hdel hd]
      exact ⟨fun b _ => RecEq.refl st b, ⟨fun hc => hno hdel hc, fun _ hd' => absurd hd' hd, fun _ _ => RecEq.refl st _⟩,
        fun _ hh => hh, fun _ hd' => absurd hd' hd⟩

/-- carrying an object's result over the rest of the loop, which leaves the records of its address alone -/
theorem Own.later {ds : List Addr} {st st2 st3 : Store} {ao : Addr × Obj} (h : Own ds st st2 ao)
    (hr : RecEq st2 st3 ao.2.addr) : Own ds st st3 ao :=
  ⟨fun hd => ⟨hr.acct.trans (h.del hd).1, hr.bal.trans (h.del hd).2.1, fun k => (hr.slot k).trans ((h.del hd).2.2 k)⟩,
   fun hd hm => ⟨hr.acct.trans (h.commit hd hm).1, hr.bal.trans (h.commit hd hm).2.1,
     fun k => (hr.slot k).trans ((h.commit hd hm).2.2 k)⟩,
   fun hd hm => (h.skip hd hm).trans hr⟩

/-- and over an earlier part of the loop that left them alone -/
theorem Own.earlier {ds : List Addr} {st st2 st3 : Store} {ao : Addr × Obj} (h : Own ds st2 st3 ao)
    (hr : RecEq st st2 ao.2.addr) : Own ds st st3 ao :=
  ⟨h.del, fun hd hm => ⟨(h.commit hd hm).1, (h.commit hd hm).2.1, fun k => ((h.commit hd hm).2.2 k).trans (slotView_congr hr.slot k)⟩,
   fun hd hm => hr.trans (h.skip hd hm)⟩

theorem fold_finalise (c : Cfg) (ds : List Addr) : ∀ (objs : List (Addr × Obj)) (st : Store),
    (objs.map (·.2.addr)).Nodup → (∀ ao ∈ objs, FinHyp c ds st ao) →
    (∀ b, b ∉ objs.map (·.2.addr) → RecEq st (objs.foldl (finaliseObj c true ds) st) b) ∧
    (∀ ao ∈ objs, Own ds st (objs.foldl (finaliseObj c true ds) st) ao) ∧
    (∀ h, st.codeAt h = h → (objs.foldl (finaliseObj c true ds) st).codeAt h = h) ∧
    (∀ ao ∈ objs, finDel ds ao = false → ao.1 ∈ ds → ao.2.code ≠ 0 → ao.2.dirtyCode = true →
      (objs.foldl (finaliseObj c true ds) st).codeAt ao.2.codeHash = ao.2.codeHash) := by
  intro objs
  induction objs with
  | nil => intro st _ _; exact ⟨fun b _ => RecEq.refl st b, (fun _ h => nomatch h), fun h hh => hh, fun _ h => nomatch h⟩
  | cons hd t ih =>
    intro st hnd hfh
    simp only [List.map_cons, List.nodup_cons] at hnd
    obtain ⟨hother, hown, hcodes, hcode⟩ := finaliseObj_spec (hfh hd (by simp))
    have hne : ∀ ao ∈ t, ao.2.addr ≠ hd.2.addr := fun ao hao e => hnd.1 (e ▸ List.mem_map_of_mem hao)
    obtain ⟨ih1, ih2, ih3, ih4⟩ := ih (finaliseObj c true ds st hd) hnd.2 fun ao hao =>
      (hfh ao (List.mem_cons_of_mem _ hao)).transfer (hother ao.2.addr (hne ao hao)).slot
    simp only [List.foldl_cons, List.map_cons, List.mem_cons, not_or, forall_eq_or_imp]
    exact ⟨fun b hb => (hother b hb.1).trans (ih1 b hb.2),
      ⟨hown.later (ih1 _ hnd.1), fun ao hao => (ih2 ao hao).earlier (hother _ (hne ao hao))⟩,
      fun h hh => ih3 h (hcodes h hh),
      ⟨fun hdel hm hc hdc => ih3 _ (hcode hdel hm hc hdc), ih4⟩⟩

end OLP.Evm
