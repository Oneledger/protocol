/-
  C16 — one interface call keeps the simulation: the case distinction over the calls.
-/
import OLP.Evm.Accounts
import OLP.Evm.Plain
import OLP.Evm.Revert
import OLP.Evm.Finalise

namespace OLP.Evm

theorem withCur_cur (r : Ref) : r.withCur r.cur = r := rfl

variable {s : Impl} {r : Ref}

/-- a call through `orPanic` that cannot fail, where the reference returns nothing -/
theorem orPanic_ok {r' : Ref} {x : Option Impl} {out : Out} (h : ∃ s', x = some s' ∧ Sim s' r') (hout : out = .unit) :
    (orPanic s x).2 = out ∧ ((orPanic s x).2 ≠ .panic → Sim (orPanic s x).1 r') := by
  obtain ⟨s', rfl, hs⟩ := h
  exact ⟨hout.symm, fun _ => hs⟩

/-- a call through `orPanic` that fails exactly when the reference panics -/
theorem orPanic_shared {r' : Ref} {x : Option Impl} {out : Out}
    (h : (x = none ∧ out = .panic) ∨ ∃ s', x = some s' ∧ out = .unit ∧ Sim s' r') :
    (orPanic s x).2 = out ∧ ((orPanic s x).2 ≠ .panic → Sim (orPanic s x).1 r') := by
  rcases h with ⟨rfl, hout⟩ | ⟨s', rfl, hout, hs⟩
  · exact ⟨hout.symm, fun hc => absurd rfl hc⟩
  · exact ⟨hout.symm, fun _ => hs⟩

/-- a getter: the adapter's result is `G` of what the account shows, and so is the reference's -/
theorem getter_ok (h : Sim s r) {a : Addr} {f : Impl → Option Obj → Impl × Out} (G : Option AView → Out)
    {out : Out} (hf : ∀ s1 ro, f s1 ro = (s1, G (ro.map (viewObj s1.store)))) (hout : out = G (r.cur.view a)) :
    (s.readObj a f).2 = out ∧ ((s.readObj a f).2 ≠ .panic → Sim (s.readObj a f).1 r) :=
  ⟨(sim_getter h a f G hf).1.trans hout.symm, fun _ => (sim_getter h a f G hf).2⟩

theorem sim_step (c : Cfg) (h : Sim s r) (op : Op) (hsafe : s.safeStep c op = true) :
    (s.step c op).2 = (r.step c op).2 ∧ ((s.step c op).2 ≠ .panic → Sim (s.step c op).1 (r.step c op).1) := by
  have hgd : s.guard c op = true := hsafe
  have hf := h.fields
  cases op with
  | createAccount a => exact orPanic_ok (sim_createAccount c h a) rfl
  | setNonce a n => exact orPanic_ok (sim_setNonce c h a n) rfl
  | setCode a code => exact orPanic_ok (sim_setCode c h a code) rfl
  | addLog a p => exact orPanic_ok (sim_addLog c h a p) rfl
  | addAddressToAccessList a => exact orPanic_ok (sim_alAddAddr c h a) rfl
  | addSlotToAccessList a k => exact orPanic_ok (sim_alAddSlot c h a k) rfl
  | addBalance a n => exact orPanic_ok (sim_addBalance c h a n) (by unfold Ref.step; simp only; split <;> (try split) <;> rfl)
  | setState a k v => exact orPanic_ok (sim_setState c h a k v) (by unfold Ref.step; simp only; split <;> rfl)
  | subBalance a n => exact orPanic_shared (sim_subBalance c h a n)
  | revertToSnapshot id =>
    exact orPanic_shared ((sim_revert c h id).imp And.right And.right)
  | suicide a =>
    obtain ⟨s', b, hs, hout, hsim⟩ := sim_suicide c h a
    unfold Impl.step; simp only [hs]
    exact ⟨hout.symm, fun _ => hsim⟩
  | snapshot => exact ⟨(sim_snapshot c h).1.symm, fun _ => (sim_snapshot c h).2⟩
  | getBalance a =>
    exact getter_ok h (fun v => .nat (match v with | some v => v.bal | none => 0)) (fun _ ro => by cases ro <;> rfl)
      (by unfold Ref.step; simp only [RWorld.view]; cases r.cur.get a <;> rfl)
  | getNonce a =>
    exact getter_ok h (fun v => .nat (match v with | some v => v.nonce | none => 0)) (fun _ ro => by cases ro <;> rfl)
      (by unfold Ref.step; simp only [RWorld.view]; cases r.cur.get a <;> rfl)
  | getCodeHash a =>
    exact getter_ok h (fun v => .hash (v.map (·.hash))) (fun _ ro => by cases ro <;> rfl)
      (by unfold Ref.step; simp only [RWorld.view]; cases r.cur.get a <;> rfl)
  | getCode a =>
    exact getter_ok h (fun v => .code (match v with | some v => v.code | none => 0)) (fun _ ro => by cases ro <;> rfl)
      (by unfold Ref.step; simp only [RWorld.view]; cases r.cur.get a <;> rfl)
  | getCodeSize a =>
    -- `o.code`, when there, is what `getCode` returns
    refine getter_ok h (fun v => .nat (match v with | some v => codeLen v.code | none => 0)) (fun s1 ro => ?_)
      (by unfold Ref.step; simp only [RWorld.view]; cases r.cur.get a <;> rfl)
    cases ro with
    | none => rfl
    | some o => simp only [Option.map_some, viewObj, Obj.getCode]; split <;> rfl
  | hasSuicided a =>
    exact getter_ok h (fun v => .bool (match v with | some v => v.suicided | none => false)) (fun _ ro => by cases ro <;> rfl)
      (by unfold Ref.step; simp only [RWorld.view]; cases r.cur.get a <;> rfl)
  | exist a =>
    exact getter_ok h (fun v => .bool v.isSome) (fun _ ro => by cases ro <;> rfl)
      (by unfold Ref.step; simp only [RWorld.view]; cases r.cur.get a <;> rfl)
  | empty a =>
    exact getter_ok h (fun v => .bool (match v with | some v => v.nonce == 0 && v.bal == 0 && v.hash == 0 | none => true))
      (fun _ ro => by cases ro <;> rfl) (by unfold Ref.step; simp only [RWorld.view]; cases r.cur.get a <;> rfl)
  | getCommittedState a k =>
    have := sim_reader h a (fun st o => o.getCommitted st k) (fun v => v.cstor k)
      fun st o hok => (getCommitted_spec st o k hok).1
    exact ⟨this.1.trans (by unfold Ref.step; simp only [RWorld.view]; cases r.cur.get a <;> rfl), fun _ => this.2⟩
  | getState a k =>
    have := sim_reader h a (fun st o => o.getState st k) (fun v => v.stor k)
      fun st o hok => (getState_spec st o k hok).1
    exact ⟨this.1.trans (by unfold Ref.step; simp only [RWorld.view]; cases r.cur.get a <;> rfl), fun _ => this.2⟩
  | addRefund n =>
    unfold Impl.step Ref.step; simp only [jappend_eq, ← hf.refund]
    exact ⟨trivial, fun _ => h.setRefund _⟩
  | subRefund n =>
    unfold Impl.step Ref.step; simp only [jappend_eq, ← hf.refund]
    split
    · exact ⟨rfl, fun hc => absurd rfl hc⟩
    · exact ⟨rfl, fun _ => h.setRefund _⟩
  | getRefund => exact ⟨by unfold Impl.step Ref.step; simp only [hf.refund], fun _ => h⟩
  | addressInAccessList a =>
    exact ⟨by unfold Impl.step Ref.step; simp only [h.mem_alAddrs a], fun _ => h⟩
  | slotInAccessList a k =>
    exact ⟨by unfold Impl.step Ref.step; simp only [h.mem_alAddrs a, h.mem_alSlots (a, k)], fun _ => h⟩
  | getLogs => exact ⟨by unfold Impl.step Ref.step; simp only [hf.logs, h.thash], fun _ => h⟩
  | prepare th =>
    simp only [Impl.guard, Bool.and_eq_true, List.isEmpty_iff] at hgd
    exact ⟨rfl, fun _ => sim_prepare c h th hgd.1 hgd.2⟩
  | reset =>
    simp only [Impl.guard, List.isEmpty_iff] at hgd
    exact ⟨rfl, fun _ => sim_reset c h hgd⟩
  | finalise b =>
    simp only [Impl.guard, Bool.and_eq_true] at hgd
    obtain rfl : b = true := hgd.1
    have hfin := sim_finalise c h hgd.2
    unfold Impl.step; simp only [hfin.1]
    exact ⟨rfl, fun _ => hfin.2.1⟩

end OLP.Evm
