/-
  C16 — the calls that read and change accounts keep the simulation: `getStateObject` and
  `GetOrNewStateObject` on both sides, the setters as one journaled replacement of the cached object,
  `Suicide`, `CreateAccount`, the getters.
-/
import OLP.Evm.Sim

namespace OLP.Evm

section
variable {s : Impl} {r : Ref}

/-- the object of `a` is in the cache and shows the account `x` the world `w` has for `a` -/
structure Cached (s : Impl) (w : RWorld) (a : Addr) (o : Obj) (x : RAcct) : Prop where
  obj : alookup a s.objs = some o
  addr : o.addr = a
  ok : ObjOK s.store o
  view : viewObj s.store o = viewR x
  get : w.get a = some x

theorem Cached.acct {w : RWorld} {a : Addr} {o : Obj} {x : RAcct} (hc : Cached s w a o x) :
    s.view a = some (viewObj s.store o) := view_of_cached hc.obj hc.ok.live

theorem sim_getObj {s1 : Impl} (h : Sim s r) {a : Addr} {ro : Option Obj} (hg : s.getObj a = (s1, ro)) :
    Sim s1 r ∧ ((ro = none ∧ s1 = s ∧ r.cur.get a = none) ∨ ∃ o x, ro = some o ∧ Cached s1 r.cur a o x) := by
  obtain ⟨hrc, hv, hnone, hsome⟩ := getObj_spec h.cinv a hg
  rw [h.view a] at hv
  refine ⟨h.recached hrc, ?_⟩
  cases ro with
  | none => exact Or.inl ⟨rfl, hnone rfl, by simpa using hv⟩
  | some o =>
    obtain ⟨hobj, haddr, hok⟩ := hsome o rfl
    cases hw : r.cur.get a with
    | none => rw [hw] at hv; cases hv
    | some x =>
      rw [hw] at hv
      rw [← hrc.same.store] at hok hv
      exact Or.inr ⟨o, x, rfl, hobj, haddr, hok, (Option.some.inj hv).symm, hw⟩

theorem sim_createNew (h : Sim s r) {a : Addr} (hg : s.getObj a = (s, none)) (hw : r.cur.get a = none) :
    ∃ s1, s.createObject a = some (s1, Obj.make a 0, none) ∧ Sim s1 (r.withCur (r.cur.put a (RAcct.fresh 0))) ∧
      Cached s1 (r.cur.put a (RAcct.fresh 0)) a (Obj.make a 0) (RAcct.fresh 0) := by
  have hvn : s.view a = none := by rw [h.view a, hw]; rfl
  have hun := view_none_uncached h.cinv hvn
  have hbal : s.store.balOf a = 0 := (store_view_none hun.2).2
  refine ⟨_, by simp only [Impl.createObject, hg, hbal, jappend_eq, Option.map_some]; rfl,
    h.mutate a none hvn [.createObject a] (by simp [Entry.dirtied]) (entriesOK_cons.mpr ⟨hun.2, entriesOK_nil _⟩) (Obj.make a 0) (RAcct.fresh 0)
      rfl (objOK_make ..) (viewObj_make ..)
      (fun W => by simp only [List.reverse_cons, List.reverse_nil, List.nil_append, undoAbs, Entry.undo, updF_updF])
      (fun W => ⟨trivial, trivial⟩) ⟨trivial, OOK_mono (fun b k hb => ?_) h.ook⟩,
    by simp [Impl.setObj, Impl.jappends, Obj.make, Obj.fresh], rfl, objOK_make .., viewObj_make .., by simp [RWorld.get, RWorld.put]⟩
  by_cases hba : b = a
  · subst hba; simp [Impl.okOf, hun.1] at hb
  · simpa [undoF, updF, hba] using hb

theorem sim_getOrNew (h : Sim s r) (a : Addr) :
    ∃ s1 o, s.getOrNew a = some (s1, o) ∧ Sim s1 (r.withCur (r.cur.getOrNew a).1) ∧
      Cached s1 (r.cur.getOrNew a).1 a o (r.cur.getOrNew a).2 := by
  cases hgo : s.getObj a with
  | mk s1 ro =>
    obtain ⟨h1, ⟨rfl, rfl, hw⟩ | ⟨o, x, rfl, hc⟩⟩ := sim_getObj h hgo
    · obtain ⟨s2, hco, h2, hc⟩ := sim_createNew h hgo hw
      simp only [RWorld.getOrNew, hw]
      exact ⟨s2, _, by simp only [Impl.getOrNew, hgo, hco, Option.map_some], h2, hc⟩
    · simp only [RWorld.getOrNew, hc.get]
      exact ⟨s1, o, by simp only [Impl.getOrNew, hgo], h1, hc⟩

/-- the step of the setters: one plain entry `e` that restores a field of the view (`e.undo = modAcct a f`)
    is appended and the cached object `o` of `a` replaced by `o'` -/
theorem Sim.mutate1 (h : Sim s r) {a : Addr} {o : Obj} {x : RAcct} (hc : Cached s r.cur a o x)
    (e : Entry) (f : AView → AView) (he : ∀ W : AW, e.undo s.store W = W.modAcct a f) (hd : e.dirtied = some a)
    (hpl : e.plain = true) (hst : EntryStatic s.store e) (hlive : ∀ W : AW, (W.acct a).isSome → EntryLive W e)
    (o' : Obj) (x' : RAcct) (haddr : o'.addr = a) (hok : ObjOK s.store o') (hview' : viewObj s.store o' = viewR x')
    (hf : f (viewObj s.store o') = viewObj s.store o)
    (horig : ∀ k, (alookup k o.origin).isSome = true → (alookup k o'.origin).isSome = true)
    (hsupp : EntrySupp (fun b k => if b = a then (alookup k o'.origin).isSome else s.okOf b k) e) :
    Sim (({ s with journal := s.journal.append e } : Impl).setObj o') (r.withCur (r.cur.put a x')) :=
  h.mutate a _ hc.acct [e] (by simp [hd]) (entriesOK_cons.mpr ⟨hst, entriesOK_nil _⟩) o' x' haddr hok hview'
    (fun W => by simp only [List.reverse_singleton, undoAbs, he, AW.modAcct, updF_same, Option.map_some, updF_updF, hf])
    (fun W => ⟨hlive _ (by simp), trivial⟩)
    (ook_plain_mutate a o' [e] (fun k hk => horig k (by rwa [okOf_cached hc.obj] at hk))
      (by intro e' he'; simp at he'; subst he'; exact ⟨hpl, hsupp⟩) h.ook)

theorem sim_setNonce (c : Cfg) (h : Sim s r) (a : Addr) (n : Nat) :
    ∃ s', s.setNonce a n = some s' ∧ Sim s' (r.step c (.setNonce a n)).1 := by
  obtain ⟨s1, o, hg, h1, hc⟩ := sim_getOrNew h a
  refine ⟨_, by simp only [Impl.setNonce, hg, jappend_eq, Option.map_some]; rfl, ?_⟩
  exact h1.mutate1 hc (.nonce a o.nonce) (fun v => { v with nonce := o.nonce }) (fun _ => rfl) rfl rfl trivial (fun _ h => h)
    { o with nonce := n } { (r.cur.getOrNew a).2 with nonce := n } hc.addr (hc.ok.account n o.bal o.suicided)
    (by show ({ viewObj s1.store o with nonce := n } : AView) = _; rw [hc.view]; rfl) rfl (fun _ h => h) trivial

theorem Sim.touch (h : Sim s r) (a : Addr) :
    Sim { s with journal := s.journal.append (.touch a) } (r.withCur { r.cur with touched := r.cur.touched ++ [a] }) :=
  h.plain (.touch a) rfl rfl trivial trivial h.abs rfl trivial rfl rfl

theorem Sim.setBalance (h : Sim s r) {a : Addr} {o : Obj} {x : RAcct} (hc : Cached s r.cur a o x) (b : Nat) :
    Sim (({ s with journal := s.journal.append (.balance a o.bal) } : Impl).setObj { o with bal := b })
      (r.withCur (r.cur.put a { x with bal := b })) :=
  h.mutate1 hc (.balance a o.bal) (fun v => { v with bal := o.bal }) (fun _ => rfl) rfl rfl trivial (fun _ h => h)
    { o with bal := b } { x with bal := b } hc.addr (hc.ok.account o.nonce b o.suicided)
    (by show ({ viewObj s.store o with bal := b } : AView) = _; rw [hc.view]; rfl) rfl (fun _ h => h) trivial

theorem sim_addBalance (c : Cfg) (h : Sim s r) (a : Addr) (n : Nat) :
    ∃ s', s.addBalance c a n = some s' ∧ Sim s' (r.step c (.addBalance a n)).1 := by
  obtain ⟨s1, o, hg, h1, hc⟩ := sim_getOrNew h a
  have hemp := empty_eq hc.view
  unfold Ref.step; simp only [Impl.addBalance, hg, ← hemp]
  by_cases hn : n = 0
  · by_cases he : o.empty = true
    · simp only [hn, he, if_true, Impl.touch, jappend_eq]
      split
      · exact ⟨_, rfl, ((h1.touch a).extraDirty a).anySticky _⟩
      · exact ⟨_, rfl, (h1.touch a).anySticky _⟩
    · simp only [hn, he, if_true, Bool.false_eq_true, if_false]
      exact ⟨_, rfl, h1⟩
  · simp only [hn, if_false, jappend_eq, Option.map_some]
    rw [← (view_fields hc.view).bal]
    exact ⟨_, rfl, h1.setBalance hc _⟩

theorem sim_subBalance (c : Cfg) (h : Sim s r) (a : Addr) (n : Nat) :
    (s.subBalance a n = none ∧ (r.step c (.subBalance a n)).2 = .panic) ∨
    ∃ s', s.subBalance a n = some s' ∧ (r.step c (.subBalance a n)).2 = .unit ∧ Sim s' (r.step c (.subBalance a n)).1 := by
  obtain ⟨s1, o, hg, h1, hc⟩ := sim_getOrNew h a
  have hbal := (view_fields hc.view).bal
  unfold Ref.step; simp only [Impl.subBalance, hg, jappend_eq, ← hbal]
  by_cases hn : n = 0
  · simp only [hn, if_true]
    exact Or.inr ⟨_, rfl, trivial, h1⟩
  · by_cases hgt : n > o.bal
    · simp only [hn, hgt, if_true, if_false]
      exact Or.inl ⟨trivial, trivial⟩
    · simp only [hn, hgt, if_false]
      exact Or.inr ⟨_, rfl, trivial, h1.setBalance hc _⟩

theorem sim_setCode (c : Cfg) (h : Sim s r) (a : Addr) (code : Code) :
    ∃ s', s.setCode a code = some s' ∧ Sim s' (r.step c (.setCode a code)).1 := by
  obtain ⟨s1, o, hg, h1, hc⟩ := sim_getOrNew h a
  refine ⟨_, by simp only [Impl.setCode, hg, jappend_eq, Option.map_some]; rfl, ?_⟩
  have hv : viewObj s1.store (o.setCodeRaw code code) = { viewObj s1.store o with code := code, hash := code } := by
    simp only [viewObj, getCode_setCodeRaw]; rfl
  exact h1.mutate1 hc (.code a (o.getCode s1.store) o.codeHash) (fun v => { v with code := o.getCode s1.store, hash := o.codeHash })
    (fun _ => rfl) rfl rfl hc.ok.code (fun _ h => h)
    (o.setCodeRaw code code) { (r.cur.getOrNew a).2 with code := code } hc.addr (hc.ok.setCode code)
    (by rw [hv, hc.view]; rfl) (by rw [hv]; rfl) (fun _ h => h) trivial

/-- `o1` is `o` with possibly more original values cached -/
structure ReadOK (st : Store) (o o1 : Obj) : Prop where
  view : viewObj st o1 = viewObj st o
  ok : ObjOK st o1
  addr : o1.addr = o.addr
  orig : ∀ k, (alookup k o.origin).isSome = true → (alookup k o1.origin).isSome = true

theorem ReadOK.refl {st : Store} {o : Obj} (hok : ObjOK st o) : ReadOK st o o := ⟨rfl, hok, rfl, fun _ h => h⟩

theorem getCommitted_spec (st : Store) (o : Obj) (k : Key) (hok : ObjOK st o) :
    ((o.getCommitted st k).2 = o.base st k ∧ ReadOK st o (o.getCommitted st k).1) ∧
    (alookup k (o.getCommitted st k).1.origin).isSome = true := by
  unfold Obj.getCommitted
  cases hl : alookup k o.origin with
  | some v0 => exact ⟨⟨hok.origin k v0 hl, ReadOK.refl hok⟩, by simp [hl]⟩
  | none =>
    have hsub : ∀ k', (alookup k' o.origin).isSome = true → (alookup k' (o.origin ++ [(k, o.base st k)])).isSome = true :=
      fun k' hk' => by rw [alookup_append, Option.isSome_or, hk', Bool.true_or]
    refine ⟨⟨rfl, rfl, { hok with origin := ?_, dho := fun k' hk' => hsub k' (hok.dho k' hk') }, rfl, hsub⟩,
      by simp [alookup_append, hl, alookup]⟩
    intro k' v' hk'
    rw [alookup_append, Option.or_eq_some_iff] at hk'
    rcases hk' with hk' | ⟨-, hk'⟩
    · exact hok.origin k' v' hk'
    · simp only [alookup] at hk'
      split at hk'
      · subst_vars; exact (Option.some.inj hk').symm
      · cases hk'

theorem getState_spec (st : Store) (o : Obj) (k : Key) (hok : ObjOK st o) :
    ((o.getState st k).2 = o.slotView st k ∧ ReadOK st o (o.getState st k).1) ∧
    (alookup k (o.getState st k).1.origin).isSome = true := by
  unfold Obj.getState Obj.slotView
  cases hl : alookup k o.dirty with
  | some v0 => exact ⟨⟨rfl, ReadOK.refl hok⟩, hok.dho k (by simp [hl])⟩
  | none => exact getCommitted_spec st o k hok

/-- the read caches of `GetState` / `GetCommittedState` written back to the object cache -/
theorem Cached.reread {w : RWorld} {a : Addr} {o o1 : Obj} {x : RAcct} (hc : Cached s w a o x) (hcinv : CInv s)
    (hr : ReadOK s.store o o1) : Recached s (s.setObj o1) := by
  have haddr : o1.addr = a := hr.addr.trans hc.addr
  refine Recached.setObj hcinv hr.ok (by rw [haddr, hr.view]; exact hc.acct) fun k hk => hr.orig k ?_
  rwa [haddr, okOf_cached hc.obj] at hk

theorem slot_upsert (x : RAcct) (k : Key) (v : Val) :
    ({ x with stor := upsert x.stor k v } : RAcct).slot = updF x.slot k v :=
  eq_updF (by simp [RAcct.slot]) fun k' hk => by simp only [RAcct.slot, alookup_upsert_ne _ _ _ _ hk]

theorem sim_setState (c : Cfg) (h : Sim s r) (a : Addr) (k : Key) (v : Val) :
    ∃ s', s.setState a k v = some s' ∧ Sim s' (r.step c (.setState a k v)).1 := by
  obtain ⟨s1, o, hg, h1, hc⟩ := sim_getOrNew h a
  obtain ⟨⟨hprev, hr⟩, hk⟩ := getState_spec s1.store o k hc.ok
  have hslot : (o.getState s1.store k).2 = (r.cur.getOrNew a).2.slot k := hprev.trans ((view_fields hc.view).slot k)
  unfold Ref.step; simp only [Impl.setState, hg, jappend_eq, ← hslot]
  split
  · exact ⟨_, rfl, h1.recached (hc.reread h1.cinv hr)⟩
  · refine ⟨_, rfl, ?_⟩
    have hvs : viewObj s1.store ((o.getState s1.store k).1.setStateRaw k v) =
        { viewObj s1.store o with stor := updF (viewObj s1.store o).stor k v } := by rw [viewObj_setStateRaw, hr.view]
    exact h1.mutate1 hc (.storage a k (o.getState s1.store k).2) (fun vw => { vw with stor := updF vw.stor k (o.getState s1.store k).2 })
      (fun _ => rfl) rfl rfl trivial (fun _ h => h) _ { (r.cur.getOrNew a).2 with stor := upsert (r.cur.getOrNew a).2.stor k v }
      (hr.addr.trans hc.addr) (hr.ok.setState k v hk) (by rw [hvs, hc.view]; simp only [viewR, slot_upsert]; rfl)
      (by rw [hvs]; simp only [updF_updF]; rw [hprev]; exact congrArg (fun f => ({ viewObj s1.store o with stor := f } : AView)) (updF_self _ k))
      hr.orig (by simp [EntrySupp, Obj.setStateRaw, hk])

theorem sim_suicide (c : Cfg) (h : Sim s r) (a : Addr) :
    ∃ s' b, s.suicide a = some (s', b) ∧ (r.step c (.suicide a)).2 = .bool b ∧ Sim s' (r.step c (.suicide a)).1 := by
  cases hg : s.getObj a with
  | mk s1 ro =>
    obtain ⟨h1, ⟨rfl, -, hw⟩ | ⟨o, x, rfl, hc⟩⟩ := sim_getObj h hg
    · exact ⟨s1, false, by simp only [Impl.suicide, hg], by unfold Ref.step; simp only [hw], by unfold Ref.step; simp only [hw]; exact h1⟩
    · obtain rfl := hc.addr
      have hm := h1.mutate o.addr _ hc.acct [.suicide o.addr o.suicided o.bal, .balance o.addr o.bal] (by intro b; simp [Entry.dirtied])
        (entriesOK_cons.mpr ⟨trivial, entriesOK_cons.mpr ⟨trivial, entriesOK_nil _⟩⟩)
        { o with suicided := true, bal := 0 } { x with suicided := true, bal := 0 } rfl (hc.ok.account o.nonce 0 true)
        (by show ({ viewObj s1.store o with suicided := true, bal := 0 } : AView) = _; rw [hc.view]; rfl)
        (by
          intro W
          simp only [List.reverse_cons, List.reverse_nil, List.nil_append, List.singleton_append, undoAbs, Entry.undo,
            AW.modAcct, updF_same, Option.map_some, updF_updF]
          rfl)
        (by intro W; simp [JOK, EntryLive])
        (ook_plain_mutate o.addr _ _ (fun k hk => by rwa [okOf_cached hc.obj] at hk)
          (by intro e he; simp at he; rcases he with he | he <;> subst he <;> exact ⟨rfl, trivial⟩) h1.ook)
      refine ⟨_, true, by simp only [Impl.suicide, hg, Impl.objSetBalance, jappend_eq, Option.map_some]; rfl, ?_⟩
      unfold Ref.step; simp only [hc.get]
      exact ⟨trivial, hm⟩

theorem sim_createAccount (c : Cfg) (h : Sim s r) (a : Addr) :
    ∃ s', s.createAccount a = some s' ∧ Sim s' (r.step c (.createAccount a)).1 := by
  cases hgo : s.getObj a with
  | mk s1 prev =>
    obtain ⟨h1, ⟨rfl, rfl, hw⟩ | ⟨p, x, rfl, hc⟩⟩ := sim_getObj h hgo
    · obtain ⟨s2, hco, h2, -⟩ := sim_createNew h hgo hw
      exact ⟨s2, by simp only [Impl.createAccount, hco], by unfold Ref.step; simp only [hw]; exact h2⟩
    · have hbal := (view_fields hc.view).bal
      have hm := h1.mutate a _ hc.acct [.resetObject p, .balance a (s1.store.balOf a)]
        (by intro b; simp [Entry.dirtied]; exact eq_comm)
        (entriesOK_cons.mpr ⟨hc.ok, entriesOK_cons.mpr ⟨trivial, entriesOK_nil _⟩⟩)
        (Obj.make a p.bal) (RAcct.fresh x.bal) rfl (objOK_make ..) (by rw [hbal]; exact viewObj_make ..)
        (by
          intro W
          simp only [List.reverse_cons, List.reverse_nil, List.nil_append, List.singleton_append, undoAbs, Entry.undo,
            AW.modAcct, updF_same, Option.map_some, updF_updF, hc.addr])
        (by intro W; simp [JOK, EntryLive])
        ⟨trivial, trivial, OOK_mono (fun b k hb => by
          simp only [undoF, updF, hc.addr]
          split
          · subst_vars; rwa [okOf_cached hc.obj] at hb
          · exact hb) h1.ook⟩
      refine ⟨_, ?_, by unfold Ref.step; simp only [hc.get]; exact hm⟩
      -- the intermediate cache write of `createObject` is overwritten
      simp only [Impl.createAccount, Impl.createObject, hgo, Impl.objSetBalance, jappend_eq, Option.map_some,
        Impl.setObj, Impl.jappends, Obj.make, Obj.fresh, upsert_upsert, List.foldl]

/-- a read through `getStateObject` whose result is a function `G` of what the account shows -/
theorem sim_getter (h : Sim s r) (a : Addr) (f : Impl → Option Obj → Impl × Out)
    (G : Option AView → Out) (hf : ∀ s1 ro, f s1 ro = (s1, G (ro.map (viewObj s1.store)))) :
    (s.readObj a f).2 = G (r.cur.view a) ∧ Sim (s.readObj a f).1 r := by
  unfold Impl.readObj
  cases hg : s.getObj a with
  | mk s1 ro =>
    obtain ⟨hrc, hv, -, -⟩ := getObj_spec h.cinv a hg
    simp only [hf]
    exact ⟨by rw [hrc.same.store, ← hv, h.fields.view], h.recached hrc⟩

/-- `GetCommittedState` / `GetState`: a read `rd` of one slot that may cache an original value -/
theorem sim_reader (h : Sim s r) (a : Addr) (rd : Store → Obj → Obj × Val) (g : AView → Val)
    (hrd : ∀ st o, ObjOK st o → (rd st o).2 = g (viewObj st o) ∧ ReadOK st o (rd st o).1) :
    let f := fun (s1 : Impl) (o : Option Obj) =>
      match o with
      | some o => let (o1, v) := rd s1.store o; (s1.setObj o1, Out.nat v)
      | none => (s1, Out.nat 0)
    (s.readObj a f).2 = .nat (match r.cur.view a with | some v => g v | none => 0) ∧ Sim (s.readObj a f).1 r := by
  intro f
  unfold Impl.readObj
  cases hg : s.getObj a with
  | mk s1 ro =>
    obtain ⟨h1, ⟨rfl, -, hw⟩ | ⟨o, x, rfl, hc⟩⟩ := sim_getObj h hg
    · simp only [f, RWorld.view, hw]; exact ⟨rfl, h1⟩
    · obtain ⟨hv, hr⟩ := hrd s1.store o hc.ok
      simp only [f, RWorld.view, hc.get, Option.map_some, hv, hc.view]
      exact ⟨trivial, h1.recached (hc.reread h1.cinv hr)⟩

end

theorem balAt_view (s : Impl) (a : Addr) : s.balAt a = match s.view a with | some v => v.bal | none => 0 := by
  unfold Impl.balAt Impl.view
  cases alookup a s.objs with
  | some o => cases hd : o.deleted <;> simp [hd, viewObj]
  | none => unfold Store.view; cases s.store.getAccount a <;> rfl

theorem balAt_eq {s : Impl} {r : Ref} (h : Sim s r) (a : Addr) : s.balAt a = (r.cur.getOrNew a).2.bal := by
  rw [balAt_view, h.view a, RWorld.getOrNew]
  cases r.cur.get a <;> rfl

theorem sim_subBalance_panic {s : Impl} {r : Ref} (c : Cfg) (h : Sim s r) (a : Addr) (n : Nat) (hgt : n > s.balAt a) :
    (r.step c (.subBalance a n)).2 = .panic := by
  rw [balAt_eq h a] at hgt
  have hn : n ≠ 0 := by omega
  unfold Ref.step; simp only [hn, if_false, hgt, if_true]

end OLP.Evm
