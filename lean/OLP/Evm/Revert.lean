/-
  C16 — reverting.  The concrete `revert` of a journal entry implements its abstract meaning `Entry.undo`,
  never fails on a live entry, and keeps the invariants; so does the loop of `journal.revert`; so
  `Snapshot` / `RevertToSnapshot` keep the simulation.
-/
import OLP.Evm.Sim

namespace OLP.Evm

variable {s : Impl} {r : Ref}

/-- the invariants of the adapter alone that reverting needs and keeps -/
structure JInv (s : Impl) : Prop where
  cinv : CInv s
  entries : EntriesOK s.store s.journal.entries
  jok : JOK s.store (absI s) s.journal.entries.reverse
  cnt : JCnt s.journal
  ook : OOK s.okOf s.journal.entries.reverse

theorem Sim.jinv (h : Sim s r) : JInv s := { h with }

theorem SameBut.setObj {s1 : Impl} (h : SameBut s s1) (o : Obj) : SameBut s (s1.setObj o) :=
  { h with }

/-- what the revert of one entry leaves alone -/
structure RevFrame (s s' : Impl) : Prop where
  store : s'.store = s.store
  entries : s'.journal.entries = s.journal.entries
  revisions : s'.revisions = s.revisions
  nextRev : s'.nextRev = s.nextRev
  thash : s'.thash = s.thash

theorem SameBut.frame {s' : Impl} (h : SameBut s s') : RevFrame s s' :=
  ⟨h.store, congrArg Journal.entries h.journal, h.revisions, h.nextRev, h.thash⟩

theorem count_erase_updF {α : Type} [BEq α] [LawfulBEq α] [DecidableEq α] (l : List α) (a : α) :
    (fun b => (l.erase a).count b) = updF (fun b => l.count b) a (l.count a - 1) :=
  eq_updF (List.count_erase_self ..) fun _ hb => List.count_erase_of_ne hb ..

/-- the revert of `e` succeeds and does to `absI` what `e.undo` says; invariant and frame stay -/
def Reverts (s : Impl) (e : Entry) : Prop :=
  ∃ s', s.revertEntry e = some s' ∧ CInv s' ∧ RevFrame s s' ∧ s'.journal = s.journal ∧
    absI s' = e.undo s.store (absI s) ∧ ∀ b k, undoF e s.okOf b k = true → s'.okOf b k = true

/-- the undo of a field-restoring entry `e`: the object `getObj` returns for `a` is replaced by `g` of it,
    which shows `f` of what it showed -/
theorem Reverts.mod {e : Entry} (hc : CInv s) (a : Addr) (g : Obj → Obj) (f : AView → AView)
    (hlive : (s.view a).isSome)
    (hrev : ∀ s1 o, s.getObj a = (s1, some o) → s.revertEntry e = some (s1.setObj (g o)))
    (hundo : e.undo s.store (absI s) = (absI s).modAcct a f) (hF : undoF e s.okOf = s.okOf)
    (hg : ∀ o, o.addr = a → ObjOK s.store o → (∀ k, s.okOf a k = true → (alookup k o.origin).isSome = true) →
      (g o).addr = a ∧ ObjOK s.store (g o) ∧ viewObj s.store (g o) = f (viewObj s.store o) ∧ (g o).origin = o.origin) :
    Reverts s e := by
  cases hgo : s.getObj a with
  | mk s1 ro =>
    obtain ⟨hrc, hv, -, hsome⟩ := getObj_spec hc a hgo
    cases ro with
    | none => rw [hv] at hlive; cases hlive
    | some o =>
      obtain ⟨hobj, haddr, hok⟩ := hsome o rfl
      have hcached : ∀ k, s.okOf a k = true → (alookup k o.origin).isSome = true := fun k hk => by
        rw [← okOf_cached hobj]; exact hrc.okOf a k hk
      obtain ⟨haddr', hok', hview', horig'⟩ := hg o haddr hok hcached
      refine ⟨_, hrev s1 o hgo, setObj_cinv hrc.cinv (by rw [hrc.same.store]; exact hok'), (hrc.same.setObj _).frame,
        hrc.same.journal, ?_, fun b k hb => ?_⟩
      · rw [absI_setObj s1 hok'.live, hrc.abs, haddr', hrc.same.store, hview', hundo]
        show _ = ({ absI s with acct := updF s.view a ((s.view a).map f) } : AW)
        rw [hv]; rfl
      · rw [hF] at hb
        rw [okOf_setObj, haddr', horig']
        split
        · subst_vars; exact hcached k hb
        · exact hrc.okOf b k hb

theorem revertEntry_spec {e : Entry} (hc : CInv s) (he : EntryStatic s.store e)
    (hsup : EntrySupp s.okOf e) (hl : EntryLive (absI s) e) : Reverts s e := by
  cases e with
  | balance a p =>
    exact .mod hc a (fun o => { o with bal := p }) _ hl (fun s1 o h => by simp only [Impl.revertEntry, h]) rfl rfl
      fun o ha hok _ => ⟨ha, hok.account o.nonce p o.suicided, rfl, rfl⟩
  | nonce a p =>
    exact .mod hc a (fun o => { o with nonce := p }) _ hl (fun s1 o h => by simp only [Impl.revertEntry, h]) rfl rfl
      fun o ha hok _ => ⟨ha, hok.account p o.bal o.suicided, rfl, rfl⟩
  | storage a k p =>
    exact .mod hc a (fun o => o.setStateRaw k p) _ hl (fun s1 o h => by simp only [Impl.revertEntry, h]) rfl rfl
      fun o ha hok hk => ⟨ha, hok.setState k p (hk k hsup), viewObj_setStateRaw .., rfl⟩
  | code a pc ph =>
    obtain rfl : pc = ph := he
    exact .mod hc a (fun o => o.setCodeRaw pc pc) _ hl (fun s1 o h => by simp only [Impl.revertEntry, h]) rfl rfl
      fun o ha hok _ => ⟨ha, hok.setCode pc, by simp only [viewObj, getCode_setCodeRaw]; rfl, rfl⟩
  | suicide a p pb =>
    cases hgo : s.getObj a with
    | mk s1 ro =>
      obtain ⟨-, hv, hnone, -⟩ := getObj_spec hc a hgo
      cases ro with
      | none =>
        obtain rfl := hnone rfl
        exact ⟨s1, by simp only [Impl.revertEntry, hgo], hc, ⟨rfl, rfl, rfl, rfl, rfl⟩, rfl,
          (AW.modAcct_none (W := absI s1) hv _).symm, fun _ _ h => h⟩
      | some o =>
        exact .mod hc a (fun o => { o with suicided := p, bal := pb }) _ (by rw [hv]; rfl)
          (fun s1 o h => by simp only [Impl.revertEntry, h]) rfl rfl
          fun o ha hok _ => ⟨ha, hok.account o.nonce pb p, rfl, rfl⟩
  | createObject a =>
    refine ⟨_, rfl, ⟨?_, ?_, hc.store⟩, ⟨rfl, rfl, rfl, rfl, rfl⟩, rfl, ?_, ?_⟩
    · intro b o hb
      by_cases hba : b = a
      · subst hba; simp at hb
      · rw [alookup_aerase_ne _ _ _ hba] at hb; exact hc.objs b o hb
    · exact nodup_akeys_aerase _ _ hc.nodup
    · have : ({ s with objs := aerase s.objs a } : Impl).view = updF s.view a none :=
        eq_updF (by simp only [Impl.view, alookup_aerase_self]; exact he) fun b hb => by
          simp only [Impl.view, alookup_aerase_ne _ _ _ hb]
      simp only [absI, Entry.undo, this]
    · intro b k hb
      by_cases hba : b = a
      · simp [undoF, hba] at hb
      · simpa [undoF, updF, hba, Impl.okOf, alookup_aerase_ne _ _ _ hba] using hb
  | resetObject prev =>
    have hok : ObjOK s.store prev := he
    refine ⟨_, rfl, setObj_cinv hc hok, ⟨rfl, rfl, rfl, rfl, rfl⟩, rfl, absI_setObj s hok.live, fun b k hb => ?_⟩
    rw [okOf_setObj]
    by_cases hba : b = prev.addr <;> simpa [undoF, updF, hba] using hb
  | refund p => exact ⟨_, rfl, hc.congr rfl rfl, ⟨rfl, rfl, rfl, rfl, rfl⟩, rfl, rfl, fun _ _ h => h⟩
  | touch a => exact ⟨_, rfl, hc, ⟨rfl, rfl, rfl, rfl, rfl⟩, rfl, rfl, fun _ _ h => h⟩
  | alAddr a =>
    exact ⟨_, rfl, hc.congr rfl rfl, ⟨rfl, rfl, rfl, rfl, rfl⟩, rfl,
      congrArg (fun f => ({ absI s with alAddrs := f } : AW)) (count_erase_updF s.alAddrs a), fun _ _ h => h⟩
  | alSlot a k =>
    exact ⟨_, rfl, hc.congr rfl rfl, ⟨rfl, rfl, rfl, rfl, rfl⟩, rfl,
      congrArg (fun f => ({ absI s with alSlots := f } : AW)) (count_erase_updF s.alSlots (a, k)), fun _ _ h => h⟩
  | addLog hh =>
    have hl' : (alookup hh s.logs).getD [] ≠ [] := hl
    cases hlk : alookup hh s.logs with
    | none => rw [hlk] at hl'; exact absurd rfl hl'
    | some l =>
      rw [hlk] at hl'
      have h0 : ¬ l.length = 0 := fun e => hl' (List.length_eq_zero_iff.mp e)
      simp only [Reverts, Impl.revertEntry, hlk, h0, if_false]
      -- either way the log list of `hh` loses its last element
      have key : ∀ lg : List (Nat × List (Nat × Addr × Nat)), (alookup hh lg).getD [] = l.dropLast →
          (∀ h', h' ≠ hh → alookup h' lg = alookup h' s.logs) →
          absI ({ s with logs := lg, logSize := s.logSize - 1 } : Impl) = (Entry.addLog hh).undo s.store (absI s) := by
        intro lg h1 h2
        have : (fun h' => (alookup h' lg).getD []) = updF (fun h' => (alookup h' s.logs).getD []) hh
            (((alookup hh s.logs).getD []).dropLast) :=
          eq_updF (by rw [h1, hlk]; rfl) fun h' hne => by rw [h2 h' hne]
        exact congrArg (fun f => ({ absI s with logs := f, logSize := s.logSize - 1 } : AW)) this
      split
      · rename_i h1
        refine ⟨_, rfl, hc.congr rfl rfl, ⟨rfl, rfl, rfl, rfl, rfl⟩, rfl, key _ ?_ (fun h' hne => alookup_aerase_ne _ _ _ hne),
          fun _ _ h => h⟩
        match l, h1 with
        | [x], _ => simp
      · exact ⟨_, rfl, hc.congr rfl rfl, ⟨rfl, rfl, rfl, rfl, rfl⟩, rfl,
          key _ (by simp) (fun h' hne => alookup_upsert_ne _ _ _ _ hne), fun _ _ h => h⟩

theorem undoLast_spec {pre : List Entry} {e : Entry} (h : JInv s) (hsplit : s.journal.entries = pre ++ [e]) :
    ∃ s', s.undoLast = some s' ∧ JInv s' ∧ s'.store = s.store ∧ s'.journal.entries = pre ∧ s'.revisions = s.revisions ∧
      s'.nextRev = s.nextRev ∧ s'.thash = s.thash ∧ absI s' = e.undo s.store (absI s) := by
  have hes := entriesOK_append.mp (hsplit ▸ h.entries)
  have hjok : EntryLive (absI s) e ∧ JOK s.store (e.undo s.store (absI s)) pre.reverse := by
    have := h.jok; rwa [hsplit, List.reverse_append] at this
  have hook : EntrySupp s.okOf e ∧ OOK (undoF e s.okOf) pre.reverse := by
    have := h.ook; rwa [hsplit, List.reverse_append] at this
  obtain ⟨s1, hr, hc1, hfr, hj, habs, hok⟩ := revertEntry_spec h.cinv (hes.2 e (by simp)) hook.1 hjok.1
  have hlast : s.journal.entries.getLast? = some e := by rw [hsplit]; simp
  have hdrop : s.journal.entries.dropLast = pre := by rw [hsplit]; simp
  refine ⟨{ s1 with journal := { s1.journal.undirty e with entries := s.journal.entries.dropLast } },
    by simp only [Impl.undoLast, hlast, hr], ⟨hc1.congr rfl rfl, ?_, ?_, ?_, ?_⟩, hfr.store, hdrop, hfr.revisions, hfr.nextRev,
    hfr.thash, habs⟩
  · show EntriesOK s1.store s.journal.entries.dropLast
    rw [hfr.store, hdrop]; exact hes.1
  · show JOK s1.store (absI s1) s.journal.entries.dropLast.reverse
    rw [hfr.store, hdrop, habs]; exact hjok.2
  · show JCnt { s1.journal.undirty e with entries := s.journal.entries.dropLast }
    rw [hdrop, hj]; exact h.cnt.pop hsplit
  · show OOK s1.okOf s.journal.entries.dropLast.reverse
    rw [hdrop]; exact OOK_mono hok hook.2

theorem revertTo_spec : ∀ (n : Nat) {s : Impl} (snap : Nat), JInv s →
    snap ≤ s.journal.entries.length → s.journal.entries.length ≤ snap + n →
    ∃ s', s.revertTo snap n = some s' ∧ JInv s' ∧ s'.store = s.store ∧ s'.journal.entries = s.journal.entries.take snap ∧
      s'.revisions = s.revisions ∧ s'.nextRev = s.nextRev ∧ s'.thash = s.thash ∧
      absI s' = undoAbs s.store ((s.journal.entries.drop snap).reverse) (absI s)
  | n, s, snap, h, hle, hn => by
    by_cases hlen : s.journal.entries.length ≤ snap
    · -- nothing left to undo
      obtain rfl := Nat.le_antisymm hle hlen
      refine ⟨s, by cases n <;> simp [Impl.revertTo], h, rfl, List.take_length.symm, rfl, rfl, rfl, ?_⟩
      rw [List.drop_length]; rfl
    · match n with
      | 0 => omega
      | n + 1 =>
        obtain ⟨pre, e, hsplit⟩ : ∃ pre e, s.journal.entries = pre ++ [e] :=
          ⟨_, _, (List.dropLast_concat_getLast (by intro h0; simp [h0] at hlen)).symm⟩
        have hlen' : s.journal.entries.length = pre.length + 1 := by rw [hsplit]; simp
        obtain ⟨s1, hu, h1, hst, hje, hrev, hnr, hth, habs⟩ := undoLast_spec h hsplit
        obtain ⟨s', hr, h', hst', hje', hrev', hnr', hth', habs'⟩ :=
          revertTo_spec n snap h1 (by rw [hje]; omega) (by rw [hje]; omega)
        refine ⟨s', by simp only [Impl.revertTo, hlen, if_false, hu]; exact hr, h', hst'.trans hst, ?_, hrev'.trans hrev,
          hnr'.trans hnr, hth'.trans hth, ?_⟩
        · rw [hje', hje, hsplit, List.take_append_of_le_length (by omega)]
        · rw [habs', hst, hje, habs, hsplit, List.drop_append_of_le_length (by omega), List.reverse_append]; rfl

theorem pairwise_take_get {α : Type} {R : α → α → Prop} {l : List α} {i : Nat} {b : α} (hp : l.Pairwise R)
    (hb : l[i]? = some b) : ∀ a ∈ l.take i, R a b := by
  have := hp.sublist (List.take_sublist (i + 1) l)
  rw [List.take_add_one, hb] at this
  exact fun a ha => (List.pairwise_append.mp this).2.2 a ha b (by simp)

theorem pairwise_snoc {α : Type} {R : α → α → Prop} {l : List α} (h : l.Pairwise R) {b : α} (hb : ∀ a ∈ l, R a b) :
    (l ++ [b]).Pairwise R := by
  rw [List.pairwise_append]
  exact ⟨h, List.pairwise_singleton .., fun a ha b' hb' => by rw [List.mem_singleton.mp hb']; exact hb a ha⟩

theorem findRev_eq (h : Sim s r) (id : Nat) :
    findRev s.revisions id = (r.stack.takeWhile (fun x => decide (x.1 < id))).length :=
  All2.takeWhile_length (fun x y hxy => by rw [hxy.id]) h.revs

theorem sim_snapshot (c : Cfg) (h : Sim s r) :
    (r.step c .snapshot).2 = .nat s.snapshot.2 ∧ Sim s.snapshot.1 (r.step c .snapshot).1 := by
  refine ⟨by unfold Ref.step; simp [Impl.snapshot, h.nextRev], ?_⟩
  unfold Ref.step; simp only [Impl.snapshot]
  refine { h with
    cinv := { h.cinv with }, nextRev := congrArg (· + 1) h.nextRev
    revs := ?_, idsLt := ?_, idsSorted := ?_, jSorted := ?_ }
  · refine All2.snoc ⟨h.nextRev, Nat.le_refl _, ?_, ?_, h.tc, h.nodup⟩ h.revs
    · simp only [List.drop_length, List.reverse_nil, undoAbs]; exact h.abs
    · intro a; simp only [List.take_length]; exact h.touched a
  · intro x hx
    rcases List.mem_append.mp hx with hx | hx
    · exact Nat.lt_succ_of_lt (h.idsLt x hx)
    · rw [List.mem_singleton.mp hx]; exact Nat.lt_succ_self _
  · rw [List.map_append]
    exact pairwise_snoc h.idsSorted fun a ha => by
      obtain ⟨x, hx, rfl⟩ := List.mem_map.mp ha
      exact h.idsLt x hx
  · rw [List.map_append]
    exact pairwise_snoc h.jSorted fun a ha => by
      obtain ⟨x, hx, rfl⟩ := List.mem_map.mp ha
      obtain ⟨i, hi⟩ := List.getElem?_of_mem hx
      obtain ⟨y, -, hy⟩ := All2.get i x h.revs hi
      exact hy.le

theorem sim_revert (c : Cfg) (h : Sim s r) (id : Nat) :
    (s.legitPanic (.revertToSnapshot id) = true ∧ s.revertToSnapshot id = none ∧ (r.step c (.revertToSnapshot id)).2 = .panic) ∨
    (s.legitPanic (.revertToSnapshot id) = false ∧ ∃ s', s.revertToSnapshot id = some s' ∧
      (r.step c (.revertToSnapshot id)).2 = .unit ∧ Sim s' (r.step c (.revertToSnapshot id)).1) := by
  unfold Ref.step; simp only [Impl.legitPanic, Impl.revertToSnapshot, ← findRev_eq h id]
  cases hx : s.revisions[findRev s.revisions id]? with
  | none =>
    have : r.stack[findRev s.revisions id]? = none := by
      have := All2.length h.revs
      rw [List.getElem?_eq_none_iff] at hx ⊢; omega
    simp only [this]
    exact Or.inl ⟨trivial, trivial, trivial⟩
  | some x =>
    obtain ⟨⟨rid', W⟩, hy, hxy⟩ := All2.get _ x h.revs hx
    obtain ⟨rid, jidx⟩ := x
    obtain rfl : rid = rid' := hxy.id
    simp only [hy]
    by_cases hid : rid ≠ id
    · simp only [ne_eq, hid, not_false_eq_true, if_true, bne_iff_ne]
      exact Or.inl ⟨trivial, trivial, trivial⟩
    obtain rfl : rid = id := Decidable.not_not.mp hid
    obtain ⟨s1, hrt, h1, hst, hje, hrev, hnr, hth, habs⟩ :=
      revertTo_spec s.journal.entries.length jidx h.jinv hxy.le (by omega)
    simp only [ne_eq, not_true_eq_false, if_false, hrt, Option.map_some, bne_self_eq_false]
    refine Or.inr ⟨trivial, _, rfl, trivial, ?_⟩
    have hjle : ∀ x ∈ s.revisions.take (findRev s.revisions rid), x.2 ≤ jidx := fun x hx' =>
      pairwise_take_get (i := findRev s.revisions rid) h.jSorted (by simp [hx]) x.2
        (by rw [← List.map_take]; exact List.mem_map_of_mem hx')
    refine { h1 with
      cinv := { h1.cinv with }, abs := habs.trans hxy.abs, thash := hth.trans h.thash, nextRev := hnr.trans h.nextRev
      nodup := hxy.nodup, touched := ?_, tc := ?_, revs := ?_, idsLt := ?_, idsSorted := ?_, jSorted := ?_ }
    · intro a
      show a ∈ W.touched ↔ a ∈ s1.journal.entries.filterMap Entry.dirtied
      rw [hje]; exact hxy.touched a
    · intro a ha
      show W.view a = s1.store.view a
      rw [hst]; exact hxy.tc a ha
    · show All2 (RevOK s1.store s1.journal.entries (absI s1)) (s.revisions.take _) (r.stack.take _)
      rw [hst, hje, habs]
      refine All2.imp_mem (fun x hx' y hxy' => ?_) (All2.take _ h.revs)
      have hjl : jidx ≤ s.journal.entries.length := hxy.le
      have hxj := hjle x hx'
      refine ⟨hxy'.id, by rw [List.length_take]; omega, ?_, ?_, hxy'.tc, hxy'.nodup⟩
      · rw [← undoAbs_append, ← List.reverse_append]
        have : List.drop x.2 (List.take jidx s.journal.entries) ++ List.drop jidx s.journal.entries = List.drop x.2 s.journal.entries := by
          conv => rhs; rw [← List.take_append_drop jidx s.journal.entries]
          rw [List.drop_append_of_le_length (by rw [List.length_take]; omega)]
        rw [this]; exact hxy'.abs
      · intro a
        rw [List.take_take, Nat.min_eq_left hxj]
        exact hxy'.touched a
    · intro x hx'
      show x.1 < s1.nextRev
      rw [hnr]; exact h.idsLt x (List.mem_of_mem_take hx')
    · show ((s.revisions.take _).map (·.1)).Pairwise (· < ·)
      rw [List.map_take]; exact h.idsSorted.sublist (List.take_sublist _ _)
    · show ((s.revisions.take _).map (·.2)).Pairwise (· ≤ ·)
      rw [List.map_take]; exact h.jSorted.sublist (List.take_sublist _ _)

end OLP.Evm
