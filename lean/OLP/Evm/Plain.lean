/-
  C16 — the calls that change no account keep the simulation: refund, logs and access list (one journal
  entry each, which creates or replaces no state object), `Prepare`, `Reset`.
-/
import OLP.Evm.Sim

namespace OLP.Evm

variable {s : Impl} {r : Ref}

theorem Sim.setRefund (h : Sim s r) (n : Nat) :
    Sim { s with journal := s.journal.append (.refund s.refund), refund := n } (r.withCur { r.cur with refund := n }) :=
  h.plain (.refund s.refund) rfl rfl trivial trivial (congrArg (fun W => ({ W with refund := n } : AW)) h.abs) rfl trivial rfl rfl

theorem sim_addLog (c : Cfg) (h : Sim s r) (a : Addr) (p : Nat) :
    ∃ s', s.addLog a p = some s' ∧ Sim s' (r.step c (.addLog a p)).1 := by
  have hf := h.fields
  refine ⟨_, rfl, h.plain (.addLog s.thash) rfl rfl trivial trivial ?_ ?_ ?_ rfl rfl⟩
  · simp only [absI, absR, AW.mk.injEq]
    refine ⟨hf.view, hf.refund, ?_, ?_, funext hf.alAddrs, funext hf.alSlots⟩
    · funext h'
      simp only [alookup_upsert, List.filter_append, List.map_append]
      by_cases hh : h' = s.thash
      · subst hh
        simp only [if_true, Option.getD_some, hf.logs, ← h.thash, hf.logSize]
        simp
      · have : ¬ (r.thash == h') = true := by rw [← h.thash]; simpa using fun e => hh e.symm
        simp only [hh, if_false, hf.logs]
        simp [this]
    · show s.logSize + 1 = _; rw [hf.logSize]; simp
  · simp only [Entry.undo, absI, AW.mk.injEq]
    exact ⟨rfl, trivial, (eq_updF (by simp) fun h' hh => by simp [alookup_upsert_ne _ _ _ _ hh]).symm, by simp, trivial, trivial⟩
  · simp [EntryLive, absI, alookup_upsert]

theorem undo_count_snoc {α : Type} [DecidableEq α] [BEq α] [LawfulBEq α] (l : List α) (a : α) :
    updF (fun b => (l ++ [a]).count b) a ((l ++ [a]).count a - 1) = fun b => l.count b :=
  (eq_updF (by simp) fun b hb => by simp [List.count_append, Ne.symm hb]).symm

theorem count_snoc_congr {α : Type} [BEq α] [LawfulBEq α] {l1 l2 : List α} (h : ∀ b, l1.count b = l2.count b) (a : α) :
    (fun b => (l1 ++ [a]).count b) = fun b => (l2 ++ [a]).count b := by
  funext b; rw [List.count_append, List.count_append, h b]

theorem mem_iff_of_count {α : Type} [BEq α] [LawfulBEq α] {l1 l2 : List α} {a : α} (h : l1.count a = l2.count a) :
    a ∈ l1 ↔ a ∈ l2 := by
  rw [← List.count_pos_iff, ← List.count_pos_iff, h]

theorem Sim.mem_alAddrs (h : Sim s r) (a : Addr) : a ∈ s.alAddrs ↔ a ∈ r.cur.alAddrs :=
  mem_iff_of_count (h.fields.alAddrs a)

theorem Sim.mem_alSlots (h : Sim s r) (p : Addr × Key) : p ∈ s.alSlots ↔ p ∈ r.cur.alSlots :=
  mem_iff_of_count (h.fields.alSlots p)

theorem Sim.alAddr (h : Sim s r) (a : Addr) :
    Sim { s with alAddrs := s.alAddrs ++ [a], journal := s.journal.append (.alAddr a) }
      (r.withCur { r.cur with alAddrs := r.cur.alAddrs ++ [a] }) :=
  h.plain (.alAddr a) rfl rfl trivial trivial
    ((congrArg (fun W => ({ W with alAddrs := fun b => (s.alAddrs ++ [a]).count b } : AW)) h.abs).trans
      (congrArg (fun f => ({ absR r.cur with alAddrs := f } : AW)) (count_snoc_congr h.fields.alAddrs a)))
    (congrArg (fun f => ({ absI s with alAddrs := f } : AW)) (undo_count_snoc s.alAddrs a)) trivial rfl rfl

theorem Sim.alSlot (h : Sim s r) (a : Addr) (k : Key) :
    Sim { s with alSlots := s.alSlots ++ [(a, k)], journal := s.journal.append (.alSlot a k) }
      (r.withCur { r.cur with alSlots := r.cur.alSlots ++ [(a, k)] }) :=
  h.plain (.alSlot a k) rfl rfl trivial trivial
    ((congrArg (fun W => ({ W with alSlots := fun p => (s.alSlots ++ [(a, k)]).count p } : AW)) h.abs).trans
      (congrArg (fun f => ({ absR r.cur with alSlots := f } : AW)) (count_snoc_congr h.fields.alSlots (a, k))))
    (congrArg (fun f => ({ absI s with alSlots := f } : AW)) (undo_count_snoc s.alSlots (a, k))) trivial rfl rfl

theorem sim_alAddAddr (c : Cfg) (h : Sim s r) (a : Addr) :
    ∃ s', s.alAddAddr a = some s' ∧ Sim s' (r.step c (.addAddressToAccessList a)).1 := by
  unfold Ref.step; simp only [Impl.alAddAddr, jappend_eq, ← h.mem_alAddrs a]
  split
  · exact ⟨s, rfl, h⟩
  · exact ⟨_, rfl, h.alAddr a⟩

/-- a slot is only ever listed under a listed address: the address entry first, then the slot entry -/
theorem sim_alAddSlot (c : Cfg) (h : Sim s r) (a : Addr) (k : Key) :
    ∃ s', s.alAddSlot a k = some s' ∧ Sim s' (r.step c (.addSlotToAccessList a k)).1 := by
  unfold Ref.step; simp only [Impl.alAddSlot, jappend_eq, ← h.mem_alAddrs a, ← h.mem_alSlots (a, k)]
  by_cases hin : a ∈ s.alAddrs
  · by_cases hsl : (a, k) ∈ s.alSlots
    · simp only [hin, hsl, not_true_eq_false, decide_false, Bool.or_self, Bool.false_eq_true, if_false]
      exact ⟨s, rfl, h⟩
    · simp only [hin, hsl, not_true_eq_false, not_false_eq_true, decide_false, decide_true, Bool.or_true, Bool.false_eq_true,
        if_false, if_true]
      exact ⟨_, rfl, h.alSlot a k⟩
  · simp only [hin, not_false_eq_true, decide_true, Bool.true_or, if_true]
    exact ⟨_, rfl, (h.alAddr a).alSlot a k⟩

theorem sim_prepare (c : Cfg) (h : Sim s r) (th : Nat)
    (he : s.journal.entries = []) (hr : s.revisions = []) :
    Sim (s.prepare th) (r.step c (.prepare th)).1 := by
  have hf := h.fields
  have hstack : r.stack = [] := List.eq_nil_of_length_eq_zero (by rw [← All2.length h.revs, hr]; rfl)
  unfold Ref.step; simp only [Impl.prepare]
  refine { h with cinv := { h.cinv with }, abs := ?_, thash := rfl, revs := ?_, jok := ?_ }
  · simp only [absI, absR, AW.mk.injEq]
    exact ⟨hf.view, hf.refund, funext hf.logs, hf.logSize, trivial, trivial⟩
  · show All2 _ s.revisions r.stack
    rw [hr, hstack]; trivial
  · show JOK s.store _ s.journal.entries.reverse
    rw [he]; trivial

theorem sim_reset (c : Cfg) (h : Sim s r) (he : s.journal.entries = []) :
    Sim s.reset (r.step c .reset).1 := by
  have hnt : ∀ a, a ∉ r.cur.touched := fun a ha => by
    have := (h.touched a).mp ha
    rw [he] at this; cases this
  refine sim_clean h.cinv.store rfl rfl rfl ?_ rfl rfl h.nodup rfl rfl
  unfold Ref.step; simp only [absI, absR, Impl.reset, Impl.init, AW.mk.injEq]
  exact ⟨funext fun a => (h.tc a (hnt a)).symm, trivial, by funext h'; simp, by simp, trivial, trivial⟩

end OLP.Evm
