/-
  C16 — `Finalise` against the reference: the records after the loop show, address by address, the
  accounts the reference keeps.
-/
import OLP.Evm.Records
import OLP.Evm.Sim

namespace OLP.Evm

variable {s : Impl} {r : Ref}

theorem ref_finalise_get (r : Ref) (hnd : (akeys r.cur.accts).Nodup) (a : Addr) :
    (r.finalise true).cur.get a =
      ((r.cur.get a).filter (fun x => !(decide (a ∈ r.cur.touched ++ r.sticky) && (x.suicided || x.empty)))).map
        (fun x => { x with cstor := x.stor }) := by
  refine (alookup_map_val _ (fun x : RAcct => { x with cstor := x.stor }) a).trans ?_
  rw [alookup_filter _ _ hnd]
  rfl

theorem record_account {st : Store} (hs : StoreOK st) {a : Addr} {x : RAcct} (h : st.view a = some (viewR x)) :
    x.suicided = false ∧ x.empty = false ∧ x.cslot = x.slot := by
  simp only [Store.view] at h
  cases hg : st.getAccount a with
  | none => rw [hg] at h; cases h
  | some o =>
    rw [hg] at h
    have hv : viewObj st o = viewR x := Option.some.inj h
    have hl := (viewObj_loaded hg).2
    rw [hv] at hl
    exact ⟨congrArg AView.suicided hl, by rw [← empty_eq hv]; exact hs.nonEmpty a o hg,
      (congrArg AView.cstor hl).trans (congrArg AView.stor hl).symm⟩

theorem getAccount_congr {st st' : Store} {a : Addr} (hacct : alookup a st'.acct = alookup a st.acct)
    (hbal : st'.balOf a = st.balOf a) : st'.getAccount a = st.getAccount a := by
  simp only [Store.getAccount, hacct, hbal]

theorem view_of_recs {st st' : Store} (hs : StoreOK st) {a : Addr} (hr : RecEq st st' a)
    (hcode : ∀ h, st.codeAt h = h → st'.codeAt h = h) : st'.view a = st.view a := by
  have hga := getAccount_congr hr.acct hr.bal
  simp only [Store.view, hga]
  cases hg : st.getAccount a with
  | none => rfl
  | some o =>
    have hok := getAccount_ok hs hg
    rw [Option.map_some, Option.map_some, (viewObj_loaded hg).2, (viewObj_loaded (hga.trans hg)).2, hr.bal, funext hr.slot]
    have h1 : (if o.codeHash = 0 then 0 else st.codeAt o.codeHash) = o.codeHash :=
      (congrArg AView.code (viewObj_loaded hg).2).symm.trans hok.code
    by_cases hz : o.codeHash = 0
    · simp only [hz, if_true]
    · simp only [hz, if_false] at h1 ⊢
      rw [hcode _ h1, h1]

theorem dho_bool {o : Obj} (h : DirtyHasOrigin o) : o.dirtyHasOrigin = true := by
  simp only [Obj.dirtyHasOrigin, List.all_eq_true]
  intro kv hkv
  apply h kv.1
  have : kv.1 ∈ akeys o.dirty := by simp only [akeys, List.mem_map]; exact ⟨kv, hkv, rfl⟩
  exact (mem_akeys_iff_alookup o.dirty kv.1).mp this

theorem takeWhile_all {α : Type} (p : α → Bool) : ∀ (l : List α), (∀ x ∈ l, p x = true) → l.takeWhile p = l
  | [], _ => rfl
  | x :: t, h => by
    simp only [List.takeWhile_cons, h x (by simp), if_true]
    rw [takeWhile_all p t (fun y hy => h y (List.mem_cons_of_mem _ hy))]

/-- `Finalise(true)` that does not fail runs the loop over the whole cache -/
theorem finalise_eq (c : Cfg) (s : Impl) (hg : s.finaliseGuard c = true) :
    s.finalise c true =
      ({ s with store := s.objs.foldl (finaliseObj c true s.dirtySet) s.store, objs := [], journal := Journal.new, refund := 0, revisions := [] },
       false) := by
  simp only [Impl.finaliseGuard, List.all_eq_true, Bool.not_eq_true'] at hg
  simp only [Impl.finalise]
  have hds : (s.journal.dirties.map (·.1)).filter (fun a => (alookup a s.objs).isSome) = s.dirtySet := rfl
  rw [hds, List.find?_eq_none.mpr (fun ao hao => by simp [hg ao hao]), takeWhile_all _ _ (fun ao hao => by simp [hg ao hao])]

theorem Sim.cachedView (h : Sim s r) {a : Addr} {o : Obj} (hv : s.view a = some (viewObj s.store o)) :
    ∃ x, r.cur.get a = some x ∧ viewObj s.store o = viewR x := by
  have := h.view a
  rw [hv] at this
  cases hx : r.cur.get a with
  | none => rw [hx] at this; cases this
  | some x => rw [hx] at this; exact ⟨x, rfl, Option.some.inj this⟩

/-- how the loop leaves the records of each address: as they were (an address that is not cached,
    or cached but clean: then the reference has the records' account); deleted; or written out -/
theorem finalise_cases (c : Cfg) (h : Sim s r) (hg : s.finaliseGuard c = true) (a : Addr) :
    let st' := s.objs.foldl (finaliseObj c true s.dirtySet) s.store
    (∀ hh, s.store.codeAt hh = hh → st'.codeAt hh = hh) ∧
    ((RecEq s.store st' a ∧ r.cur.view a = s.store.view a) ∨
     (∃ o, s.view a = some (viewObj s.store o) ∧ finDel s.dirtySet (a, o) = true ∧ a ∈ r.cur.touched ∧
        alookup a st'.acct = none ∧ st'.balOf a = 0 ∧ ∀ k, st'.slot a k = 0) ∨
     (∃ o, s.view a = some (viewObj s.store o) ∧ finDel s.dirtySet (a, o) = false ∧ a ∈ s.dirtySet ∧
        alookup a st'.acct = some (o.nonce, o.codeHash) ∧ st'.balOf a = o.bal ∧ (∀ k, st'.slot a k = o.slotView s.store k) ∧
        (o.codeHash ≠ 0 → st'.codeAt o.codeHash = o.codeHash))) := by
  intro st'
  simp only [Impl.finaliseGuard, List.all_eq_true, Bool.not_eq_true'] at hg
  have hmem : ∀ ao ∈ s.objs, alookup ao.1 s.objs = some ao.2 := fun ao hao =>
    alookup_of_mem h.cinv.nodup hao
  have hkeys : s.objs.map (·.2.addr) = akeys s.objs :=
    List.map_congr_left fun ao hao => (h.cinv.objs ao.1 ao.2 (hmem ao hao)).1
  obtain ⟨hF1, hF2, hF3, hF4⟩ := fold_finalise c s.dirtySet s.objs s.store (by rw [hkeys]; exact h.cinv.nodup)
    fun ao hao => by
      have hok := (h.cinv.objs ao.1 ao.2 (hmem ao hao)).2
      exact ⟨hok.nd, dho_bool hok.dho, hok.origin, hok.codeEq, hg ao hao⟩
  refine ⟨hF3, ?_⟩
  cases hl : alookup a s.objs with
  | none =>
    refine Or.inl ⟨hF1 a ?_, by rw [← view_of_uncached s a hl]; exact (congrFun h.fields.view a).symm⟩
    rw [hkeys]; exact (alookup_eq_none_iff _ _).mp hl
  | some o =>
    have hcm : (a, o) ∈ s.objs := mem_of_alookup hl
    obtain ⟨rfl, hok⟩ := h.cinv.objs a o hl
    have hv := view_of_cached hl hok.live
    have hown := hF2 (o.addr, o) hcm
    -- touched accounts are in the dirty set when cached
    have htd : o.addr ∈ r.cur.touched → o.addr ∈ s.dirtySet := fun ha =>
      List.mem_filter.mpr ⟨h.cnt.mem ((h.touched _).mp ha), by simp [hl]⟩
    rcases Bool.eq_false_or_eq_true (finDel s.dirtySet (o.addr, o)) with hdel | hdel
    · refine Or.inr (Or.inl ⟨o, hv, hdel, Decidable.byContradiction fun ht => ?_, hown.del hdel⟩)
      -- an untouched account is as the records have it: neither self-destructed nor empty
      have hr := h.tc _ ht
      rw [← congrFun h.fields.view, hv] at hr
      obtain ⟨x, hx, hvx⟩ := h.cachedView hv
      obtain ⟨h1, h2, -⟩ := record_account h.cinv.store (hr.symm.trans (congrArg some hvx))
      rw [← (view_fields hvx).suicided] at h1
      rw [← empty_eq hvx] at h2
      simp [finDel, h1, h2] at hdel
    · by_cases hd : o.addr ∈ s.dirtySet
      · obtain ⟨h1, h2, h3⟩ := hown.commit hdel hd
        refine Or.inr (Or.inr ⟨o, hv, hdel, hd, h1, h2, h3, fun hz => ?_⟩)
        by_cases hc0 : o.code = 0
        · have := hok.code
          simp only [Obj.getCode, hc0, ne_eq, not_true_eq_false, if_false, hz] at this
          exact hF3 _ this
        · exact hF4 (o.addr, o) hcm hdel hd hc0 (hok.dc hc0)
      · exact Or.inl ⟨hown.skip hdel hd, h.tc _ fun ht => hd (htd ht)⟩

theorem sim_finalise (c : Cfg) (h : Sim s r) (hg : s.finaliseGuard c = true) :
    (s.finalise c true).2 = false ∧ Sim (s.finalise c true).1 (r.finalise true) ∧
    (NoOrphanStorage s.store → NoOrphanStorage (s.finalise c true).1.store) := by
  rw [finalise_eq c s hg]
  have hcases := finalise_cases c h hg
  generalize s.objs.foldl (finaliseObj c true s.dirtySet) s.store = st' at hcases ⊢
  have hsok := h.cinv.store
  have hV : ∀ a, st'.view a = (r.finalise true).cur.view a := by
    intro a
    simp only [RWorld.view, ref_finalise_get r h.nodup a]
    obtain ⟨hF3, hk | ⟨o, hv, hdel, ht, hacct, hbal, -⟩ | ⟨o, hv, hdel, hd, hacct, hbal, hslot, hcode⟩⟩ := hcases a
    · -- as the records had it: the reference keeps such an account as it is
      rw [view_of_recs hsok hk.1 hF3, ← hk.2, RWorld.view]
      cases hx : r.cur.get a with
      | none => rfl
      | some x =>
        obtain ⟨h1, h2, h3⟩ := record_account hsok (a := a) (x := x) (by rw [← hk.2, RWorld.view, hx]; rfl)
        have hkeep : (!(decide (a ∈ r.cur.touched ++ r.sticky) && (x.suicided || x.empty))) = true := by simp [h1, h2]
        simp only [Option.filter, hkeep, if_true, Option.map_some]
        exact congrArg some (congrArg (fun f => ({ viewR x with cstor := f } : AView)) h3)
    · -- deleted on both sides
      obtain ⟨x, hx, hvx⟩ := h.cachedView hv
      have hdx : (x.suicided || x.empty) = true := by
        rw [← (view_fields hvx).suicided, ← empty_eq hvx]
        simp only [finDel, Bool.or_eq_true, Bool.and_eq_true] at hdel ⊢
        exact hdel.imp id And.right
      simp [Store.view, Store.getAccount, hacct, hbal, hx, Option.filter, ht, hdx]
    · -- written out: the records show what the object showed
      obtain ⟨x, hx, hvx⟩ := h.cachedView hv
      have hvf := view_fields hvx
      have hkeep : (!(decide (a ∈ r.cur.touched ++ r.sticky) && (x.suicided || x.empty))) = true := by
        rw [← hvf.suicided, ← empty_eq hvx, (finDel_false hdel).1, (finDel_false hdel).2 hd]; simp
      have hga : st'.getAccount a = some { Obj.fresh a o.bal with nonce := o.nonce, codeHash := o.codeHash } := by
        simp only [Store.getAccount, hacct, hbal]
      simp only [Store.view, hga, hx, Option.filter, hkeep, if_true, Option.map_some, (viewObj_loaded hga).2, hbal, Option.some.injEq]
      simp only [viewR, AView.mk.injEq]
      refine ⟨hvf.nonce, hvf.bal, hvf.hash, ?_, ?_, ?_, (finDel_false hdel).1.symm.trans hvf.suicided⟩
      · rw [← hvf.hash]
        split
        · exact Eq.symm ‹_›
        · exact hcode ‹_›
      · funext k; rw [hslot k]; exact hvf.slot k
      · funext k; rw [hslot k]; exact hvf.slot k
  have hsok' : StoreOK st' := by
    refine ⟨fun a o' hga => ?_, fun a n hh hac hz => ?_⟩
    · obtain ⟨-, hk | ⟨o, -, -, -, hacct, hbal, -⟩ | ⟨o, -, hdel, hd, hacct, hbal, -, -⟩⟩ := hcases a
      · exact hsok.nonEmpty a o' ((getAccount_congr hk.1.acct hk.1.bal).symm.trans hga)
      · simp [Store.getAccount, hacct, hbal] at hga
      · simp only [Store.getAccount, hacct, hbal, Option.some.injEq] at hga
        subst hga
        exact (finDel_false hdel).2 hd
    · obtain ⟨hF3, hk | ⟨o, -, -, -, hacct, -, -⟩ | ⟨o, -, -, -, hacct, -, -, hcode⟩⟩ := hcases a
      · rw [hk.1.acct] at hac
        exact hF3 _ (hsok.codes a n hh hac hz)
      · rw [hacct] at hac; cases hac
      · rw [hacct] at hac; cases hac; exact hcode hz
  -- the storage records of a deleted account are deleted with it
  have hclean : NoOrphanStorage s.store → NoOrphanStorage st' := by
    intro hcl a hga k
    obtain ⟨-, hk | ⟨o, -, -, -, -, -, hslot⟩ | ⟨o, -, -, -, hacct, -, -, -⟩⟩ := hcases a
    · rw [getAccount_congr hk.1.acct hk.1.bal] at hga
      rw [hk.1.slot k]; exact hcl a hga k
    · exact hslot k
    · simp [Store.getAccount, hacct] at hga
  refine ⟨rfl, sim_clean hsok' rfl rfl rfl ?_ h.thash h.nextRev ?_ rfl rfl, hclean⟩
  · have hf := h.fields
    simp only [absI, absR, Ref.finalise, AW.mk.injEq]
    refine ⟨funext fun a => ?_, trivial, funext hf.logs, hf.logSize, funext hf.alAddrs, funext hf.alSlots⟩
    rw [view_of_uncached _ a rfl]; exact hV a
  · exact (akeys_map_val _ fun x : RAcct => { x with cstor := x.stor }).symm ▸ nodup_akeys_filter _ _ h.nodup

end OLP.Evm
