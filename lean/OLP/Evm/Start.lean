/-
  C16 — the starting states: a decidable check that a reference world holds exactly the accounts the
  records describe.
-/
import OLP.Evm.Abs

namespace OLP.Evm

/-- the slots of `a` that have a storage record -/
def Store.keysAt (st : Store) (a : Addr) : List Key := (st.stor.filter fun x => x.1.1 == a).map (·.1.2)

theorem slot_zero_of_not_keysAt {st : Store} {a : Addr} {k : Key} (h : k ∉ st.keysAt a) : st.slot a k = 0 := by
  unfold Store.slot
  cases hl : alookup (a, k) st.stor with
  | none => rfl
  | some v =>
    exfalso
    apply h
    have hm := mem_of_alookup hl
    simp only [Store.keysAt, List.mem_map, List.mem_filter]
    exact ⟨((a, k), v), ⟨hm, by simp⟩, rfl⟩

theorem rslot_zero {l : List (Key × Val)} {k : Key} (h : k ∉ akeys l) : (alookup k l).getD 0 = 0 := by
  rw [alookup_of_not_mem l k h]; rfl

/-- the account of the records at `a` is `x` -/
def sameAcct (st : Store) (a : Addr) (x : RAcct) : Bool :=
  match st.getAccount a with
  | none => false
  | some o =>
    o.nonce == x.nonce && o.bal == x.bal && o.codeHash == x.code && o.getCode st == x.code && !x.suicided &&
    ((st.keysAt a ++ akeys x.stor ++ akeys x.cstor).all fun k => st.slot a k == x.slot k && st.slot a k == x.cslot k)

/-- decidable: the world `w0` holds exactly the accounts of the records -/
def sameStartb (st : Store) (w0 : List (Addr × RAcct)) : Bool :=
  decide (akeys w0).Nodup && (w0.all fun ax => sameAcct st ax.1 ax.2) &&
  ((akeys st.acct ++ akeys st.bal).all fun a => (st.getAccount a).isNone || (alookup a w0).isSome)

theorem getAccount_none_of_not_mem {st : Store} {a : Addr} (h1 : a ∉ akeys st.acct) (h2 : a ∉ akeys st.bal) :
    st.getAccount a = none := by
  simp [Store.getAccount, alookup_of_not_mem _ _ h1, Store.balOf, alookup_of_not_mem _ _ h2]

theorem sameAcct_view {st : Store} {a : Addr} {x : RAcct} (h : sameAcct st a x = true) : st.view a = some (viewR x) := by
  unfold sameAcct at h
  cases hg : st.getAccount a with
  | none => simp [hg] at h
  | some o =>
    simp only [hg, Bool.and_eq_true, beq_iff_eq, Bool.not_eq_true', List.all_eq_true] at h
    obtain ⟨⟨⟨⟨⟨h1, h2⟩, h3⟩, h4⟩, h5⟩, h6⟩ := h
    have hl := (viewObj_loaded hg).2
    have hslots : ∀ k, st.slot a k = x.slot k ∧ st.slot a k = x.cslot k := by
      intro k
      by_cases hk : k ∈ st.keysAt a ++ akeys x.stor ++ akeys x.cstor
      · exact h6 k hk
      · simp only [List.mem_append, not_or] at hk
        rw [slot_zero_of_not_keysAt hk.1.1]
        exact ⟨(rslot_zero hk.1.2).symm, (rslot_zero hk.2).symm⟩
    rw [Store.view, hg, Option.map_some, hl]
    simp only [viewR, Option.some.injEq, AView.mk.injEq]
    exact ⟨h1, (congrArg AView.bal hl).symm.trans h2, h3, (congrArg AView.code hl).symm.trans h4,
      funext fun k => (hslots k).1, funext fun k => (hslots k).2, h5.symm⟩

theorem sameStartb_sound {st : Store} {w0 : List (Addr × RAcct)} (h : sameStartb st w0 = true) :
    (akeys w0).Nodup ∧ ∀ a, st.view a = (alookup a w0).map viewR := by
  simp only [sameStartb, Bool.and_eq_true, decide_eq_true_eq, List.all_eq_true] at h
  obtain ⟨⟨hnd, hall⟩, hcov⟩ := h
  refine ⟨hnd, ?_⟩
  intro a
  cases hl : alookup a w0 with
  | some x =>
    have := hall (a, x) (mem_of_alookup hl)
    rw [sameAcct_view this]; rfl
  | none =>
    simp only [Option.map_none, Store.view, Option.map_eq_none_iff]
    by_cases hm : a ∈ akeys st.acct ++ akeys st.bal
    · have := hcov a hm
      simp only [hl, Option.isSome_none, Bool.or_false, Option.isNone_iff_eq_none] at this
      exact this
    · simp only [List.mem_append, not_or] at hm
      exact getAccount_none_of_not_mem hm.1 hm.2

end OLP.Evm
