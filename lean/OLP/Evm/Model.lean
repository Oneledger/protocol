/-
  C16 — model of the EVM state adapter `vm.CommitStateDB` (vm/statedb.go, vm/state_objects.go,
  vm/journal.go, vm/statedb_aux.go, vm/statedb_logs.go, vm/access_list.go) over the persistent
  records it keeps through `balance.NesterAccountKeeper` (data/balance/keeper.go) and
  `evm.ContractStore` (data/evm/contract.go), and of the reference semantics it is compared with.

    * `Impl`  — statement-by-statement port of the adapter at the interface level, *including what
                looks wrong* (DESIGN §4): object cache in first-insertion order, origin / dirty storage
                per object, suicided / deleted flags, the journal with the `revert` of every entry,
                the `dirties` slice with its `addressToJournalIndex` map, `validRevisions`,
                refund, logs, access list, `Finalise`, `Reset`.
    * `Ref`   — the textbook semantics: a world of accounts, a stack of saved worlds
                (snapshot = push a copy, revert = pop to it), `Finalise` = delete self-destructed
                and touched-empty accounts and promote current storage to committed storage.
                This is what go-ethereum's `state.StateDB` computes (the `evm` engine compares the
                two on every run).
    * `Client` — interaction trees over the interface: every deterministic client, in particular
                the EVM interpreter.

  Conventions.  Addresses, slots, values, amounts are naturals.  A contract code is the natural
  `0x01‖bytes` (`0` = no code); a code *hash* is identified with the code it hashes (Keccak is taken
  to be injective), so `emptyCodeHash` is `0` and the zero hash of a missing account is `none`.
  Where the Go code can panic the model returns `none` / `Out.panic`.
  Core-only: linked into the driver executable.
-/
import OLP.Base.Assoc

namespace OLP.Evm

abbrev Addr := Nat
abbrev Key := Nat
abbrev Val := Nat
abbrev Code := Nat

/-- constants of the code base: the storage layer's TOMBSTONE value (as a code) and the RIPEMD
    precompile address of the `touch` exception -/
structure Cfg where
  tomb : Code
  ripemd : Addr
  deriving Repr, DecidableEq

/-- number of bytes of a code `0x01‖bytes` -/
def codeLen (c : Code) : Nat := if c = 0 then 0 else Nat.log2 c / 8

/-! ## state objects -/

/-- `stateObject` (vm/state_objects.go) together with its `balance.EthAccount` -/
structure Obj where
  addr : Addr
  nonce : Nat                    -- account.Sequence
  bal : Nat                      -- account.Coins
  codeHash : Code                -- account.CodeHash (`0` = emptyCodeHash)
  code : Code                    -- so.code (`0` = nil / empty)
  dirtyCode : Bool
  origin : List (Key × Val)      -- originStorage + keyToOriginStorageIndex
  dirty : List (Key × Val)       -- dirtyStorage + keyToDirtyStorageIndex
  suicided : Bool
  deleted : Bool
  created : Bool                 -- made by `createObject` (8684164): no committed storage
  deriving Repr, DecidableEq

/-- `newStateObject` over `NewEthAccount(addr, coin)` -/
def Obj.fresh (a : Addr) (bal : Nat) : Obj :=
  { addr := a, nonce := 0, bal := bal, codeHash := 0, code := 0, dirtyCode := false,
    origin := [], dirty := [], suicided := false, deleted := false, created := false }

/-- the object `createObject` makes: `newStateObject` with `created` set -/
def Obj.make (a : Addr) (bal : Nat) : Obj := { Obj.fresh a bal with created := true }

/-- `stateObject.empty` -/
def Obj.empty (o : Obj) : Bool := o.nonce == 0 && o.bal == 0 && o.codeHash == 0

/-! ## persistent records -/

/-- what the adapter keeps in the chain state: `keeper_<a>` (Sequence, CodeHash), `b_<a>_OLT`,
    `contracts_ 01 <hash>` (code by hash), `contracts_ 02 <a> keccak(a‖k)` (storage slots) -/
structure Store where
  acct : List (Addr × (Nat × Code))
  bal : List (Addr × Nat)
  code : List (Code × Code)
  stor : List ((Addr × Key) × Val)
  deriving Repr, DecidableEq

def Store.empty : Store := { acct := [], bal := [], code := [], stor := [] }

/-- `balances.GetBalanceForCurr` (absent record = 0) -/
def Store.balOf (st : Store) (a : Addr) : Nat := (alookup a st.bal).getD 0

/-- `contractStore.Get(AddressStoragePrefix(a), keccak(a‖k))` (absent = zero hash) -/
def Store.slot (st : Store) (a : Addr) (k : Key) : Val := (alookup (a, k) st.stor).getD 0

/-- `contractStore.Get(KeyPrefixCode, h)` (absent = empty) -/
def Store.codeAt (st : Store) (h : Code) : Code := (alookup h st.code).getD 0

def Store.setSlot (st : Store) (a : Addr) (k : Key) (v : Val) : Store :=
  { st with stor := upsert st.stor (a, k) v }

def Store.delSlot (st : Store) (a : Addr) (k : Key) : Store :=
  { st with stor := aerase st.stor (a, k) }

/-- `ContractStore.DeleteStorage(a)` (8684164): every storage record of the address, committed or
    pending, is deleted -/
def Store.delStorage (st : Store) (a : Addr) : Store :=
  { st with stor := st.stor.filter fun x => x.1.1 != a }

/-- `contractStore.Set(KeyPrefixCode, h, code)` when the store accepts the value.  `State.Set`
    refuses a value equal to the TOMBSTONE marker (b55dd24, `ErrReservedValue`); `commitCode`
    returns that error and `Finalise` stops with it (078c4d3, see `Impl.finalise`). -/
def Store.setCode (c : Cfg) (st : Store) (h code : Code) : Store :=
  if code = c.tomb then st else { st with code := upsert st.code h code }

/-- `NesterAccountKeeper.SetAccount`: the keeper record and the balance record -/
def Store.setAccount (st : Store) (o : Obj) : Store :=
  { st with acct := upsert st.acct o.addr (o.nonce, o.codeHash), bal := upsert st.bal o.addr o.bal }

/-- `NesterAccountKeeper.RemoveAccount` (da864f3, c90a103): deletes `keeper_<a>` and, when the
    balance record is not zero, writes a zero amount: a removed account is gone with whatever it
    holds.  (The storage records go in `deleteStateObject`, see `finaliseObj`; code records stay:
    they are content-addressed.) -/
def Store.removeAccount (st : Store) (a : Addr) : Store :=
  { st with acct := aerase st.acct a, bal := if st.balOf a = 0 then st.bal else upsert st.bal a 0 }

/-- `NesterAccountKeeper.GetAccount` + `newStateObject`: the keeper record with the balance record
    attached; without a keeper record, `legacyFix` makes an account of any non-zero balance -/
def Store.getAccount (st : Store) (a : Addr) : Option Obj :=
  match alookup a st.acct with
  | some (n, h) => some { Obj.fresh a (st.balOf a) with nonce := n, codeHash := h }
  | none => if st.balOf a = 0 then none else some (Obj.fresh a (st.balOf a))

/-! ### storage and code of one object -/

/-- the committed value of a slot below the object's caches: the record, but nothing for a
    `created` object (8684164; go-ethereum: a new object has an empty trie) -/
def Obj.base (st : Store) (o : Obj) (k : Key) : Val := if o.created then 0 else st.slot o.addr k

/-- `stateObject.GetCommittedState`: the cached original value, else the record (then cached);
    a `created` object does not fall through to the records -/
def Obj.getCommitted (st : Store) (o : Obj) (k : Key) : Obj × Val :=
  match alookup k o.origin with
  | some v => (o, v)
  | none => let v := o.base st k; ({ o with origin := o.origin ++ [(k, v)] }, v)

/-- `stateObject.GetState` -/
def Obj.getState (st : Store) (o : Obj) (k : Key) : Obj × Val :=
  match alookup k o.dirty with
  | some v => (o, v)
  | none => o.getCommitted st k

/-- `stateObject.setState` -/
def Obj.setStateRaw (o : Obj) (k : Key) (v : Val) : Obj := { o with dirty := upsert o.dirty k v }

/-- `stateObject.Code` -/
def Obj.getCode (st : Store) (o : Obj) : Code :=
  if o.code ≠ 0 then o.code else if o.codeHash = 0 then 0 else st.codeAt o.codeHash

/-- `stateObject.setCode` -/
def Obj.setCodeRaw (o : Obj) (h code : Code) : Obj := { o with code := code, codeHash := h, dirtyCode := true }

/-- one iteration of the loop of `stateObject.commitState` -/
def commitSlot (a : Addr) (acc : Store × List (Key × Val)) (kv : Key × Val) : Store × List (Key × Val) :=
  let st := if kv.2 = 0 then acc.1.delSlot a kv.1 else acc.1
  match alookup kv.1 acc.2 with
  | none => (st, acc.2)                                   -- `if !ok { continue }`
  | some ov =>
    if kv.2 = 0 then (st, aerase acc.2 kv.1)              -- delete(keyToOriginStorageIndex); continue
    else if kv.2 = ov then (st, acc.2)                    -- no-op change
    else (st.setSlot a kv.1 kv.2, upsert acc.2 kv.1 kv.2)

/-- `stateObject.commitState` -/
def Obj.commitState (st : Store) (o : Obj) : Store := (o.dirty.foldl (commitSlot o.addr) (st, o.origin)).1

/-! ## the journal -/

inductive Entry where
  | createObject (a : Addr)
  | resetObject (prev : Obj)
  | suicide (a : Addr) (prev : Bool) (prevBal : Nat)
  | balance (a : Addr) (prev : Nat)
  | nonce (a : Addr) (prev : Nat)
  | storage (a : Addr) (k : Key) (prev : Val)
  | code (a : Addr) (prevCode prevHash : Code)
  | refund (prev : Nat)
  | addLog (txhash : Nat)
  | touch (a : Addr)
  | alAddr (a : Addr)
  | alSlot (a : Addr) (k : Key)
  deriving Repr, DecidableEq

/-- `journalEntry.dirtied` -/
def Entry.dirtied : Entry → Option Addr
  | .createObject a => some a
  | .resetObject _ => none
  | .suicide a _ _ => some a
  | .balance a _ => some a
  | .nonce a _ => some a
  | .storage a _ _ => some a
  | .code a _ _ => some a
  | .refund _ => none
  | .addLog _ => none
  | .touch a => some a
  | .alAddr _ => none
  | .alSlot _ _ => none

/-- `journal`: the entries and the dirty counters.  `dirties` (a slice of {address, changes}) and
    `addressToJournalIndex` are kept consistent by the code (append on first use; `deleteDirty`
    removes the element and re-indexes the ones behind it, f45414e): an association list in
    first-use order, like `stateObjects` + `addressToObjectIndex`. -/
structure Journal where
  entries : List Entry            -- oldest first
  dirties : List (Addr × Nat)     -- address ↦ changes
  deriving Repr, DecidableEq

def Journal.new : Journal := { entries := [], dirties := [] }

/-- `journal.getDirty` -/
def Journal.getDirty (j : Journal) (a : Addr) : Nat := (alookup a j.dirties).getD 0

/-- `journal.addDirty` -/
def Journal.addDirty (j : Journal) (a : Addr) : Journal :=
  { j with dirties := upsert j.dirties a (j.getDirty a + 1) }

/-- `journal.substractDirty` -/
def Journal.subDirty (j : Journal) (a : Addr) : Journal :=
  match alookup a j.dirties with
  | none => j
  | some n => if n = 0 then j else { j with dirties := upsert j.dirties a (n - 1) }

/-- `journal.deleteDirty` -/
def Journal.deleteDirty (j : Journal) (a : Addr) : Journal := { j with dirties := aerase j.dirties a }

/-- `journal.append` -/
def Journal.append (j : Journal) (e : Entry) : Journal :=
  let j1 := { j with entries := j.entries ++ [e] }
  match e.dirtied with
  | none => j1
  | some a => j1.addDirty a

/-- the dirty bookkeeping of one step of `journal.revert` -/
def Journal.undirty (j : Journal) (e : Entry) : Journal :=
  match e.dirtied with
  | none => j
  | some a =>
    let j1 := j.subDirty a
    if j1.getDirty a = 0 then j1.deleteDirty a else j1

/-! ## the adapter -/

/-- `CommitStateDB` (fields that matter at the interface) over the persistent records -/
structure Impl where
  store : Store
  objs : List (Addr × Obj)          -- stateObjects + addressToObjectIndex: first-insertion order
  journal : Journal
  revisions : List (Nat × Nat)      -- validRevisions: (id, journalIndex)
  nextRev : Nat
  refund : Nat
  thash : Nat
  logs : List (Nat × List (Nat × Addr × Nat))   -- thash ↦ logs (index, address, payload)
  logSize : Nat
  alAddrs : List Addr               -- accessList.addresses (keys)
  alSlots : List (Addr × Key)       -- accessList.slots (flattened)
  deriving Repr, DecidableEq

/-- `NewCommitStateDB` over given records -/
def Impl.init (st : Store) : Impl :=
  { store := st, objs := [], journal := Journal.new, revisions := [], nextRev := 0, refund := 0,
    thash := 0, logs := [], logSize := 0, alAddrs := [], alSlots := [] }

/-- results of interface calls -/
inductive Out where
  | unit
  | nat (n : Nat)
  | bool (b : Bool)
  | bool2 (a b : Bool)
  | hash (h : Option Code)
  | code (c : Code)
  | logs (l : List (Nat × Addr × Nat))
  | panic
  deriving Repr, DecidableEq

/-- `getStateObject`: the cached object unless flagged deleted, else the account of the keeper
    (which is then cached) -/
def Impl.getObj (s : Impl) (a : Addr) : Impl × Option Obj :=
  match alookup a s.objs with
  | some o => if o.deleted then (s, none) else (s, some o)
  | none =>
    match s.store.getAccount a with
    | none => (s, none)
    | some o => ({ s with objs := upsert s.objs a o }, some o)

/-- `setStateObject` / mutation of a cached object through its pointer -/
def Impl.setObj (s : Impl) (o : Obj) : Impl := { s with objs := upsert s.objs o.addr o }

def Impl.jappend (s : Impl) (e : Entry) : Option Impl :=
  some { s with journal := s.journal.append e }

/-- `createObject`: the new account starts from the *balance record* of the address
    (`NewAccountWithAddress`) and is flagged `created` -/
def Impl.createObject (s : Impl) (a : Addr) : Option (Impl × Obj × Option Obj) :=
  let (s1, prev) := s.getObj a
  let newObj := Obj.make a (s1.store.balOf a)
  let e := match prev with
    | none => Entry.createObject a
    | some p => Entry.resetObject p
  (s1.jappend e).map fun s2 => (s2.setObj newObj, newObj, prev)

/-- `GetOrNewStateObject` -/
def Impl.getOrNew (s : Impl) (a : Addr) : Option (Impl × Obj) :=
  match s.getObj a with
  | (s1, some o) => some (s1, o)
  | (s1, none) => (s1.createObject a).map fun r => (r.1, r.2.1)

/-- `stateObject.SetBalance` (journaled) -/
def Impl.objSetBalance (s : Impl) (o : Obj) (n : Nat) : Option Impl :=
  (s.jappend (.balance o.addr o.bal)).map fun s1 => s1.setObj { o with bal := n }

/-- `CreateAccount` -/
def Impl.createAccount (s : Impl) (a : Addr) : Option Impl :=
  match s.createObject a with
  | none => none
  | some (s1, _, none) => some s1
  | some (s1, newObj, some prev) => s1.objSetBalance newObj prev.bal

/-- `stateObject.touch` -/
def Impl.touch (c : Cfg) (s : Impl) (a : Addr) : Option Impl :=
  match s.jappend (.touch a) with
  | none => none
  | some s1 =>
    if a = c.ripemd then some { s1 with journal := s1.journal.addDirty a } else some s1

/-- `AddBalance` -/
def Impl.addBalance (c : Cfg) (s : Impl) (a : Addr) (n : Nat) : Option Impl :=
  match s.getOrNew a with
  | none => none
  | some (s1, o) =>
    if n = 0 then (if o.empty then s1.touch c a else some s1)
    else (s1.jappend (.balance a o.bal)).map fun s2 => s2.setObj { o with bal := o.bal + n }

/-- `SubBalance` (`Coin.Minus` refuses to go below zero: panic "Failed to minus balance") -/
def Impl.subBalance (s : Impl) (a : Addr) (n : Nat) : Option Impl :=
  match s.getOrNew a with
  | none => none
  | some (s1, o) =>
    if n = 0 then some s1
    else match s1.jappend (.balance a o.bal) with
      | none => none
      | some s2 => if n > o.bal then none else some (s2.setObj { o with bal := o.bal - n })

/-- `SetNonce` -/
def Impl.setNonce (s : Impl) (a : Addr) (n : Nat) : Option Impl :=
  match s.getOrNew a with
  | none => none
  | some (s1, o) => (s1.jappend (.nonce a o.nonce)).map fun s2 => s2.setObj { o with nonce := n }

/-- `SetCode` -/
def Impl.setCode (s : Impl) (a : Addr) (code : Code) : Option Impl :=
  match s.getOrNew a with
  | none => none
  | some (s1, o) =>
    (s1.jappend (.code a (o.getCode s1.store) o.codeHash)).map fun s2 => s2.setObj (o.setCodeRaw code code)

/-- `SetState` -/
def Impl.setState (s : Impl) (a : Addr) (k : Key) (v : Val) : Option Impl :=
  match s.getOrNew a with
  | none => none
  | some (s1, o) =>
    let (o1, prev) := o.getState s1.store k
    if prev = v then some (s1.setObj o1)
    else (s1.jappend (.storage a k prev)).map fun s2 => s2.setObj (o1.setStateRaw k v)

/-- `Suicide` -/
def Impl.suicide (s : Impl) (a : Addr) : Option (Impl × Bool) :=
  match s.getObj a with
  | (s1, none) => some (s1, false)
  | (s1, some o) =>
    match s1.jappend (.suicide a o.suicided o.bal) with
    | none => none
    | some s2 =>
      let o1 := { o with suicided := true }
      (s2.objSetBalance o1 0).map fun s3 => (s3, true)

/-- `AddLog` -/
def Impl.addLog (s : Impl) (a : Addr) (payload : Nat) : Option Impl :=
  (s.jappend (.addLog s.thash)).map fun s1 =>
    { s1 with logs := upsert s1.logs s1.thash (((alookup s1.thash s1.logs).getD []) ++ [(s1.logSize, a, payload)]),
              logSize := s1.logSize + 1 }

/-- `AddAddressToAccessList` -/
def Impl.alAddAddr (s : Impl) (a : Addr) : Option Impl :=
  if a ∈ s.alAddrs then some s
  else ({ s with alAddrs := s.alAddrs ++ [a] } : Impl).jappend (.alAddr a)

/-- `AddSlotToAccessList` -/
def Impl.alAddSlot (s : Impl) (a : Addr) (k : Key) : Option Impl :=
  let addrChange := decide (a ∉ s.alAddrs)
  let slotChange := addrChange || decide ((a, k) ∉ s.alSlots)
  let s1 : Impl := { s with alAddrs := if addrChange then s.alAddrs ++ [a] else s.alAddrs,
                            alSlots := if slotChange then s.alSlots ++ [(a, k)] else s.alSlots }
  match (if addrChange then s1.jappend (.alAddr a) else some s1) with
  | none => none
  | some s2 => if slotChange then s2.jappend (.alSlot a k) else some s2

/-! ### reverting -/

/-- `journalEntry.revert` for every entry kind (`balanceChange.revert` and `suicideChange.revert`
    use the non-journaling `setBalance` since d411c44) -/
def Impl.revertEntry (s : Impl) : Entry → Option Impl
  | .createObject a => some { s with objs := aerase s.objs a }
  | .resetObject prev => some (s.setObj prev)
  | .suicide a prev prevBal =>
    match s.getObj a with
    | (s1, none) => some s1
    | (s1, some o) => some (s1.setObj { o with suicided := prev, bal := prevBal })
  | .balance a prev =>
    match s.getObj a with
    | (_, none) => none                        -- nil dereference
    | (s1, some o) => some (s1.setObj { o with bal := prev })
  | .nonce a prev =>
    match s.getObj a with
    | (_, none) => none
    | (s1, some o) => some (s1.setObj { o with nonce := prev })
  | .storage a k prev =>
    match s.getObj a with
    | (_, none) => none
    | (s1, some o) => some (s1.setObj (o.setStateRaw k prev))
  | .code a prevCode prevHash =>
    match s.getObj a with
    | (_, none) => none
    | (s1, some o) => some (s1.setObj (o.setCodeRaw prevHash prevCode))
  | .refund prev => some { s with refund := prev }
  | .addLog h =>
    match alookup h s.logs with
    | none => none
    | some l =>
      if l.length = 0 then none
      else if l.length = 1 then some { s with logs := aerase s.logs h, logSize := s.logSize - 1 }
      else some { s with logs := upsert s.logs h l.dropLast, logSize := s.logSize - 1 }
  | .touch _ => some s
  | .alAddr a => some { s with alAddrs := s.alAddrs.erase a }
  | .alSlot a k => some { s with alSlots := s.alSlots.erase (a, k) }

/-- one step of the loop of `journal.revert`: undo the last entry, fix the dirty count, drop it -/
def Impl.undoLast (s : Impl) : Option Impl :=
  match s.journal.entries.getLast? with
  | none => some s
  | some e =>
    match s.revertEntry e with
    | none => none
    | some s1 => some { s1 with journal := { s1.journal.undirty e with entries := s.journal.entries.dropLast } }

/-- `journal.revert(statedb, snapshot)` -/
def Impl.revertTo (s : Impl) (snapshot : Nat) : Nat → Option Impl
  | 0 => some s
  | n + 1 =>
    if s.journal.entries.length ≤ snapshot then some s
    else match s.undoLast with
      | none => none
      | some s1 => s1.revertTo snapshot n

/-- `sort.Search(len, id ≥ revID)` on the ascending revision ids -/
def findRev (revs : List (Nat × Nat)) (id : Nat) : Nat := (revs.takeWhile (fun r => r.1 < id)).length

/-- `RevertToSnapshot` -/
def Impl.revertToSnapshot (s : Impl) (id : Nat) : Option Impl :=
  let idx := findRev s.revisions id
  match s.revisions[idx]? with
  | none => none
  | some (rid, jidx) =>
    if rid ≠ id then none
    else (s.revertTo jidx (s.journal.entries.length)).map fun s1 => { s1 with revisions := s.revisions.take idx }

/-- `Snapshot` -/
def Impl.snapshot (s : Impl) : Impl × Nat :=
  ({ s with revisions := s.revisions ++ [(s.nextRev, s.journal.entries.length)], nextRev := s.nextRev + 1 }, s.nextRev)

/-! ### Finalise, Reset, Prepare -/

/-- the records `commitState` of this object starts from: a `created` object is written out over
    nothing, what the store holds under its address belonged to the replaced account (8684164) -/
def Obj.baseStore (st : Store) (o : Obj) : Store := if o.created then st.delStorage o.addr else st

/-- the body of the `for _, stateEntry := range s.stateObjects` loop of `Finalise` -/
def finaliseObj (c : Cfg) (deleteEmpty : Bool) (dirtySet : List Addr) (st : Store) (ao : Addr × Obj) : Store :=
  let o := ao.2
  let isDirty := decide (ao.1 ∈ dirtySet)
  if o.suicided || (isDirty && deleteEmpty && o.empty) then
    (st.removeAccount o.addr).delStorage o.addr                                        -- deleteStateObject
  else if isDirty then
    let st1 := o.commitState (o.baseStore st)
    let st2 := if o.code ≠ 0 && o.dirtyCode then st1.setCode c o.codeHash o.code else st1
    st2.setAccount o                                                                   -- updateStateObject
  else st

/-- `commitCode` of this object fails: it is written out and its code is the marker the store refuses -/
def commitFails (c : Cfg) (deleteEmpty : Bool) (dirtySet : List Addr) (ao : Addr × Obj) : Bool :=
  let isDirty := decide (ao.1 ∈ dirtySet)
  !(ao.2.suicided || (isDirty && deleteEmpty && ao.2.empty)) && isDirty &&
    (ao.2.code != 0 && ao.2.dirtyCode && ao.2.code == c.tomb)

/-- `Finalise(deleteEmptyObjects)` and whether it returned an error.  The loop stops at the first
    object whose `commitCode` fails (its storage has been written by then, its account has not);
    the deferred function clears the object cache, the journal, the refund and the revisions in
    either case (not the revision counter, the logs or the access list). -/
def Impl.finalise (c : Cfg) (s : Impl) (deleteEmpty : Bool) : Impl × Bool :=
  let dirtySet := (s.journal.dirties.map (·.1)).filter (fun a => (alookup a s.objs).isSome)
  let done := s.objs.takeWhile (fun ao => !commitFails c deleteEmpty dirtySet ao)
  let st := done.foldl (finaliseObj c deleteEmpty dirtySet) s.store
  match s.objs.find? (commitFails c deleteEmpty dirtySet) with
  | none => ({ s with store := st, objs := [], journal := Journal.new, refund := 0, revisions := [] }, false)
  | some ao =>
    ({ s with store := ao.2.commitState (ao.2.baseStore st), objs := [], journal := Journal.new, refund := 0, revisions := [] }, true)

/-- `Reset` -/
def Impl.reset (s : Impl) : Impl := Impl.init s.store

/-- `Prepare(thash)` -/
def Impl.prepare (s : Impl) (h : Nat) : Impl := { s with thash := h, alAddrs := [], alSlots := [] }

/-! ### the interface -/

inductive Op where
  | createAccount (a : Addr)
  | subBalance (a : Addr) (n : Nat)
  | addBalance (a : Addr) (n : Nat)
  | getBalance (a : Addr)
  | getNonce (a : Addr)
  | setNonce (a : Addr) (n : Nat)
  | getCodeHash (a : Addr)
  | getCode (a : Addr)
  | setCode (a : Addr) (code : Code)
  | getCodeSize (a : Addr)
  | addRefund (n : Nat)
  | subRefund (n : Nat)
  | getRefund
  | getCommittedState (a : Addr) (k : Key)
  | getState (a : Addr) (k : Key)
  | setState (a : Addr) (k : Key) (v : Val)
  | suicide (a : Addr)
  | hasSuicided (a : Addr)
  | exist (a : Addr)
  | empty (a : Addr)
  | addAddressToAccessList (a : Addr)
  | addSlotToAccessList (a : Addr) (k : Key)
  | addressInAccessList (a : Addr)
  | slotInAccessList (a : Addr) (k : Key)
  | prepare (h : Nat)
  | addLog (a : Addr) (payload : Nat)
  | getLogs
  | snapshot
  | revertToSnapshot (id : Nat)
  | finalise (deleteEmpty : Bool)
  | reset
  deriving Repr, DecidableEq

def orPanic (s : Impl) (r : Option Impl) : Impl × Out :=
  match r with
  | some s' => (s', .unit)
  | none => (s, .panic)

/-- a read through `getStateObject` -/
def Impl.readObj (s : Impl) (a : Addr) (f : Impl → Option Obj → Impl × Out) : Impl × Out :=
  let (s1, o) := s.getObj a
  f s1 o

/-- one interface call on the adapter -/
def Impl.step (c : Cfg) (s : Impl) : Op → Impl × Out
  | .createAccount a => orPanic s (s.createAccount a)
  | .subBalance a n => orPanic s (s.subBalance a n)
  | .addBalance a n => orPanic s (s.addBalance c a n)
  | .getBalance a => s.readObj a fun s1 o => (s1, .nat (match o with | some o => o.bal | none => 0))
  | .getNonce a => s.readObj a fun s1 o => (s1, .nat (match o with | some o => o.nonce | none => 0))
  | .setNonce a n => orPanic s (s.setNonce a n)
  | .getCodeHash a => s.readObj a fun s1 o => (s1, .hash (o.map (·.codeHash)))
  | .getCode a => s.readObj a fun s1 o => (s1, .code (match o with | some o => o.getCode s1.store | none => 0))
  | .setCode a code => orPanic s (s.setCode a code)
  | .getCodeSize a => s.readObj a fun s1 o =>
      (s1, .nat (match o with
        | some o => if o.code ≠ 0 then codeLen o.code else codeLen (o.getCode s1.store)
        | none => 0))
  | .addRefund n =>
    match s.jappend (.refund s.refund) with
    | none => (s, .panic)
    | some s1 => ({ s1 with refund := s1.refund + n }, .unit)
  | .subRefund n =>
    match s.jappend (.refund s.refund) with
    | none => (s, .panic)
    | some s1 => if n > s1.refund then (s, .panic) else ({ s1 with refund := s1.refund - n }, .unit)
  | .getRefund => (s, .nat s.refund)
  | .getCommittedState a k => s.readObj a fun s1 o =>
      match o with
      | some o => let (o1, v) := o.getCommitted s1.store k; (s1.setObj o1, .nat v)
      | none => (s1, .nat 0)
  | .getState a k => s.readObj a fun s1 o =>
      match o with
      | some o => let (o1, v) := o.getState s1.store k; (s1.setObj o1, .nat v)
      | none => (s1, .nat 0)
  | .setState a k v => orPanic s (s.setState a k v)
  | .suicide a =>
    match s.suicide a with
    | none => (s, .panic)
    | some (s1, b) => (s1, .bool b)
  | .hasSuicided a => s.readObj a fun s1 o => (s1, .bool (match o with | some o => o.suicided | none => false))
  | .exist a => s.readObj a fun s1 o => (s1, .bool o.isSome)
  | .empty a => s.readObj a fun s1 o => (s1, .bool (match o with | some o => o.empty | none => true))
  | .addAddressToAccessList a => orPanic s (s.alAddAddr a)
  | .addSlotToAccessList a k => orPanic s (s.alAddSlot a k)
  | .addressInAccessList a => (s, .bool (decide (a ∈ s.alAddrs)))
  | .slotInAccessList a k =>
    (s, if a ∈ s.alAddrs then .bool2 true (decide ((a, k) ∈ s.alSlots)) else .bool2 false false)
  | .prepare h => (s.prepare h, .unit)
  | .addLog a p => orPanic s (s.addLog a p)
  | .getLogs => (s, .logs ((alookup s.thash s.logs).getD []))
  | .snapshot => let (s1, id) := s.snapshot; (s1, .nat id)
  | .revertToSnapshot id => orPanic s (s.revertToSnapshot id)
  | .finalise b => let (s1, failed) := s.finalise c b; (s1, if failed then .panic else .unit)   -- an error return prints as `panic`
  | .reset => (s.reset, .unit)

/-- outputs of a call sequence; a panic ends it -/
def Impl.run (c : Cfg) (s : Impl) : List Op → List Out
  | [] => []
  | op :: ops =>
    if (s.step c op).2 = .panic then [.panic] else (s.step c op).2 :: Impl.run c (s.step c op).1 ops


/-- the adapter state after a call sequence (a panic ends it) -/
def Impl.endState (c : Cfg) : Impl → List Op → Impl
  | s, [] => s
  | s, op :: ops => if (s.step c op).2 = .panic then s else Impl.endState c (s.step c op).1 ops

/-! ### guards: the conditions under which the adapter is claimed to agree with the reference

  Each condition is a decidable predicate on the adapter's own state; the driver evaluates them on
  every line of every correspondence run:
    marker code   `Finalise` returns the store's error: an object is written out whose code is the
                  store's deletion marker (3 bytes e2 9b bc); the store refuses the record and the
                  transaction fails, which the reference semantics has no counterpart for (a
                  documented exclusion, not a silent divergence; reachable by a deployment that
                  returns exactly those three bytes);
    empties       `Finalise(false)` (empty accounts would stay in the records; the transaction path
                  calls `Finalise(true)` only, vm/evm.go `Apply`);
    boundaries    `Prepare` / `Reset` with a non-empty journal (the transaction path calls `Prepare`
                  at the top of DeliverTx and `Reset` in EndBlock, each after the `Finalise` of the
                  last transaction, whose deferred function empties the journal).
  Nothing else.  In particular nothing about storage records (8684164: they go with the account,
  and a `created` object does not read those of its predecessor), nothing about the RIPEMD touch
  exception (its extra dirty count and the reference's sticky touch decide nothing: the records
  hold no empty account), and: that no journal operation fails, that `Finalise` sees every account
  with a live journal entry as dirty, and that every dirty slot has its original value cached when
  `commitState` runs (it skips the others) are proved invariants (Abs.lean `JOK`, `JCnt`, `OOK`). -/

/-- decidable sanity of the records (`StoreOK` in Abs.lean): no empty account, the code of every
    account present.  Kept by every call inside the guards (`Sim.cinv`), true of the empty records.
    Storage records under an address that has no account (left by deletions before 8684164) are
    allowed: a `created` object does not read them and they are deleted when it is written out. -/
def Store.sane (st : Store) : Bool :=
  (st.acct.all fun x => !(x.2.1 == 0 && x.2.2 == 0 && st.balOf x.1 == 0)) &&
  (st.acct.all fun x => x.2.2 == 0 || st.codeAt x.2.2 == x.2.2)

/-- `GetBalance(a)`, without caching -/
def Impl.balAt (s : Impl) (a : Addr) : Nat :=
  match alookup a s.objs with
  | some o => if o.deleted then 0 else o.bal
  | none => match s.store.getAccount a with
    | some o => o.bal
    | none => 0

/-- the addresses `Finalise` treats as dirty -/
def Impl.dirtySet (s : Impl) : List Addr :=
  (s.journal.dirties.map (·.1)).filter (fun a => (alookup a s.objs).isSome)

/-- every dirty slot has its original value cached (`commitState` skips the others); an invariant, see `OOK` -/
def Obj.dirtyHasOrigin (o : Obj) : Bool := o.dirty.all fun kv => (alookup kv.1 o.origin).isSome

/-- `Finalise(true)` does not return the store's error: no object that is written out has the
    deletion marker as its new code -/
def Impl.finaliseGuard (c : Cfg) (s : Impl) : Bool :=
  s.objs.all fun ao => !commitFails c true s.dirtySet ao

def Impl.guard (c : Cfg) (s : Impl) : Op → Bool
  | .prepare _ => s.journal.entries.isEmpty && s.revisions.isEmpty
  | .reset => s.journal.entries.isEmpty
  | .finalise b => b && s.finaliseGuard c
  | _ => true

/-- the only panics of the adapter (Props/C16.lean `panics_are_shared`): the ones the reference shares -/
def Impl.legitPanic (s : Impl) : Op → Bool
  | .subRefund n => decide (n > s.refund)
  | .subBalance a n => decide (n > s.balAt a)
  | .revertToSnapshot id =>
    match s.revisions[findRev s.revisions id]? with
    | some (rid, _) => rid != id
    | none => true
  | _ => false

def Impl.safeStep (c : Cfg) (s : Impl) (op : Op) : Bool := s.guard c op

/-- the guards hold at every step of the run -/
def Impl.safeRun (c : Cfg) : Impl → List Op → Bool
  | _, [] => true
  | s, op :: ops => s.safeStep c op && ((s.step c op).2 == .panic || Impl.safeRun c (s.step c op).1 ops)

/-! ## the reference semantics -/

structure RAcct where
  nonce : Nat
  bal : Nat
  code : Code
  stor : List (Key × Val)      -- current storage (absent = 0)
  cstor : List (Key × Val)     -- committed storage: as of the last Finalise, empty for an account created since
  suicided : Bool
  deriving Repr, DecidableEq

def RAcct.fresh (bal : Nat) : RAcct := { nonce := 0, bal := bal, code := 0, stor := [], cstor := [], suicided := false }

def RAcct.empty (r : RAcct) : Bool := r.nonce == 0 && r.bal == 0 && r.code == 0

def RAcct.slot (r : RAcct) (k : Key) : Val := (alookup k r.stor).getD 0
def RAcct.cslot (r : RAcct) (k : Key) : Val := (alookup k r.cstor).getD 0

/-- everything a snapshot saves -/
structure RWorld where
  accts : List (Addr × RAcct)
  touched : List Addr                       -- accounts touched since the last Finalise (EIP-161)
  refund : Nat
  logs : List (Nat × Nat × Addr × Nat)      -- (tx hash, index, address, payload), oldest first
  alAddrs : List Addr
  alSlots : List (Addr × Key)
  deriving Repr, DecidableEq

structure Ref where
  cur : RWorld
  stack : List (Nat × RWorld)     -- saved worlds with their revision ids, oldest first
  nextRev : Nat
  thash : Nat
  sticky : List Addr              -- touches of the RIPEMD precompile survive reverts (consensus exception)
  deriving Repr, DecidableEq

def RWorld.get (w : RWorld) (a : Addr) : Option RAcct := alookup a w.accts
def RWorld.put (w : RWorld) (a : Addr) (r : RAcct) : RWorld := { w with accts := upsert w.accts a r, touched := w.touched ++ [a] }

def Ref.init (accts : List (Addr × RAcct)) : Ref :=
  { cur := { accts := accts, touched := [], refund := 0, logs := [], alAddrs := [], alSlots := [] },
    stack := [], nextRev := 0, thash := 0, sticky := [] }

/-- the account, created (and thereby touched) when missing -/
def RWorld.getOrNew (w : RWorld) (a : Addr) : RWorld × RAcct :=
  match w.get a with
  | some r => (w, r)
  | none => (w.put a (RAcct.fresh 0), RAcct.fresh 0)

def Ref.withCur (r : Ref) (w : RWorld) : Ref := { r with cur := w }

/-- deletion rule of `Finalise` for the touched accounts -/
def rfinaliseAcct (deleteEmpty : Bool) (touched : List Addr) (ar : Addr × RAcct) : Bool :=
  !(decide (ar.1 ∈ touched) && (ar.2.suicided || (deleteEmpty && ar.2.empty)))

def Ref.finalise (r : Ref) (deleteEmpty : Bool) : Ref :=
  let t := r.cur.touched ++ r.sticky
  let kept := r.cur.accts.filter (rfinaliseAcct deleteEmpty t)
  { r with cur := { r.cur with accts := kept.map (fun ar => (ar.1, { ar.2 with cstor := ar.2.stor })),
                               touched := [], refund := 0 },
           stack := [], sticky := [] }

/-- one interface call on the reference -/
def Ref.step (c : Cfg) (r : Ref) : Op → Ref × Out
  | .createAccount a =>
    let bal := match r.cur.get a with | some p => p.bal | none => 0
    (r.withCur (r.cur.put a (RAcct.fresh bal)), .unit)
  | .subBalance a n =>
    let (w, x) := r.cur.getOrNew a
    if n = 0 then (r.withCur w, .unit)
    else if n > x.bal then (r, .panic)
    else (r.withCur (w.put a { x with bal := x.bal - n }), .unit)
  | .addBalance a n =>
    let (w, x) := r.cur.getOrNew a
    if n = 0 then
      if x.empty then
        ({ r with cur := { w with touched := w.touched ++ [a] },
                  sticky := if a = c.ripemd then r.sticky ++ [a] else r.sticky }, .unit)
      else (r.withCur w, .unit)
    else (r.withCur (w.put a { x with bal := x.bal + n }), .unit)
  | .getBalance a => (r, .nat (match r.cur.get a with | some x => x.bal | none => 0))
  | .getNonce a => (r, .nat (match r.cur.get a with | some x => x.nonce | none => 0))
  | .setNonce a n => let (w, x) := r.cur.getOrNew a; (r.withCur (w.put a { x with nonce := n }), .unit)
  | .getCodeHash a => (r, .hash ((r.cur.get a).map (·.code)))
  | .getCode a => (r, .code (match r.cur.get a with | some x => x.code | none => 0))
  | .setCode a code => let (w, x) := r.cur.getOrNew a; (r.withCur (w.put a { x with code := code }), .unit)
  | .getCodeSize a => (r, .nat (match r.cur.get a with | some x => codeLen x.code | none => 0))
  | .addRefund n => (r.withCur { r.cur with refund := r.cur.refund + n }, .unit)
  | .subRefund n => if n > r.cur.refund then (r, .panic) else (r.withCur { r.cur with refund := r.cur.refund - n }, .unit)
  | .getRefund => (r, .nat r.cur.refund)
  | .getCommittedState a k => (r, .nat (match r.cur.get a with | some x => x.cslot k | none => 0))
  | .getState a k => (r, .nat (match r.cur.get a with | some x => x.slot k | none => 0))
  | .setState a k v =>
    let (w, x) := r.cur.getOrNew a
    if x.slot k = v then (r.withCur w, .unit)
    else (r.withCur (w.put a { x with stor := upsert x.stor k v }), .unit)
  | .suicide a =>
    match r.cur.get a with
    | none => (r, .bool false)
    | some x => (r.withCur (r.cur.put a { x with suicided := true, bal := 0 }), .bool true)
  | .hasSuicided a => (r, .bool (match r.cur.get a with | some x => x.suicided | none => false))
  | .exist a => (r, .bool (r.cur.get a).isSome)
  | .empty a => (r, .bool (match r.cur.get a with | some x => x.empty | none => true))
  | .addAddressToAccessList a =>
    (if a ∈ r.cur.alAddrs then r else r.withCur { r.cur with alAddrs := r.cur.alAddrs ++ [a] }, .unit)
  | .addSlotToAccessList a k =>
    -- a slot is only ever listed under a listed address, so "address new or slot new" is "slot new"
    let addrNew := decide (a ∉ r.cur.alAddrs)
    let slotNew := addrNew || decide ((a, k) ∉ r.cur.alSlots)
    (r.withCur { r.cur with alAddrs := if addrNew then r.cur.alAddrs ++ [a] else r.cur.alAddrs,
                            alSlots := if slotNew then r.cur.alSlots ++ [(a, k)] else r.cur.alSlots }, .unit)
  | .addressInAccessList a => (r, .bool (decide (a ∈ r.cur.alAddrs)))
  | .slotInAccessList a k =>
    (r, if a ∈ r.cur.alAddrs then .bool2 true (decide ((a, k) ∈ r.cur.alSlots)) else .bool2 false false)
  | .prepare h => ({ r with thash := h, cur := { r.cur with alAddrs := [], alSlots := [] } }, .unit)
  | .addLog a p => (r.withCur { r.cur with logs := r.cur.logs ++ [(r.thash, r.cur.logs.length, a, p)] }, .unit)
  | .getLogs => (r, .logs ((r.cur.logs.filter (fun l => l.1 == r.thash)).map (·.2)))
  | .snapshot => ({ r with stack := r.stack ++ [(r.nextRev, r.cur)], nextRev := r.nextRev + 1 }, .nat r.nextRev)
  | .revertToSnapshot id =>
    let idx := (r.stack.takeWhile (fun x => x.1 < id)).length
    match r.stack[idx]? with
    | none => (r, .panic)
    | some (rid, w) => if rid ≠ id then (r, .panic) else ({ r with cur := w, stack := r.stack.take idx }, .unit)
  | .finalise b => (r.finalise b, .unit)
  | .reset =>
    ({ r with cur := { r.cur with touched := [], refund := 0, logs := [], alAddrs := [], alSlots := [] },
              stack := [], nextRev := 0, thash := 0, sticky := [] }, .unit)

def Ref.run (c : Cfg) (r : Ref) : List Op → List Out
  | [] => []
  | op :: ops =>
    if (r.step c op).2 = .panic then [.panic] else (r.step c op).2 :: Ref.run c (r.step c op).1 ops

/-! ## what the records say, as a reference world -/

/-- the account an address has according to the persistent records -/
def Store.racct (st : Store) (slots : List Key) (a : Addr) : Option RAcct :=
  (st.getAccount a).map fun o =>
    let s := (slots.map fun k => (k, st.slot a k)).filter (fun kv => kv.2 ≠ 0)
    { nonce := o.nonce, bal := o.bal, code := o.getCode st, stor := s, cstor := s, suicided := false }

/-- all addresses and slots mentioned by the records -/
def Store.addrs (st : Store) : List Addr :=
  (st.acct.map (·.1) ++ st.bal.map (·.1) ++ st.stor.map (·.1.1)).eraseDups

def Store.slotsOf (st : Store) (a : Addr) : List Key :=
  ((st.stor.filter (fun x => x.1.1 == a)).map (·.1.2)).eraseDups

/-- the reference world holding the same accounts as the records -/
def Store.world (st : Store) : List (Addr × RAcct) :=
  st.addrs.filterMap fun a => (st.racct (st.slotsOf a) a).map fun r => (a, r)

/-! ## clients -/

/-- a deterministic client of the interface: issues a call, continues on its result -/
inductive Client (α : Type) where
  | ret (x : α)
  | call (op : Op) (k : Out → Client α)

/-- running a client against the adapter: its result (`none` when a call panicked) and the calls made -/
def Client.runImpl (c : Cfg) : Client α → Impl → Option α × List Op
  | .ret x, _ => (some x, [])
  | .call op k, s =>
    if (s.step c op).2 = .panic then (none, [op])
    else (((k (s.step c op).2).runImpl c (s.step c op).1).1, op :: ((k (s.step c op).2).runImpl c (s.step c op).1).2)

def Client.runRef (c : Cfg) : Client α → Ref → Option α × List Op
  | .ret x, _ => (some x, [])
  | .call op k, r =>
    if (r.step c op).2 = .panic then (none, [op])
    else (((k (r.step c op).2).runRef c (r.step c op).1).1, op :: ((k (r.step c op).2).runRef c (r.step c op).1).2)

/-- the guards hold at every call the client makes -/
def Client.safe (c : Cfg) : Client α → Impl → Bool
  | .ret _, _ => true
  | .call op k, s => s.safeStep c op && ((s.step c op).2 == .panic || (k (s.step c op).2).safe c (s.step c op).1)

end OLP.Evm
