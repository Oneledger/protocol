/-
  Each handler of the ONS model (OLP/Ons/Model.lean) is unfolded once, in its `run*_ok`, and a whole DeliverTx
  in `step_ok`.  That every step keeps the registry invariant and the keys distinct, and the theorems of
  OLP/Props/C20.lean, are read off these statements.
-/
import OLP.Ons.Model
import OLP.Base.Guard

namespace OLP.Ons
open OLP

theorem validName_length {n : Name} (h : validName n = true) : 2 ≤ n.length := by
  simp [validName] at h
  exact h.1.1.1

theorem isSub_length {n : Name} (h : isSub n = true) : 3 ≤ n.length := by
  simp [isSub] at h
  exact h.1.1

theorem isSub_of_valid {n : Name} (h : validName n = true) (h3 : 3 ≤ n.length) : isSub n = true := by
  simp [validName] at h
  simp [isSub, h3, h.2]
  exact h.1.2

theorem length_two_of_valid_not_sub {n : Name} (h : validName n = true) (hs : isSub n = false) : n.length = 2 := by
  have h2 := validName_length h
  by_cases h3 : 3 ≤ n.length
  · rw [isSub_of_valid h h3] at hs; cases hs
  · omega

theorem parentOf_length {n : Name} (h : 2 ≤ n.length) : (parentOf n).length = 2 := by
  simp [parentOf]
  omega

theorem isSubOf_parent {n : Name} (h : 3 ≤ n.length) : isSubOf n (parentOf n) = true := by
  have hl : (parentOf n).length = 2 := parentOf_length (by omega)
  simp only [isSubOf, hl, Bool.and_eq_true, decide_eq_true_eq, beq_iff_eq]
  exact ⟨by omega, rfl⟩

theorem isSubOf_length {n r : Name} (h : isSubOf n r = true) : r.length < n.length := by
  simp [isSubOf] at h
  exact h.1

theorem isSubOf_drop {n r : Name} (h : isSubOf n r = true) : n.drop (n.length - r.length) = r := by
  simp [isSubOf] at h
  exact h.2

theorem parentOf_of_isSubOf {n r : Name} (h : isSubOf n r = true) (h2 : 2 ≤ r.length) : parentOf n = parentOf r := by
  have hl := isSubOf_length h
  unfold parentOf
  rw [← isSubOf_drop h, List.drop_drop, List.length_drop]
  congr 1
  omega

theorem isSubOf_irrefl (n : Name) : isSubOf n n = false := by
  simp [isSubOf]

theorem ne_of_isSubOf {k r : Name} (h : isSubOf k r = true) : k ≠ r := fun e => by
  rw [e, isSubOf_irrefl] at h; cases h

theorem parentOf_of_length_two {r : Name} (h : r.length = 2) : parentOf r = r := by
  simp [parentOf, h]

theorem rootOf_of_length_two {r : Name} (h : r.length = 2) : rootOf r = r :=
  if_neg (by omega)

theorem rootOf_of_isSubOf {n r : Name} (h : isSubOf n r = true) (h2 : 2 ≤ r.length) : rootOf n = rootOf r := by
  have hl := isSubOf_length h
  unfold rootOf
  rw [if_pos (by omega), parentOf_of_isSubOf h h2]
  split
  · rfl
  · exact parentOf_of_length_two (by omega)

/-- `r = k` with the root on the left, as `Auth.purchase` has it -/
theorem rootOf_eq_iff {k r : Name} (hr : r.length = 2) : rootOf k = r ↔ r = k ∨ isSubOf k r = true := by
  constructor
  · intro e
    unfold rootOf at e
    split at e
    · exact Or.inr (e ▸ isSubOf_parent ‹_›)
    · exact Or.inl e.symm
  · rintro (rfl | e)
    · exact rootOf_of_length_two hr
    · rw [rootOf_of_isSubOf e (by omega), rootOf_of_length_two hr]

theorem alookup_mapSel (p : Name → Bool) (f : Domain → Domain) (l : List (Name × Domain)) (k : Name) :
    alookup k (mapSel p f l) = if p k then (alookup k l).map f else alookup k l := by
  induction l with
  | nil => simp [mapSel]
  | cons hd t ih =>
    obtain ⟨n, d⟩ := hd
    by_cases hp : p n <;> by_cases hk : n = k <;> simp_all [mapSel, alookup]

theorem eraseSel_eq_filter (p : Name → Bool) (l : List (Name × Domain)) :
    eraseSel p l = l.filter fun x => !p x.1 := by
  induction l with
  | nil => rfl
  | cons hd t ih => rw [eraseSel, List.filter_cons, ih]; cases p hd.1 <;> rfl

theorem alookup_eraseSel (p : Name → Bool) (l : List (Name × Domain)) (k : Name) :
    alookup k (eraseSel p l) = if p k then none else alookup k l := by
  rw [eraseSel_eq_filter, alookup_filter_key (fun n => !p n)]
  cases p k <;> rfl

/-- the registry `runRenew` leaves -/
theorem alookup_mapSel_upsert (n : Name) (d : Domain) (f : Domain → Domain) (l : List (Name × Domain)) (k : Name) :
    alookup k (mapSel (visSub n) f (upsert l n d)) =
      if k = n then some d else if visSub n k = true then (alookup k l).map f else alookup k l := by
  rw [alookup_mapSel, alookup_upsert]
  by_cases hk : k = n
  · subst hk; simp [visSub, isSubOf_irrefl]
  · simp [hk]

theorem akeys_mapSel (p : Name → Bool) (f : Domain → Domain) (l : List (Name × Domain)) :
    akeys (mapSel p f l) = akeys l := by
  unfold akeys
  induction l with
  | nil => rfl
  | cons hd t ih => simp only [mapSel]; split <;> simp [ih]

theorem akeys_eraseSel (p : Name → Bool) (l : List (Name × Domain)) :
    akeys (eraseSel p l) = (akeys l).filter (fun n => !p n) := by
  rw [eraseSel_eq_filter]
  exact (List.filter_map (f := Prod.fst) (p := fun n : Name => !p n) (l := l)).symm

/-- the last two conjuncts are `C20.InInt64 (f + q)`: that predicate is defined in the property file
    (`Props/C20.lean`, section 4) as just this pair, so the conjunction is used there as it stands -/
theorem blocksFor_some {a pb f q : Int} (h : blocksFor a pb f = some q) :
    q = a / pb ∧ 0 ≤ f ∧ minInt64 ≤ f + q ∧ f + q ≤ maxInt64 := by
  unfold blocksFor at h
  simp only [] at h  -- inlines the `let`
  split at h
  · cases h
  · rename_i hn
    cases h
    simp only [maxInt64, minInt64, not_or, Int.not_lt] at hn ⊢
    refine ⟨trivial, ?_, ?_, ?_⟩ <;> omega

theorem blocksFor_none {a pb f : Int} (h : blocksFor a pb f = none) :
    a / pb < minInt64 ∨ maxInt64 < a / pb ∨ f < 0 ∨ maxInt64 < f + a / pb := by
  unfold blocksFor at h
  simp only [] at h
  split at h
  · rename_i hn
    simp only [maxInt64, minInt64] at *
    omega
  · cases h

theorem resetAfterSale_expire (d : Domain) (b a : Addr) (q v : Int) :
    (resetAfterSale d b a q v).expire = max d.expire v + q := by
  unfold resetAfterSale
  simp only []
  split <;> omega

theorem bal_upsert (b : List (Acct × Int)) (a x : Acct) (v : Int) :
    bal (upsert b a v) x = if x = a then v else bal b x :=
  getD_alookup_upsert b a x v 0

theorem le_bal_of_debit {b b1 : List (Acct × Int)} {a : Acct} {x : Int} (h : debit b a x = some b1) : x ≤ bal b a :=
  Int.sub_nonneg.mp (Int.not_lt.mp (of_guard h).1)

theorem bal_debit {b b1 : List (Acct × Int)} {a : Acct} {x : Int} (h : debit b a x = some b1) (y : Acct) :
    bal b1 y = bal b y - (if y = a then x else 0) :=
  Option.some.inj (of_guard h).2 ▸ getD_alookup_debit b a y x

theorem bal_credit (b : List (Acct × Int)) (a : Acct) (x : Int) (y : Acct) :
    bal (credit b a x) y = bal b y + (if y = a then x else 0) :=
  getD_alookup_credit b a y x

theorem inv_of_invB {s : St} (h : invB s = true) : RegInv s := by
  intro n d hd
  have := (List.all_eq_true.mp h) (n, d) (mem_of_alookup hd)
  simp only [recOk, Bool.and_eq_true, Bool.or_eq_true, decide_eq_true_eq] at this
  refine ⟨this.1, fun h3 => ?_⟩
  rcases this.2 with hl | hp
  · omega
  · split at hp
    · rename_i q hq
      simp at hp
      exact ⟨q, hq, hp.1, hp.2⟩
    · cases hp

theorem inv_of_recs_nil {s : St} (h : s.recs = []) : RegInv s := by
  intro n d hd
  rw [h] at hd; cases hd

theorem inv_empty : RegInv St.empty := inv_of_recs_nil rfl

theorem RegInv.root {s : St} (hi : RegInv s) {k : Name} {d : Domain} (hd : alookup k s.recs = some d) :
    ∃ p, alookup (rootOf k) s.recs = some p ∧ p.owner = d.owner ∧ p.expire = d.expire := by
  unfold rootOf
  split
  · exact (hi k d hd).2 ‹_›
  · exact ⟨d, hd, rfl, rfl⟩

/-- The invariant compares owner and expiry of a record with those of the record at its root name.  So
    it survives every step that, besides deleting sub-names, rewrites owner and expiry of the records
    by a function `φ` of their root name alone: a record and its parent have the same root. -/
theorem inv_of_rootwise {s s' : St} (φ : Name → Addr × Int → Addr × Int)
    (h : ∀ k, (alookup k s'.recs = none ∧ 3 ≤ k.length) ∨
      (alookup k s'.recs).map (fun d => (d.owner, d.expire)) =
        (alookup k s.recs).map (fun d => φ (rootOf k) (d.owner, d.expire)))
    (hi : RegInv s) : RegInv s' := by
  intro n d hd
  rcases h n with ⟨h0, _⟩ | h1
  · rw [hd] at h0; cases h0
  rw [hd] at h1
  cases h0 : alookup n s.recs with
  | none => rw [h0] at h1; cases h1
  | some d0 =>
    obtain ⟨hv, hp⟩ := hi n d0 h0
    refine ⟨hv, fun h3 => ?_⟩
    obtain ⟨p, hpl, hpo, hpe⟩ := hp h3
    have hl2 := parentOf_length (validName_length hv)
    rcases h (parentOf n) with ⟨_, hl⟩ | h2
    · omega
    cases h4 : alookup (parentOf n) s'.recs with
    | none => rw [h4, hpl] at h2; cases h2
    | some p' =>
      rw [h4, hpl, rootOf_of_length_two hl2] at h2
      rw [h0, show rootOf n = parentOf n from if_pos h3] at h1
      have e2 : (p'.owner, p'.expire) = φ (parentOf n) (p.owner, p.expire) := Option.some.inj h2
      have e1 : (d.owner, d.expire) = φ (parentOf n) (d0.owner, d0.expire) := Option.some.inj h1
      rw [hpo, hpe, ← e1] at e2
      exact ⟨p', rfl, (Prod.mk.inj e2).1, (Prod.mk.inj e2).2⟩

theorem inv_of_recs_eq {s s' : St} (h : s'.recs = s.recs) (hi : RegInv s) : RegInv s' :=
  fun n d hd => by rw [h] at hd ⊢; exact hi n d hd

section
variable {env : Env} {s s' : St} {tx : Tx} {n : Name}

/-! What a successful handler did, one statement for each `run*`: the record found, the registry afterwards,
    who signed, then the other guards and the money. -/

theorem runCreate_ok {o b : Addr} {u : String} {uo : Bool} {p : Int} {c : Cur}
    (h : runCreate env s o b n u uo p c = .ok s') :
    ∃ e, alookup n s.recs = none ∧
      s'.recs = upsert s.recs n
        { owner := o, benef := if b.isEmpty then o else b, creation := env.height, lastUpdate := env.height,
          expire := e, active := true, onSale := false, salePrice := none, uri := u } ∧
      (if isSub n = true then ∃ par, alookup (parentOf n) s.recs = some par ∧ par.owner = o ∧ e = par.expire
       else env.opts.perBlock ≠ 0 ∧ ∃ q, blocksFor (p - env.opts.base) env.opts.perBlock env.version = some q ∧
              e = env.version + q) ∧
      validName n = true ∧ nameAllowed env.opts n = true ∧ env.opts.base < p ∧
      debit s.bals (o, c) p = some s'.bals ∧ s'.pool = s.pool + p := by
  unfold runCreate at h
  obtain ⟨hp, h⟩ := of_guard h
  obtain ⟨hex, h⟩ := of_guard h
  split at h
  · cases h
  rename_i b1 hb
  obtain ⟨hname, h⟩ := of_guard h
  obtain ⟨_, h⟩ := of_guard h
  have hname : nameAllowed env.opts n = true ∧ validName n = true := by simpa using hname
  have habs : alookup n s.recs = none := by simpa using hex
  by_cases hsub : isSub n = true
  · rw [if_pos hsub] at h
    split at h
    · cases h
    rename_i par hpar
    obtain ⟨hown, h⟩ := of_guard h
    obtain ⟨_, h⟩ := of_guard h
    cases h
    refine ⟨par.expire, habs, rfl, ?_, hname.2, hname.1, Int.not_le.mp hp, hb, rfl⟩
    rw [if_pos hsub]
    exact ⟨par, hpar, Decidable.not_not.mp hown, rfl⟩
  · rw [if_neg hsub] at h
    obtain ⟨_, h⟩ := of_guard h
    obtain ⟨hpb, h⟩ := of_guard h
    split at h
    · cases h
    rename_i q hq
    cases h
    refine ⟨env.version + q, habs, rfl, ?_, hname.2, hname.1, Int.not_le.mp hp, hb, rfl⟩
    rw [if_neg hsub]
    exact ⟨hpb, q, hq, rfl⟩

theorem runCreate_offSale {env : Env} {s s' : St} {o b : Addr} {n : Name} {u : String} {uo : Bool} {p : Int} {c : Cur}
    (h : runCreate env s o b n u uo p c = .ok s') :
    ∃ d, s'.recs = upsert s.recs n d ∧ d.onSale = false ∧ d.salePrice = none := by
  obtain ⟨e, _, hrecs, _⟩ := runCreate_ok h
  exact ⟨_, hrecs, rfl, rfl⟩

theorem runUpdate_ok {o b : Addr} {a : Bool} {u : String} {uo : Bool}
    (h : runUpdate env s o b n a u uo = .ok s') :
    ∃ d, alookup n s.recs = some d ∧
      s'.recs = upsert (if (!a && !isSub n) = true then
          mapSel (visSub n) (fun x => { x with active := false }) s.recs else s.recs) n
        { d with benef := b, active := a, lastUpdate := env.height, uri := u } ∧
      d.owner = o ∧ changeable d env.height = true ∧ s'.bals = s.bals ∧ s'.pool = s.pool := by
  unfold runUpdate at h
  split at h
  · cases h
  rename_i d hd
  obtain ⟨hch, h⟩ := of_guard h
  obtain ⟨hown, h⟩ := of_guard h
  obtain ⟨_, h⟩ := of_guard h
  cases h
  exact ⟨d, hd, rfl, Decidable.not_not.mp hown, by simpa using hch, rfl, rfl⟩

theorem runSale_ok {o : Addr} {p : Int} {cu : Cur} {c : Bool} (h : runSale env s o n p cu c = .ok s') :
    ∃ d, alookup n s.recs = some d ∧
      s'.recs = upsert s.recs n
        (if c = true then { d with onSale := false, salePrice := none, lastUpdate := env.height }
         else { d with active := false, onSale := true, salePrice := some p, lastUpdate := env.height }) ∧
      d.owner = o ∧ isSub n = false ∧ env.opts.perBlock < p ∧ expiredAt d env.height = false ∧
      s'.bals = s.bals ∧ s'.pool = s.pool := by
  unfold runSale at h
  obtain ⟨hp, h⟩ := of_guard h
  obtain ⟨_, h⟩ := of_guard h
  obtain ⟨hsub, h⟩ := of_guard h
  split at h
  · cases h
  rename_i d hd
  obtain ⟨hown, h⟩ := of_guard h
  obtain ⟨_, h⟩ := of_guard h
  obtain ⟨hexp, h⟩ := of_guard h
  cases h
  exact ⟨d, hd, rfl, Decidable.not_not.mp hown, by simpa using hsub, Int.not_le.mp hp, by simpa using hexp, rfl, rfl⟩

theorem runPurchase_ok {buyer acct : Addr} {off : Int} {c : Cur}
    (h : runPurchase env s buyer acct n off c = .ok s') :
    ∃ d q, alookup n s.recs = some d ∧
      s'.recs = upsert (eraseSel (visSub n) s.recs) n (resetAfterSale d buyer acct q env.version) ∧
      isSub n = false ∧ (d.onSale = true ∨ d.expire < env.version) ∧ env.opts.perBlock ≠ 0 ∧
      if env.version ≤ d.expire ∧ d.onSale = true then
        ∃ sale b0, d.salePrice = some sale ∧ sale ≤ off ∧ debit s.bals (buyer, c) sale = some b0 ∧
          debit (credit b0 (d.owner, c) sale) (buyer, c) (off - sale) = some s'.bals ∧
          s'.pool = s.pool + (off - sale) ∧ blocksFor (off - sale) env.opts.perBlock d.expire = some q
      else env.opts.base ≤ off ∧ debit s.bals (buyer, c) off = some s'.bals ∧ s'.pool = s.pool + off ∧
        blocksFor (off - env.opts.base) env.opts.perBlock env.version = some q := by
  unfold runPurchase at h
  split at h
  · cases h
  rename_i d hd
  obtain ⟨hfs, h⟩ := of_guard h
  obtain ⟨hsub, h⟩ := of_guard h
  have hsub : isSub n = false := by simpa using hsub
  have hfs : d.onSale = true ∨ d.expire < env.version := by
    cases hs : d.onSale
    · simp [hs] at hfs; exact Or.inr (by omega)
    · exact Or.inl rfl
  simp only [] at h
  by_cases hbr : env.version ≤ d.expire ∧ d.onSale = true
  · rw [if_pos (by simpa using hbr)] at h
    split at h
    · cases h
    rename_i sale hsale
    obtain ⟨hoff, h⟩ := of_guard h
    split at h
    · cases h
    rename_i b0 hb0
    obtain ⟨hpb, h⟩ := of_guard h
    split at h
    · cases h
    rename_i q hq
    split at h
    · cases h
    rename_i b2 hb2
    cases h
    refine ⟨d, q, hd, rfl, hsub, hfs, hpb, ?_⟩
    rw [if_pos hbr]
    exact ⟨sale, b0, hsale, by simpa using hoff, hb0, hb2, rfl, hq⟩
  · rw [if_neg (by simpa using hbr)] at h
    obtain ⟨hbase, h⟩ := of_guard h
    obtain ⟨hpb, h⟩ := of_guard h
    split at h
    · cases h
    rename_i q hq
    split at h
    · cases h
    rename_i b2 hb2
    cases h
    refine ⟨d, q, hd, rfl, hsub, hfs, hpb, ?_⟩
    rw [if_neg hbr]
    exact ⟨Int.not_lt.mp hbase, hb2, rfl, hq⟩

theorem runSend_ok {f : Addr} {amt : Int} {c : Cur} (h : runSend env s f n amt c = .ok s') :
    s'.recs = s.recs ∧ s'.pool = s.pool ∧
    ∃ d b1, alookup n s.recs = some d ∧ 0 ≤ amt ∧ d.benef.isEmpty = false ∧ activeAt d env.version = true ∧
      expiredAt d env.version = false ∧ debit s.bals (f, c) amt = some b1 ∧ s'.bals = credit b1 (d.benef, c) amt := by
  unfold runSend at h
  obtain ⟨hamt, h⟩ := of_guard h
  split at h
  · cases h
  rename_i d hd
  obtain ⟨_, h⟩ := of_guard h
  obtain ⟨hexp, h⟩ := of_guard h
  obtain ⟨hact, h⟩ := of_guard h
  obtain ⟨hben, h⟩ := of_guard h
  split at h
  · cases h
  rename_i b1 hb1
  cases h
  have hamt : 0 ≤ amt := by
    simp only [Bool.or_eq_true, decide_eq_true_eq, not_or] at hamt
    omega
  exact ⟨rfl, rfl, d, b1, hd, hamt, by simpa using hben, by simpa using hact, by simpa using hexp, hb1, rfl⟩

theorem runRenew_ok {o : Addr} {p : Int} {c : Cur} (h : runRenew env s o n p c = .ok s') :
    ∃ d q, alookup n s.recs = some d ∧
      s'.recs = mapSel (visSub n) (fun x => { x with expire := d.expire + q })
          (upsert s.recs n { d with expire := d.expire + q, lastUpdate := env.height }) ∧
      d.owner = o ∧ isSub n = false ∧ blocksFor p env.opts.perBlock d.expire = some q ∧
      expiredAt d env.version = false ∧ env.opts.perBlock < p ∧ env.opts.perBlock ≠ 0 ∧
      debit s.bals (o, c) p = some s'.bals ∧ s'.pool = s.pool + p := by
  unfold runRenew at h
  obtain ⟨hp, h⟩ := of_guard h
  obtain ⟨hsub, h⟩ := of_guard h
  split at h
  · cases h
  rename_i d hd
  obtain ⟨_, h⟩ := of_guard h
  obtain ⟨hexp, h⟩ := of_guard h
  obtain ⟨hown, h⟩ := of_guard h
  split at h
  · cases h
  rename_i b1 hb1
  obtain ⟨_, h⟩ := of_guard h
  obtain ⟨hpb, h⟩ := of_guard h
  split at h
  · cases h
  rename_i q hq
  cases h
  exact ⟨d, q, hd, rfl, Decidable.not_not.mp hown, by simpa using hsub, hq, by simpa using hexp, Int.not_le.mp hp, hpb,
    hb1, rfl⟩

theorem runDeleteSub_ok {o : Addr} (h : runDeleteSub env s o n = .ok s') :
    ∃ par, alookup (if isSub n = true then parentOf n else n) s.recs = some par ∧
      (if isSub n = true then (alookup n s.recs).isSome = true ∧ s'.recs = aerase s.recs n
       else s'.recs = eraseSel (visSub n) s.recs) ∧
      par.owner = o ∧ s'.bals = s.bals ∧ s'.pool = s.pool := by
  unfold runDeleteSub at h
  simp only [] at h
  split at h
  · cases h
  rename_i par hpar
  obtain ⟨_, h⟩ := of_guard h
  obtain ⟨hown, h⟩ := of_guard h
  refine ⟨par, hpar, ?_⟩
  by_cases hsub : isSub n = true
  · rw [if_pos hsub] at h ⊢
    split at h
    · cases h
    rename_i x hx
    cases h
    exact ⟨⟨by rw [hx]; rfl, rfl⟩, Decidable.not_not.mp hown, rfl, rfl⟩
  · rw [if_neg hsub] at h ⊢
    cases h
    exact ⟨rfl, Decidable.not_not.mp hown, rfl, rfl⟩

theorem feeStep_ok (h : feeStep env s = .ok s') :
    ∃ g, env.fee = .used g ∧ debit s.bals (env.payer, env.olt) (env.feePrice * g) = some s'.bals ∧
      s'.pool = s.pool + env.feePrice * g ∧ s'.recs = s.recs := by
  unfold feeStep at h
  split at h
  · cases h
  · cases h
  rename_i g hg
  split at h
  · cases h
  rename_i b1 hb1
  cases h
  exact ⟨g, hg, hb1, rfl, rfl⟩

theorem validate_ok (h : validate env tx = .ok ()) :
    env.payer = tx.signer ∧ env.sigValid = true ∧ env.minFee ≤ env.feePrice ∧
    (∀ c, tx.payCur = some c → c = env.olt) ∧ ((∀ f a c, tx ≠ .send f tx.name a c) → validName tx.name = true) := by
  unfold validate at h
  obtain ⟨h1, h⟩ := of_guard h
  obtain ⟨h2, h⟩ := of_guard h
  obtain ⟨h3, h⟩ := of_guard h
  refine ⟨Decidable.not_not.mp h1, by simpa using h2, Int.not_lt.mp h3, ?_⟩
  cases tx with
  | create o b n u uo p c =>
    obtain ⟨_, h⟩ := of_guard h
    obtain ⟨hv, h⟩ := of_guard h
    obtain ⟨hc, _⟩ := of_guard h
    exact ⟨fun _ e => Option.some.inj e ▸ Decidable.not_not.mp hc, fun _ => by simpa [Tx.name] using hv⟩
  | update o b n a u uo =>
    obtain ⟨_, h⟩ := of_guard h
    obtain ⟨hv, _⟩ := of_guard h
    exact ⟨fun _ e => (nomatch e), fun _ => by simpa [Tx.name] using hv⟩
  | sale o n p c ca =>
    obtain ⟨_, h⟩ := of_guard h
    obtain ⟨_, h⟩ := of_guard h
    obtain ⟨hv, h⟩ := of_guard h
    obtain ⟨hc, _⟩ := of_guard h
    exact ⟨fun _ e => Option.some.inj e ▸ Decidable.not_not.mp hc, fun _ => by simp at hv; exact hv.1⟩
  | purchase b a n o c =>
    obtain ⟨hc, h⟩ := of_guard h
    obtain ⟨_, h⟩ := of_guard h
    obtain ⟨hv, _⟩ := of_guard h
    exact ⟨fun _ e => Option.some.inj e ▸ Decidable.not_not.mp hc, fun _ => by simpa [Tx.name] using hv⟩
  | send f n a c => exact ⟨fun _ e => (nomatch e), fun hne => absurd rfl (hne f a c)⟩
  | renew o n p c =>
    obtain ⟨_, h⟩ := of_guard h
    obtain ⟨hv, h⟩ := of_guard h
    obtain ⟨hc, _⟩ := of_guard h
    exact ⟨fun _ e => Option.some.inj e ▸ Decidable.not_not.mp hc, fun _ => by simp at hv; exact hv.1⟩
  | deleteSub o n =>
    obtain ⟨_, h⟩ := of_guard h
    obtain ⟨hv, _⟩ := of_guard h
    exact ⟨fun _ e => (nomatch e), fun _ => by simpa [Tx.name] using hv⟩

theorem step_ok (h : step env s tx = (.ok, s')) :
    validate env tx = .ok () ∧ ∃ s1, handler env s tx = .ok s1 ∧ s'.recs = s1.recs ∧
      ∃ g, env.fee = .used g ∧ debit s1.bals (env.payer, env.olt) (env.feePrice * g) = some s'.bals ∧
        s'.pool = s1.pool + env.feePrice * g := by
  unfold step at h
  split at h
  · cases h
  rename_i hv
  split at h
  · cases h
  rename_i s1 h1
  split at h
  · cases h
  rename_i h2
  cases h
  obtain ⟨g, hg, hfd, hfp, hfr⟩ := feeStep_ok h2
  exact ⟨hv, s1, h1, hfr, g, hg, hfd, hfp⟩

/-- from the result class alone to the hypothesis of `step_ok` -/
theorem step_ok_intro (h : (step env s tx).1 = .ok) : step env s tx = (.ok, (step env s tx).2) := by rw [← h]

theorem step_fail (h : (step env s tx).1 ≠ .ok) : (step env s tx).2 = s := by
  unfold step at h ⊢
  cases hv : validate env tx with
  | error e => simp
  | ok u =>
    cases h1 : handler env s tx with
    | error e => simp
    | ok s1 =>
      cases h2 : feeStep env s1 with
      | error e => simp [h2]
      | ok s2 => simp [hv, h1, h2] at h

theorem step_cases (env : Env) (s : St) (tx : Tx) :
    (step env s tx).2 = s ∨ ∃ s1, handler env s tx = .ok s1 ∧ (step env s tx).2.recs = s1.recs := by
  by_cases hok : (step env s tx).1 = .ok
  · obtain ⟨_, s1, h1, hfr, _⟩ := step_ok (step_ok_intro hok)
    exact Or.inr ⟨s1, h1, hfr⟩
  · exact Or.inl (step_fail hok)

theorem run_induct {P : St → Prop} (hstep : ∀ {env s tx}, P s → P (step env s tx).2) (evs : List Ev)
    (h : P s) : P (run s evs) :=
  List.foldlRecOn evs applyEv h fun _ hs ev _ => by
    cases ev with
    | tx env t => exact hstep hs
    | commit => exact hs

theorem inv_handler (h : handler env s tx = .ok s') (hi : RegInv s) : RegInv s' := by
  cases tx with
  | create o b n u uo p c =>
    obtain ⟨e, habs, hrecs, hexp, hval, _⟩ := runCreate_ok h
    intro k dk hk
    rw [hrecs, alookup_upsert] at hk
    split at hk
    · subst ‹k = n›
      cases hk
      refine ⟨hval, fun h3 => ?_⟩
      rw [if_pos (isSub_of_valid hval h3)] at hexp
      obtain ⟨par, hpar, hpo, hpe⟩ := hexp
      rw [hrecs, alookup_upsert_ne _ _ _ _ (ne_of_isSubOf (isSubOf_parent h3)).symm]
      exact ⟨par, hpar, hpo, hpe.symm⟩
    · obtain ⟨hv, hp⟩ := hi k dk hk
      refine ⟨hv, fun h3 => ?_⟩
      obtain ⟨q, hq, hqo⟩ := hp h3
      rw [hrecs, alookup_upsert_ne _ _ _ _ (fun e => by rw [e, habs] at hq; cases hq)]
      exact ⟨q, hq, hqo⟩
  | update o b n a u uo =>
    obtain ⟨d, hd, hrecs, _⟩ := runUpdate_ok h
    refine inv_of_rootwise (fun _ x => x) (fun k => Or.inr ?_) hi
    rw [hrecs, alookup_upsert]
    by_cases hk : k = n
    · subst hk; simp [hd]
    · simp only [hk, if_false]
      split
      · rw [alookup_mapSel]
        split
        · cases alookup k s.recs <;> rfl
        · rfl
      · rfl
  | sale o n p cu c =>
    obtain ⟨d, hd, hrecs, _⟩ := runSale_ok h
    refine inv_of_rootwise (fun _ x => x) (fun k => Or.inr ?_) hi
    rw [hrecs, alookup_upsert]
    by_cases hk : k = n
    · subst hk; cases c <;> simp [hd]
    · simp [hk]
  | purchase b a n o c =>
    obtain ⟨d, q, hd, hrecs, hsub, _⟩ := runPurchase_ok h
    have hn2 : n.length = 2 := length_two_of_valid_not_sub (hi n d hd).1 hsub
    -- no side of the disjunction chosen yet: the deleted sub-names of `n` take `Or.inl`; for the other
    -- names the bare `simp` proves the right side, the equation, and with it the disjunction
    refine inv_of_rootwise
      (fun r x => if r = n then (b, (resetAfterSale d b a q env.version).expire) else x) (fun k => ?_) hi
    rw [hrecs, alookup_upsert, alookup_eraseSel]
    by_cases hr : rootOf k = n
    · rcases (rootOf_eq_iff hn2).mp hr with hk | hk
      · subst hk; simp [hd, hr, resetAfterSale]
      · have := isSubOf_length hk
        exact Or.inl ⟨by simp [ne_of_isSubOf hk, visSub, hk], by omega⟩
    · have hk := mt (rootOf_eq_iff hn2).mpr hr
      simp only [not_or] at hk
      simp [hr, visSub, Ne.symm hk.1, hk.2]
  | send f n a c => exact inv_of_recs_eq (runSend_ok h).1 hi
  | renew o n p c =>
    obtain ⟨d, q, hd, hrecs, _, hsub, _⟩ := runRenew_ok h
    have hn2 : n.length = 2 := length_two_of_valid_not_sub (hi n d hd).1 hsub
    refine inv_of_rootwise (fun r x => if r = n then (x.1, d.expire + q) else x) (fun k => Or.inr ?_) hi
    rw [hrecs, alookup_mapSel_upsert]
    by_cases hr : rootOf k = n
    · rcases (rootOf_eq_iff hn2).mp hr with hk | hk
      · subst hk; simp [hd, hr]
      · cases alookup k s.recs <;> simp [ne_of_isSubOf hk, hr, visSub, hk]
    · have hk := mt (rootOf_eq_iff hn2).mpr hr
      simp only [not_or] at hk
      cases alookup k s.recs <;> simp [hr, visSub, Ne.symm hk.1, hk.2]
  | deleteSub o n =>
    obtain ⟨par, hpar, hrecs, _⟩ := runDeleteSub_ok h
    -- as for `purchase`: `Or.inl` for the deleted names, the bare `simp` proves the right side for the others
    refine inv_of_rootwise (fun _ x => x) (fun k => ?_) hi
    by_cases hsub : isSub n = true
    · rw [if_pos hsub] at hrecs
      rw [hrecs.2, alookup_aerase]
      by_cases hk : k = n
      · exact Or.inl ⟨by simp [hk], hk ▸ isSub_length hsub⟩
      · simp [hk]
    · rw [if_neg hsub] at hrecs hpar
      rw [hrecs, alookup_eraseSel]
      by_cases hk : visSub n k = true
      · have := isSubOf_length hk
        have := validName_length (hi n par hpar).1
        exact Or.inl ⟨by simp [hk], by omega⟩
      · simp [hk]

theorem inv_step (hi : RegInv s) : RegInv (step env s tx).2 := by
  rcases step_cases env s tx with h | ⟨s1, h1, hr⟩
  · rw [h]; exact hi
  · exact inv_of_recs_eq hr (inv_handler h1 hi)

theorem nodup_handler (h : handler env s tx = .ok s') (hn : (akeys s.recs).Nodup) : (akeys s'.recs).Nodup := by
  cases tx with
  | create o b n u uo p c =>
    obtain ⟨e, _, hrecs, _⟩ := runCreate_ok h
    rw [hrecs]; exact nodup_akeys_upsert _ _ _ hn
  | update o b n a u uo =>
    obtain ⟨d, _, hrecs, _⟩ := runUpdate_ok h
    rw [hrecs]
    apply nodup_akeys_upsert
    split
    · rw [akeys_mapSel]; exact hn
    · exact hn
  | sale o n p cu c =>
    obtain ⟨d, _, hrecs, _⟩ := runSale_ok h
    rw [hrecs]; exact nodup_akeys_upsert _ _ _ hn
  | purchase b a n o c =>
    obtain ⟨d, q, _, hrecs, _⟩ := runPurchase_ok h
    rw [hrecs]
    apply nodup_akeys_upsert
    rw [akeys_eraseSel]
    exact hn.sublist List.filter_sublist
  | send f n a c => rw [(runSend_ok h).1]; exact hn
  | renew o n p c =>
    obtain ⟨d, q, _, hrecs, _⟩ := runRenew_ok h
    rw [hrecs, akeys_mapSel]; exact nodup_akeys_upsert _ _ _ hn
  | deleteSub o n =>
    obtain ⟨par, _, hrecs, _⟩ := runDeleteSub_ok h
    split at hrecs
    · rw [hrecs.2]; exact nodup_akeys_aerase _ _ hn
    · rw [hrecs, akeys_eraseSel]; exact hn.sublist List.filter_sublist

theorem nodup_step (hn : (akeys s.recs).Nodup) : (akeys (step env s tx).2.recs).Nodup := by
  rcases step_cases env s tx with h | ⟨s1, h1, hfr⟩
  · rw [h]; exact hn
  · rw [hfr]; exact nodup_handler h1 hn

theorem Auth.of_owner {r : Name} {d : Domain} (hd : alookup r s.recs = some d) (ho : d.owner = tx.signer)
    (hn : n = r ∨ isSubOf n r = true) : Auth env s tx n := by
  rcases hn with rfl | hn
  · exact .ownRecord d hd ho
  · exact .ownerAbove r d hn hd ho

end

end OLP.Ons
