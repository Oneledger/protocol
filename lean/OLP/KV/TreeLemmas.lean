/-
  Layer K — the tree (`ChainState` over IAVL): what `Write()`, `Commit` (`SaveVersion` and the
  rotation's deletions) and reopening do to the working tree, the write log, the retained
  versions (`Tree.WF`, `getVersioned`) and key-uniqueness (`Tree.KeysNodup`).
-/
import OLP.KV.Spec

namespace OLP.KV

variable {K V : Type}

theorem find?_filter_of_imp {α : Type} (p q : α → Bool) (l : List α)
    (h : ∀ x, p x = true → q x = true) : (l.filter q).find? p = l.find? p := by
  rw [List.find?_filter]
  congr 1
  funext x
  cases hp : p x with
  | false => simp
  | true => simp [h x hp]

theorem savedPrefixLen_append_save (l : List (TreeOp K V)) :
    savedPrefixLen (l ++ [.save]) = l.length + 1 := by
  induction l with
  | nil => rfl
  | cons op t ih => simp [savedPrefixLen, ih]

theorem savedPrefixLen_take (l : List (TreeOp K V)) :
    savedPrefixLen (l.take (savedPrefixLen l)) = savedPrefixLen l := by
  induction l with
  | nil => rfl
  | cons op t ih =>
    by_cases hn : savedPrefixLen t > 0
    · simp [savedPrefixLen, hn, ih]
    · cases op <;> simp [savedPrefixLen, hn]

section
variable (t : Tree K V)

theorem WF_of_versions_eq (t' : Tree K V) (h1 : t'.versions = t.versions)
    (h2 : t'.version = t.version) (wf : t.WF) : t'.WF := by
  unfold Tree.WF at *
  rw [h1, h2]; exact wf

theorem deleteVersion_eq (rel : Int) :
    t.deleteVersion rel = t ∨
    (rel ≠ (t.version : Int) ∧
      t.deleteVersion rel = { t with versions := t.versions.filter (fun p => (p.1 : Int) ≠ rel) }) := by
  unfold Tree.deleteVersion
  split
  · exact Or.inl rfl
  · split
    · exact Or.inl rfl
    · next h => exact Or.inr ⟨h, rfl⟩

theorem deleteVersion_WF (rel : Int) (wf : t.WF) : (t.deleteVersion rel).WF := by
  rcases deleteVersion_eq t rel with h | ⟨hne, h⟩ <;> rw [h]
  · exact wf
  · obtain ⟨w1, w2, w3⟩ := wf
    refine ⟨w1.sublist (List.filter_sublist.map _), fun p hp => w2 p (List.mem_filter.mp hp).1, ?_⟩
    intro hpos
    obtain ⟨p, hp, hpe⟩ := w3 hpos
    refine ⟨p, List.mem_filter.mpr ⟨hp, ?_⟩, hpe⟩
    rw [hpe]
    exact decide_eq_true fun e => hne e.symm

theorem deleteVersion_keysNodup (rel : Int) (h : t.KeysNodup) :
    (t.deleteVersion rel).KeysNodup := by
  rcases deleteVersion_eq t rel with e | ⟨_, e⟩ <;> rw [e]
  · exact h
  · exact ⟨h.1, fun p hp => h.2 p (List.mem_filter.mp hp).1⟩

theorem deleteVersion_find (rel ver : Int) :
    (t.deleteVersion rel).versions.find? (fun p => (p.1 : Int) = ver) =
      t.versions.find? (fun p => (p.1 : Int) = ver) ∨
    (ver ≠ (t.version : Int) ∧
      (t.deleteVersion rel).versions.find? (fun p => (p.1 : Int) = ver) = none) := by
  rcases deleteVersion_eq t rel with h | ⟨hne, h⟩ <;> rw [h]
  · exact Or.inl rfl
  · by_cases hv : ver = rel
    · subst hv
      refine Or.inr ⟨hne, ?_⟩
      rw [List.find?_filter, List.find?_eq_none.mpr (by simp)]
    · left
      rw [find?_filter_of_imp]
      intro x hx
      simp only [decide_eq_true_eq] at hx
      simp [hx, hv]

/-- `SaveVersion`: the part of `Tree.commit` before the rotation arithmetic -/
def Tree.saved (t : Tree K V) : Tree K V :=
  { t with versions := t.versions ++ [(t.version + 1, t.working)], version := t.version + 1,
           log := t.log ++ [.save] }

/-- `Commit` is `SaveVersion` followed by at most two `DeleteVersion`s: what the first establishes
    and the second preserves holds after `Commit`, whatever the conditions of the rotation
    arithmetic say -/
theorem commit_induct (P : Tree K V → Prop) (h0 : P t.saved)
    (hd : ∀ t' r, P t' → P (t'.deleteVersion r)) : P t.commit := by
  have h1 : ∀ (c : Prop) [Decidable c] r, P (if c then t.saved.deleteVersion r else t.saved) :=
    fun c _ r => ite_ind (fun _ => hd _ _ h0) fun _ => h0
  exact ite_ind (fun _ => ite_ind (fun _ => hd _ _ (h1 _ _)) fun _ => h1 _ _) fun _ => h0

theorem commit_fields :
    t.commit.working = t.working ∧ t.commit.version = t.version + 1 ∧
    t.commit.log = t.log ++ [.save] ∧ t.commit.rot = t.rot := by
  refine commit_induct t (fun t' => t'.working = t.working ∧ t'.version = t.version + 1 ∧
    t'.log = t.log ++ [.save] ∧ t'.rot = t.rot) ⟨rfl, rfl, rfl, rfl⟩ ?_
  intro t' r h
  rcases deleteVersion_eq t' r with e | ⟨_, e⟩ <;> rw [e] <;> exact h

theorem saved_WF (wf : t.WF) : t.saved.WF := by
  obtain ⟨w1, w2, _⟩ := wf
  refine ⟨?_, ?_, fun _ => ⟨_, List.mem_append_right _ (List.mem_singleton.mpr rfl), rfl⟩⟩
  · show ((t.versions ++ [(t.version + 1, t.working)]).map (·.1)).Pairwise (· < ·)
    rw [List.map_append, List.pairwise_append]
    refine ⟨w1, List.pairwise_singleton _ _, ?_⟩
    intro a ha b hb
    obtain ⟨p, hp, rfl⟩ := List.mem_map.mp ha
    obtain rfl := List.mem_singleton.mp hb
    exact Nat.lt_succ_of_le (w2 p hp).2
  · intro p hp
    rcases List.mem_append.mp hp with h | h
    · exact ⟨(w2 p h).1, Nat.le_succ_of_le (w2 p h).2⟩
    · obtain rfl := List.mem_singleton.mp h
      exact ⟨Nat.succ_pos _, Nat.le_refl _⟩

theorem commit_WF (wf : t.WF) : t.commit.WF :=
  commit_induct t Tree.WF (saved_WF t wf) deleteVersion_WF

theorem saved_keysNodup (h : t.KeysNodup) : t.saved.KeysNodup := by
  refine ⟨h.1, fun p hp => ?_⟩
  rcases List.mem_append.mp hp with hp | hp
  · exact h.2 p hp
  · obtain rfl := List.mem_singleton.mp hp
    exact h.1

theorem commit_find (wf : t.WF) :
    t.commit.versions.find? (fun p => (p.1 : Int) = ((t.version + 1 : Nat) : Int)) =
      some (t.version + 1, t.working) := by
  refine (commit_induct t (fun t' => t'.version = t.version + 1 ∧
    t'.versions.find? (fun p => (p.1 : Int) = ((t.version + 1 : Nat) : Int)) =
      some (t.version + 1, t.working)) ⟨rfl, ?_⟩ ?_).2
  · have : t.versions.find? (fun p => decide ((p.1 : Int) = ((t.version + 1 : Nat) : Int))) = none := by
      rw [List.find?_eq_none]
      intro p hp
      have := (wf.2.1 p hp).2
      simp only [decide_eq_true_eq]
      omega
    unfold Tree.saved
    rw [List.find?_append, this]
    simp
  · intro t' r ⟨hv, hf⟩
    refine ⟨by rcases deleteVersion_eq t' r with e | ⟨_, e⟩ <;> rw [e] <;> exact hv, ?_⟩
    rcases deleteVersion_find t' r ((t.version + 1 : Nat) : Int) with e | ⟨hne, _⟩
    · exact e.trans hf
    · exact absurd (by rw [hv]) hne

theorem reopen_eq :
    t.reopen = { t with working := t.reopen.working, log := t.log.take (savedPrefixLen t.log) } := by
  unfold Tree.reopen
  simp only []
  split <;> rfl

theorem reopen_working :
    t.reopen.working = match t.versions.find? (fun p => (p.1 : Int) = t.version) with
      | some p => p.2
      | none => [] := by
  have : (fun (p : Nat × List (K × V)) => decide ((p.1 : Int) = (t.version : Int))) =
      (fun p => decide (p.1 = t.version)) := by
    funext p
    simp [Int.natCast_inj]
  rw [this]
  unfold Tree.reopen
  simp only []
  cases t.versions.find? (fun p => decide (p.1 = t.version)) <;> rfl

theorem reopen_fields : t.reopen.versions = t.versions ∧ t.reopen.version = t.version := by
  rw [reopen_eq]
  exact ⟨rfl, rfl⟩

theorem reopen_log : t.reopen.log = t.log.take (savedPrefixLen t.log) := by
  rw [reopen_eq]

theorem reopen_eq_self (h1 : t.working = t.reopen.working)
    (h2 : t.log = t.log.take (savedPrefixLen t.log)) : t.reopen = t := by
  rw [reopen_eq, ← h1, ← h2]

theorem reopen_reopen : t.reopen.reopen = t.reopen := by
  refine reopen_eq_self _ ?_ ?_
  · rw [reopen_working t.reopen, (reopen_fields t).1, (reopen_fields t).2, ← reopen_working]
  · rw [reopen_log, savedPrefixLen_take, List.take_take, Nat.min_self]

theorem reopen_keysNodup (h : t.KeysNodup) : t.reopen.KeysNodup := by
  refine ⟨?_, by rw [(reopen_fields t).1]; exact h.2⟩
  rw [reopen_working]
  split
  · next p hp => exact h.2 p (List.mem_of_find?_eq_some hp)
  · exact List.nodup_nil

/-- right after a commit the tree is what a restart would load -/
theorem commit_at_boundary (wf : t.WF) :
    t.commit.working = t.commit.reopen.working ∧
    t.commit.log = t.commit.log.take (savedPrefixLen t.commit.log) := by
  have hf := commit_fields t
  constructor
  · rw [reopen_working, hf.2.1, commit_find t wf]
    exact hf.1
  · rw [hf.2.2.1, savedPrefixLen_append_save]
    exact (List.take_of_length_le (by simp)).symm

variable [DecidableEq K]

theorem getVersioned_congr (t' : Tree K V) (h : t'.versions = t.versions) (ver : Int) (k : K) :
    t'.getVersioned ver k = t.getVersioned ver k := by
  unfold Tree.getVersioned; rw [h]

theorem reopen_get (k : K) : t.reopen.get k = t.getVersioned (t.version : Int) k := by
  unfold Tree.get Tree.getVersioned
  rw [reopen_working]
  cases t.versions.find? (fun p => decide ((p.1 : Int) = t.version)) <;> rfl

theorem commit_getVersioned_old (ver : Int) (k : K)
    (hver : ver ≤ (t.version : Int)) :
    t.commit.getVersioned ver k = t.getVersioned ver k ∨ t.commit.getVersioned ver k = none := by
  refine commit_induct t
    (fun t' => t'.getVersioned ver k = t.getVersioned ver k ∨ t'.getVersioned ver k = none) ?_ ?_
  · left
    unfold Tree.getVersioned Tree.saved
    rw [List.find?_append]
    cases t.versions.find? (fun p => decide ((p.1 : Int) = ver)) with
    | some p => rfl
    | none =>
      have : ¬ ((t.version : Int) + 1 = ver) := by omega
      simp [this]
  · intro t' r h
    unfold Tree.getVersioned at h ⊢
    rcases deleteVersion_find t' r ver with e | ⟨_, e⟩ <;> rw [e]
    · exact h
    · exact Or.inr rfl

theorem commit_getVersioned_new (wf : t.WF) (k : K) :
    t.commit.getVersioned ((t.version + 1 : Nat) : Int) k = alookup k t.working := by
  unfold Tree.getVersioned
  rw [commit_find t wf]

end

section
variable [DecidableEq K] [DecidableEq V] (c : Cfg K V)

theorem writeInto_cons (t : Tree K V) (p : K × V) (tl : List (K × V)) :
    writeInto c t (p :: tl) =
      writeInto c (if p.2 = c.tomb then t.remove p.1 else t.set p.1 p.2) tl := rfl

theorem writeInto_induct (P : Tree K V → Prop)
    (hs : ∀ t k v, P t → P (t.set k v)) (hr : ∀ t k, P t → P (t.remove k))
    (cache : List (K × V)) (t : Tree K V) (h : P t) : P (writeInto c t cache) := by
  induction cache generalizing t with
  | nil => exact h
  | cons p tl ih =>
    rw [writeInto_cons]
    exact ih _ (ite_ind (fun _ => hr t _ h) fun _ => hs t _ _ h)

theorem writeInto_versions (cache : List (K × V)) (t : Tree K V) :
    (writeInto c t cache).versions = t.versions ∧ (writeInto c t cache).version = t.version ∧
    (writeInto c t cache).rot = t.rot :=
  writeInto_induct c (fun t' => t'.versions = t.versions ∧ t'.version = t.version ∧ t'.rot = t.rot)
    (fun _ _ _ h => h) (fun _ _ h => h) cache t ⟨rfl, rfl, rfl⟩

theorem writeInto_log (cache : List (K × V)) (t : Tree K V) :
    (writeInto c t cache).log = t.log ++ cache.map (toTreeOp c) := by
  induction cache generalizing t with
  | nil => simp [writeInto]
  | cons p tl ih =>
    have h : (if p.2 = c.tomb then t.remove p.1 else t.set p.1 p.2).log = t.log ++ [toTreeOp c p] := by
      unfold toTreeOp
      split <;> rfl
    rw [writeInto_cons, ih, h, List.append_assoc]
    rfl

theorem writeInto_get (cache : List (K × V)) (t : Tree K V)
    (hn : (akeys cache).Nodup) (k : K) :
    (writeInto c t cache).get k = blockView c cache t k := by
  induction cache generalizing t with
  | nil => rfl
  | cons p tl ih =>
    obtain ⟨k1, v1⟩ := p
    have hn' : k1 ∉ akeys tl ∧ (akeys tl).Nodup := List.nodup_cons.mp hn
    rw [writeInto_cons, ih _ hn'.2]
    unfold blockView
    by_cases hk : k1 = k
    · subst hk
      rw [alookup_of_not_mem tl k1 hn'.1]
      by_cases hv : v1 = c.tomb <;>
        simp [alookup, hv, dec, Tree.get, Tree.remove, Tree.set]
    · have hk' : k ≠ k1 := fun e => hk e.symm
      simp only [alookup, hk, if_false]
      cases alookup k tl with
      | some v => rfl
      | none =>
        by_cases hv : v1 = c.tomb
        · simp [hv, Tree.get, Tree.remove, alookup_aerase_ne _ _ _ hk']
        · simp [hv, Tree.get, Tree.set, alookup_upsert_ne _ _ _ _ hk']

end

end OLP.KV
