/-
  Layer K — the iteration order: insertion sort by the byte order (`sortKeys`), direction (`dir`),
  duplicate removal, and uniqueness of a sorted duplicate-free list.
-/
import OLP.KV.Spec
import OLP.Base.Sort

namespace OLP.KV

variable {K : Type} (lt : K → K → Bool)

theorem insertKey_perm (k : K) (l : List K) : (insertKey lt k l).Perm (k :: l) :=
  ins_perm (insertKey lt) (fun _ => rfl) (fun _ _ _ => rfl) k l

theorem sortKeys_perm (l : List K) : (sortKeys lt l).Perm l :=
  foldr_ins_perm (insertKey lt) (fun _ => rfl) (fun _ _ _ => rfl) l

theorem mem_sortKeys (x : K) (l : List K) : x ∈ sortKeys lt l ↔ x ∈ l :=
  (sortKeys_perm lt l).mem_iff

theorem insertKey_sorted (irrefl : ∀ a, lt a a = false)
    (trans : ∀ a b c, lt a b = true → lt b c = true → lt a c = true)
    (k : K) (l : List K) (hl : l.Pairwise (fun a b => lt b a = false)) :
    (insertKey lt k l).Pairwise (fun a b => lt b a = false) :=
  -- `u < v` rules out `v < u`, and `w < u` as soon as `w < v` is ruled out
  ins_pairwise (insertKey lt) (fun _ => rfl) (fun _ _ _ => rfl)
    (fun {u v} h => Bool.eq_false_iff.mpr fun h' => Bool.false_ne_true ((irrefl u).symm.trans (trans u v u h h')))
    Bool.eq_false_iff.mpr
    (fun {u v w} h hw => Bool.eq_false_iff.mpr fun h' => Bool.false_ne_true (hw.symm.trans (trans w u v h' h)))
    k hl

theorem sortKeys_sorted (irrefl : ∀ a, lt a a = false)
    (trans : ∀ a b c, lt a b = true → lt b c = true → lt a c = true)
    (l : List K) : (sortKeys lt l).Pairwise (fun a b => lt b a = false) := by
  induction l with
  | nil => exact List.Pairwise.nil
  | cons h t ih => exact insertKey_sorted lt irrefl trans h _ ih

theorem sorted_perm_eq (ho : StrictTotal lt) (l₁ l₂ : List K)
    (h1 : l₁.Pairwise (fun a b => lt b a = false)) (h2 : l₂.Pairwise (fun a b => lt b a = false))
    (hp : l₁.Perm l₂) : l₁ = l₂ := by
  refine List.Perm.eq_of_pairwise (le := fun a b => lt b a = false) ?_ h1 h2 hp
  intro a b _ _ hab hba
  apply Classical.byContradiction
  intro hne
  rcases ho.total a b hne with h | h
  · rw [h] at hba; cases hba
  · rw [h] at hab; cases hab

theorem mem_dir (asc : Bool) (ks : List K) (k : K) : k ∈ dir asc ks ↔ k ∈ ks := by
  cases asc <;> simp [dir]

theorem nodup_dir (asc : Bool) (ks : List K) : (dir asc ks).Nodup ↔ ks.Nodup := by
  cases asc
  · exact (List.reverse_perm ks).nodup_iff
  · exact Iff.rfl

theorem sortedDir_dir (asc : Bool) (ks : List K)
    (h : ks.Pairwise (fun a b => lt b a = false)) : SortedDir lt asc (dir asc ks) := by
  cases asc
  · exact List.pairwise_reverse.mpr h
  · exact h

theorem sortedDir_perm_eq (ho : StrictTotal lt) (asc : Bool) (l₁ l₂ : List K)
    (h1 : SortedDir lt asc l₁) (h2 : SortedDir lt asc l₂) (hp : l₁.Perm l₂) : l₁ = l₂ := by
  cases asc
  · exact List.reverse_inj.mp (sorted_perm_eq lt ho _ _ (List.pairwise_reverse.mpr h1)
      (List.pairwise_reverse.mpr h2)
      ((List.reverse_perm l₁).trans (hp.trans (List.reverse_perm l₂).symm)))
  · exact sorted_perm_eq lt ho _ _ h1 h2 hp

variable [DecidableEq K]

theorem nodup_eraseDups : ∀ (l : List K), l.eraseDups.Nodup
  | [] => by simp
  | a :: as => by
    rw [List.eraseDups_cons, List.nodup_cons]
    refine ⟨?_, nodup_eraseDups _⟩
    intro h
    rw [List.mem_eraseDups, List.mem_filter] at h
    simp at h
termination_by l => l.length
decreasing_by
  simp only [List.length_cons]
  exact Nat.lt_succ_of_le (List.length_filter_le _ _)

theorem eraseDups_of_nodup : ∀ (l : List K), l.Nodup → l.eraseDups = l
  | [], _ => by simp
  | a :: as, h => by
    have h' := List.nodup_cons.mp h
    have hf : as.filter (fun b => !b == a) = as := by
      rw [List.filter_eq_self]
      intro b hb
      have : b ≠ a := fun e => h'.1 (e ▸ hb)
      simp [this]
    rw [List.eraseDups_cons, hf, eraseDups_of_nodup as h'.2]

end OLP.KV
