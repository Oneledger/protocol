/-
  Layer K — the state (`storage.State`: session over block cache over tree, behind a gas meter)
  against the layered-map specification of OLP/KV/Spec.lean.

  Each operation of the state has one equation (`get_exact`, `has_exact`, `set_exact`, `del_exact`;
  for the iterations `iter_foldl_split`, about the fold over any key list: served up to the first
  refused read, answered by the session alone from there on) that says when the meter refuses it
  and what it does otherwise, in terms of `view`, `St.put` and `St.addGas`.  What follows here and in OLP/Props/C09.lean is read off those (a
  write with a session open also has its plain form, `set_sess`, `del_sess`); layer S
  (OLP/Shell) uses what holds of every read and key write (`Accessed`) and that the operations
  commute with a shift of the gas level while the meter has room (`*_room_shift`).
-/
import OLP.KV.TreeLemmas
import OLP.KV.Sort

namespace OLP.KV

set_option linter.unusedSectionVars false

variable {K V : Type} [DecidableEq K] [DecidableEq V]

theorem consumeStrict_none {g : Gas} {cost : Int} (h : g.consumed ≥ g.limit) :
    g.consumeStrict cost = none := if_pos h

theorem consumeStrict_room {g : Gas} {cost : Int} (h : ¬ g.consumed ≥ g.limit) :
    g.consumeStrict cost = some { g with consumed := g.consumed + cost } := if_neg h

/-- `s'` differs from `s` at most in the gas counter, which did not decrease -/
def GasOnly (s s' : St K V) : Prop :=
  s'.tree = s.tree ∧ s'.cache = s.cache ∧ s'.sess = s.sess ∧ s'.metered = s.metered ∧
  s.gas.consumed ≤ s'.gas.consumed

theorem addGas_gasOnly (s : St K V) (d : Int) (hd : 0 ≤ d) : GasOnly s (s.addGas d) :=
  ⟨rfl, rfl, rfl, rfl, Int.le_add_of_nonneg_right hd⟩

theorem deleted_addGas (c : Cfg K V) (s : St K V) (d : Int) (k : K) :
    (s.addGas d).deleted c k = s.deleted c k := rfl

theorem readCost_unmetered (c : Cfg K V) (s : St K V) (k : K) (hm : s.metered = false) :
    readCost c s k = 0 := by
  unfold readCost
  split
  · rfl
  · simp [hm]

variable (c : Cfg K V) (s : St K V)

theorem addGas_zero : s.addGas 0 = s := by
  simp [St.addGas]

theorem addGas_addGas (a b : Int) : (s.addGas a).addGas b = s.addGas (a + b) := by
  simp [St.addGas, Int.add_assoc]

theorem addGas_comm (a b : Int) : (s.addGas a).addGas b = (s.addGas b).addGas a := by
  rw [addGas_addGas, addGas_addGas, Int.add_comm]

theorem view_addGas (d : Int) : view c (s.addGas d) = view c s := rfl
theorem readCost_addGas (d : Int) (k : K) : readCost c (s.addGas d) k = readCost c s k := rfl

theorem iterCost_addGas (d : Int) (ks : List K) : iterCost c (s.addGas d) ks = iterCost c s ks := by
  induction ks with
  | nil => rfl
  | cons k t ih => simp only [iterCost, ih]; rfl

/-- a served read through the metered cache costs at least the flat read cost -/
theorem readCost_ge (k : K) (hm : s.metered = true) (hs : s.sess.bind (alookup k) = none) :
    20 ≤ readCost c s k := by
  unfold readCost
  rw [hs]
  simp only [hm, if_true]
  split
  · exact Int.le_add_of_nonneg_right (Int.mul_nonneg (Int.natCast_nonneg _) (by decide))
  · exact Int.le_refl _

theorem readCost_sess (k : K) (hs : (s.sess.bind (alookup k)).isSome = true) :
    readCost c s k = 0 := by
  unfold readCost
  cases h : s.sess.bind (alookup k) with
  | none => rw [h] at hs; cases hs
  | some v => rfl

theorem readCost_nonneg (k : K) : 0 ≤ readCost c s k := by
  cases hs : s.sess.bind (alookup k) with
  | some v => rw [readCost_sess c s k (by rw [hs]; rfl)]; exact Int.le_refl _
  | none =>
    cases hm : s.metered with
    | false => rw [readCost_unmetered c s k hm]; exact Int.le_refl _
    | true => exact Int.le_trans (by decide) (readCost_ge c s k hm hs)

theorem iterCost_nonneg (ks : List K) : 0 ≤ iterCost c s ks := by
  induction ks with
  | nil => exact Int.le_refl _
  | cons k t ih =>
    unfold iterCost
    split
    · exact Int.add_nonneg (Int.le_refl _) ih
    · exact Int.add_nonneg (readCost_nonneg c s k) ih

theorem iterCost_unmetered (hm : s.metered = false) (ks : List K) : iterCost c s ks = 0 := by
  induction ks with
  | nil => rfl
  | cons k t ih => simp [iterCost, ih, readCost_unmetered c s k hm]

theorem dec_of_ne (v : V) (hv : v ≠ c.tomb) : dec c v = some v := if_neg hv

theorem dec_tomb : dec c c.tomb = none := if_pos rfl

theorem isSome_dec (v : V) : (dec c v).isSome = !decide (v = c.tomb) := by
  unfold dec
  split <;> simp [*]

theorem not_refused (k : K) (hm : s.metered = false) : ¬ Refused s k :=
  fun h => Bool.false_ne_true (hm.symm.trans h.1)

theorem not_writeRefused (hm : s.metered = false) : ¬ WriteRefused s :=
  fun h => Bool.false_ne_true (hm.symm.trans h.1)

theorem not_refused_of_room (k : K) (h : s.gas.consumed < s.gas.limit) : ¬ Refused s k :=
  fun hr => Int.not_lt.mpr hr.2.1 h

theorem not_writeRefused_of_room (h : s.gas.consumed < s.gas.limit) : ¬ WriteRefused s :=
  fun hr => Int.not_lt.mpr hr.2.1 h

theorem get_exact (k : K) :
    s.get c k = if Refused s k then (s, .errGas)
                else (s.addGas (readCost c s k), .val (view c s k)) := by
  cases hs : s.sess.bind (alookup k) with
  | some v => simp [St.get, view, readCost, Refused, hs, addGas_zero, dec]
  | none =>
    unfold St.get St.cacheGet Refused readCost view blockView
    simp only [hs]
    obtain ⟨se, ca, me, g, tr⟩ := s
    cases me with
    | false => cases alookup k ca <;> simp [addGas_zero, Tree.get, dec]
    | true =>
      by_cases hx : g.consumed ≥ g.limit
      · simp [consumeStrict_none hx, hx]
      · cases alookup k ca <;>
          simp [consumeStrict_room hx, hx, St.addGas, Gas.consumeAlways, dec, Tree.get, Int.add_assoc]

theorem get_val_or_refused (k : K) :
    (s.get c k = (s.addGas (readCost c s k), .val (view c s k)) ∧ ¬ Refused s k) ∨
    (s.get c k = (s, .errGas) ∧ Refused s k) := by
  rw [get_exact]
  by_cases h : Refused s k
  · exact Or.inr ⟨if_pos h, h⟩
  · exact Or.inl ⟨if_neg h, h⟩

theorem has_exact (k : K) :
    s.has c k =
      (s.addGas (if (s.sess.bind (alookup k)).isSome = false ∧ s.metered = true ∧
                    s.gas.consumed < s.gas.limit then 20 else 0),
       (view c s k).isSome) := by
  cases hs : s.sess.bind (alookup k) with
  | some v => simp [St.has, view, St.deleted, isSome_dec, hs, addGas_zero]
  | none =>
    unfold St.has St.cacheHas view blockView St.deleted Tree.has Tree.get
    obtain ⟨se, ca, me, g, tr⟩ := s
    cases me with
    | false => cases h2 : alookup k ca <;> simp [hs, h2, addGas_zero, isSome_dec]
    | true =>
      by_cases hx : g.consumed ≥ g.limit
      · have hx' : ¬ g.consumed < g.limit := Int.not_lt.mpr hx
        cases h2 : alookup k ca <;>
          simp [hs, h2, consumeStrict_none hx, hx', addGas_zero, isSome_dec]
      · have hx' := Int.lt_of_not_ge hx
        cases h2 : alookup k ca <;>
          simp [hs, h2, consumeStrict_room hx, hx', St.addGas, isSome_dec]

/-- one step of the fold inside `St.iter` and `St.iterAll` -/
def iterStep (c : Cfg K V) (acc : St K V × List (K × Option V)) (k : K) :
    St K V × List (K × Option V) :=
  if acc.1.deleted c k then acc
  else
    match acc.1.get c k with
    | (s', .val v) => (s', acc.2 ++ [(k, v)])
    | (s', .errGas) => (s', acc.2)

theorem iter_eq_foldl (lo hi : Option K) (asc : Bool) :
    s.iter c lo hi asc = (s.tree.rangeKeys c lo hi asc).foldl (iterStep c) (s, []) := rfl

theorem iterAll_eq_foldl (lo hi : Option K) (asc : Bool) :
    s.iterAll c lo hi asc = (s.iterKeys c lo hi asc).foldl (iterStep c) (s, []) := rfl

theorem iterStep_deleted (acc : List (K × Option V)) (k : K) (hd : s.deleted c k = true) :
    iterStep c (s, acc) k = (s, acc) := by
  simp [iterStep, hd]

theorem iterStep_served (acc : List (K × Option V)) (k : K)
    (hd : ¬ s.deleted c k = true) (hr : ¬ Refused s k) :
    iterStep c (s, acc) k = (s.addGas (readCost c s k), acc ++ [(k, view c s k)]) := by
  simp [iterStep, hd, get_exact, hr]

theorem iterStep_refused (acc : List (K × Option V)) (k : K)
    (hd : ¬ s.deleted c k = true) (hr : Refused s k) : iterStep c (s, acc) k = (s, acc) := by
  simp [iterStep, hd, get_exact, hr]

theorem iterCost_append (a b : List K) :
    iterCost c s (a ++ b) = iterCost c s a + iterCost c s b := by
  induction a with
  | nil => simp [iterCost]
  | cons k t ih => simp only [List.cons_append, iterCost, ih, Int.add_assoc]

theorem iter_foldl_exhausted (ks : List K) (acc : List (K × Option V))
    (hm : s.metered = true) (hx : s.gas.consumed ≥ s.gas.limit) :
    ks.foldl (iterStep c) (s, acc) = (s, acc ++ listedSess c s ks) := by
  induction ks generalizing acc with
  | nil => simp [listedSess]
  | cons k t ih =>
    rw [List.foldl_cons]
    by_cases hd : s.deleted c k = true
    · rw [iterStep_deleted c s acc k hd, ih]
      simp [listedSess, hd]
    · cases hs : s.sess.bind (alookup k) with
      | none =>
        rw [iterStep_refused c s acc k hd ⟨hm, hx, hs⟩, ih]
        simp [listedSess, hd, hs]
      | some v =>
        have hr : ¬ Refused s k := by
          rintro ⟨_, _, h⟩; rw [hs] at h; cases h
        rw [iterStep_served c s acc k hd hr, readCost_sess c s k (by simp [hs]), addGas_zero, ih]
        simp [listedSess, hd, hs]

/-- the fold, whatever the state: the keys `a` before the first read the meter refuses are all
    served; from that key on the state no longer moves and only what the session answers is
    listed.  The refused key, if there is one, heads `b`: that fixes the split. -/
theorem iter_foldl_split (ks : List K) (acc : List (K × Option V)) :
    ∃ a b, ks = a ++ b ∧
      ks.foldl (iterStep c) (s, acc) =
        (s.addGas (iterCost c s a), acc ++ (listed c s a ++ listedSess c s b)) ∧
      ∀ k ∈ b.head?, s.deleted c k = false ∧ Refused (s.addGas (iterCost c s a)) k := by
  induction ks generalizing s acc with
  | nil => exact ⟨[], [], rfl, by simp [iterCost, addGas_zero, listed, listedSess], nofun⟩
  | cons k t ih =>
    by_cases hd : s.deleted c k = true
    · obtain ⟨a, b, rfl, he, hl⟩ := ih s acc
      refine ⟨k :: a, b, rfl, ?_, ?_⟩
      · rw [List.foldl_cons, iterStep_deleted c s acc k hd, he]
        simp [iterCost, hd, listed]
      · simpa [iterCost, hd] using hl
    · by_cases hr : Refused s k
      · refine ⟨[], k :: t, rfl, ?_, ?_⟩
        · rw [iter_foldl_exhausted c s _ _ hr.1 hr.2.1]
          simp [iterCost, addGas_zero, listed]
        · rintro _ ⟨⟩
          exact ⟨by simpa using hd, by rwa [iterCost, addGas_zero]⟩
      · obtain ⟨a, b, rfl, he, hl⟩ := ih (s.addGas (readCost c s k)) (acc ++ [(k, view c s k)])
        refine ⟨k :: a, b, rfl, ?_, ?_⟩
        · rw [List.foldl_cons, iterStep_served c s acc k hd hr, he, addGas_addGas, iterCost_addGas]
          simp [iterCost, hd, listed, listedSess]
          rfl
        · rw [addGas_addGas, iterCost_addGas] at hl
          simpa [iterCost, hd, deleted_addGas] using hl

theorem iter_foldl_enough_gas (ks : List K) (acc : List (K × Option V))
    (h : s.metered = true → s.gas.consumed + iterCost c s ks ≤ s.gas.limit) :
    ks.foldl (iterStep c) (s, acc) = (s.addGas (iterCost c s ks), acc ++ listed c s ks) := by
  obtain ⟨a, b, rfl, he, hl⟩ := iter_foldl_split c s ks acc
  cases b with
  | nil => simpa [listedSess] using he
  | cons k t =>
    -- the refused key would itself cost at least the flat read cost
    obtain ⟨hd, hm, hx, hs⟩ := hl k rfl
    have h1 := h hm
    have h2 := readCost_ge c s k hm hs
    have h3 := iterCost_nonneg c s t
    rw [iterCost_append] at h1
    simp only [iterCost, hd, Bool.false_eq_true, if_false] at h1
    simp only [St.addGas] at hx
    omega

theorem iter_foldl_unmetered (ks : List K) (hm : s.metered = false) :
    ks.foldl (iterStep c) (s, []) = (s, listed c s ks) := by
  rw [iter_foldl_enough_gas c s ks [] (absurd · (ne_true_of_eq_false hm)),
    iterCost_unmetered c s hm, addGas_zero]
  rfl

/-- the same by position: the reads are served up to a cut-off point `n` (where the meter ran
    out), after which only the keys answered by the session are listed -/
theorem iter_foldl_cutoff (ks : List K) (acc : List (K × Option V)) :
    ∃ n, n ≤ ks.length ∧
      ks.foldl (iterStep c) (s, acc) =
        (s.addGas (iterCost c s (ks.take n)),
         acc ++ (listed c s (ks.take n) ++ listedSess c s (ks.drop n))) ∧
      (n < ks.length → s.metered = true ∧ s.gas.limit ≤ s.gas.consumed + iterCost c s (ks.take n)) := by
  obtain ⟨a, b, rfl, he, hl⟩ := iter_foldl_split c s ks acc
  refine ⟨a.length, by simp, by rwa [List.take_left, List.drop_left], fun hlt => ?_⟩
  rw [List.take_left]
  cases b with
  | nil => simp at hlt
  | cons k t => exact ⟨(hl k rfl).2.1, (hl k rfl).2.2.1⟩

theorem listed_append (a b : List K) : listed c s (a ++ b) = listed c s a ++ listed c s b := by
  simp [listed]

theorem mem_listed_iff (ks : List K) (p : K × Option V) :
    p ∈ listed c s ks ↔ p.1 ∈ ks ∧ s.deleted c p.1 = false ∧ p.2 = view c s p.1 := by
  unfold listed
  simp only [List.mem_map, List.mem_filter, Bool.not_eq_true']
  constructor
  · rintro ⟨k, ⟨hk, hd⟩, rfl⟩
    exact ⟨hk, hd, rfl⟩
  · rintro ⟨hk, hd, hv⟩
    exact ⟨p.1, ⟨hk, hd⟩, by rw [← hv]⟩

theorem mem_listedSess {ks : List K} {k : K} (hk : k ∈ ks)
    (hd : s.deleted c k = false) (hs : (s.sess.bind (alookup k)).isSome = true) :
    (k, view c s k) ∈ listedSess c s ks := by
  unfold listedSess
  exact List.mem_map.mpr ⟨k, List.mem_filter.mpr ⟨hk, by simp [hd, hs]⟩, rfl⟩

theorem listedSess_sublist (ks : List K) : (listedSess c s ks).Sublist (listed c s ks) := by
  unfold listedSess listed
  rw [← List.filter_filter]
  exact (List.filter_sublist.filter _).map _

theorem iter_foldl_sublist (ks : List K) :
    (ks.foldl (iterStep c) (s, [])).2.Sublist (listed c s ks) := by
  obtain ⟨a, b, rfl, he, _⟩ := iter_foldl_split c s ks []
  rw [he, List.nil_append, listed_append]
  exact List.Sublist.append (List.Sublist.refl _) (listedSess_sublist c s _)

theorem iter_foldl_missing {ks : List K} {k : K} (hk : k ∈ ks)
    (hd : s.deleted c k = false) (hmiss : (k, view c s k) ∉ (ks.foldl (iterStep c) (s, [])).2) :
    s.metered = true ∧ s.gas.limit ≤ (ks.foldl (iterStep c) (s, [])).1.gas.consumed ∧
    s.sess.bind (alookup k) = none := by
  obtain ⟨a, b, rfl, he, hl⟩ := iter_foldl_split c s ks []
  rw [he] at hmiss ⊢
  rw [List.nil_append, List.mem_append, not_or] at hmiss
  rcases List.mem_append.mp hk with hk | hk
  · exact absurd ((mem_listed_iff c s a (k, view c s k)).mpr ⟨hk, hd, rfl⟩) hmiss.1
  · obtain ⟨k', t, rfl⟩ := List.exists_cons_of_ne_nil (List.ne_nil_of_mem hk)
    obtain ⟨_, hm, hx, _⟩ := hl k' rfl
    refine ⟨hm, hx, ?_⟩
    cases hs : s.sess.bind (alookup k) with
    | none => rfl
    | some v => exact absurd (mem_listedSess c s hk hd (by simp [hs])) hmiss.2

theorem inRange_iff (lo hi : Option K) (k : K) :
    inRange c lo hi k = true ↔
      (∀ l, lo = some l → c.lt k l = false) ∧ (∀ h, hi = some h → c.lt k h = true) := by
  unfold inRange
  rw [Bool.and_eq_true]
  refine and_congr ?_ ?_
  · cases lo <;> simp
  · cases hi <;> simp

theorem rangeKeys_eq (t : Tree K V) (lo hi : Option K) (asc : Bool) :
    t.rangeKeys c lo hi asc = dir asc (sortKeys c.lt ((akeys t.working).filter (inRange c lo hi))) :=
  rfl

theorem iterKeys_eq (lo hi : Option K) (asc : Bool) :
    s.iterKeys c lo hi asc = dir asc (sortKeys c.lt (s.allKeys.eraseDups.filter (inRange c lo hi))) :=
  rfl

theorem mem_rangeKeys (t : Tree K V) (lo hi : Option K) (asc : Bool) (k : K) :
    k ∈ t.rangeKeys c lo hi asc ↔ k ∈ akeys t.working ∧ inRange c lo hi k = true := by
  rw [rangeKeys_eq, mem_dir, mem_sortKeys, List.mem_filter]

theorem mem_iterKeys (lo hi : Option K) (asc : Bool) (k : K) :
    k ∈ s.iterKeys c lo hi asc ↔ k ∈ s.allKeys ∧ inRange c lo hi k = true := by
  rw [iterKeys_eq, mem_dir, mem_sortKeys, List.mem_filter, List.mem_eraseDups]

theorem nodup_iterKeys (lo hi : Option K) (asc : Bool) : (s.iterKeys c lo hi asc).Nodup := by
  rw [iterKeys_eq, nodup_dir, (sortKeys_perm c.lt _).nodup_iff]
  exact (nodup_eraseDups _).sublist List.filter_sublist

theorem sorted_iterKeys (ho : StrictTotal c.lt) (lo hi : Option K) (asc : Bool) :
    SortedDir c.lt asc (s.iterKeys c lo hi asc) :=
  sortedDir_dir c.lt asc _ (sortKeys_sorted c.lt ho.irrefl ho.trans _)

theorem mem_allKeys (k : K) :
    k ∈ s.allKeys ↔ k ∈ akeys s.tree.working ∨ k ∈ akeys s.cache ∨
      ∃ o, s.sess = some o ∧ k ∈ akeys o := by
  unfold St.allKeys
  cases s.sess <;> simp

theorem iterKeys_nothing_pending (hc : s.cache = []) (hs : s.sess = none)
    (hn : (akeys s.tree.working).Nodup) (lo hi : Option K) (asc : Bool) :
    s.iterKeys c lo hi asc = s.tree.rangeKeys c lo hi asc := by
  have ha : s.allKeys = akeys s.tree.working := by
    simp [St.allKeys, hc, hs, akeys]
  rw [iterKeys_eq, ha, eraseDups_of_nodup _ hn]
  rfl

theorem visible_iff (k : K) :
    (view c s k).isSome = true ↔ k ∈ s.allKeys ∧ s.deleted c k = false := by
  rw [mem_allKeys]
  simp only [mem_akeys_iff_alookup]
  unfold view blockView St.deleted Tree.get
  cases s.sess with
  | none => cases alookup k s.cache <;> simp [isSome_dec]
  | some o =>
    cases ho : alookup k o with
    | some v => simp [isSome_dec, ho]
    | none => cases alookup k s.cache <;> simp [isSome_dec, ho]

theorem mem_visKeys (lo hi : Option K) (asc : Bool) (k : K) :
    k ∈ visKeys c s lo hi asc ↔ inRange c lo hi k = true ∧ (view c s k).isSome = true := by
  unfold visKeys
  rw [List.mem_filter, mem_iterKeys]
  constructor
  · rintro ⟨⟨_, hr⟩, hv⟩; exact ⟨hr, hv⟩
  · rintro ⟨hr, hv⟩; exact ⟨⟨((visible_iff c s k).mp hv).1, hr⟩, hv⟩

theorem nodup_visKeys (lo hi : Option K) (asc : Bool) : (visKeys c s lo hi asc).Nodup :=
  (nodup_iterKeys c s lo hi asc).sublist List.filter_sublist

theorem sorted_visKeys (ho : StrictTotal c.lt) (lo hi : Option K) (asc : Bool) :
    SortedDir c.lt asc (visKeys c s lo hi asc) :=
  List.Pairwise.filter _ (sorted_iterKeys c s ho lo hi asc)

/-- among the keys `IterateRangeAll` visits, "no pending delete" is "visible": a full listing of
    them lists the visible keys -/
theorem listed_iterKeys (lo hi : Option K) (asc : Bool) :
    listed c s (s.iterKeys c lo hi asc) =
      (visKeys c s lo hi asc).map (fun k => (k, view c s k)) := by
  unfold listed visKeys
  congr 1
  refine List.filter_congr fun k hk => ?_
  have h := visible_iff c s k
  cases hd : s.deleted c k with
  | true => rw [hd] at h; simpa using h
  | false => exact (h.mpr ⟨((mem_iterKeys c s lo hi asc k).mp hk).1, hd⟩).symm

theorem visKeys_unique (ho : StrictTotal c.lt) (lo hi : Option K) (asc : Bool) (L : List K)
    (hn : L.Nodup)
    (hL : ∀ k, k ∈ L ↔ inRange c lo hi k = true ∧ (view c s k).isSome = true) :
    visKeys c s lo hi asc = dir asc (sortKeys c.lt L) := by
  refine sortedDir_perm_eq c.lt ho asc _ _ (sorted_visKeys c s ho lo hi asc)
    (sortedDir_dir c.lt asc _ (sortKeys_sorted c.lt ho.irrefl ho.trans L)) ?_
  rw [List.perm_ext_iff_of_nodup (nodup_visKeys c s lo hi asc)
    ((nodup_dir asc _).mpr ((sortKeys_perm c.lt L).nodup_iff.mpr hn))]
  intro k
  rw [mem_visKeys, mem_dir, mem_sortKeys, hL]

/-- a pair put into the topmost overlay: the open session if there is one, else the block cache -/
def St.put (s : St K V) (k : K) (v : V) : St K V :=
  match s.sess with
  | some o => { s with sess := some (upsert o k v) }
  | none => { s with cache := upsert s.cache k v }

/-- what a write is charged: `d` when it goes to the metered block cache, nothing otherwise -/
def St.writeCost (s : St K V) (d : Int) : Int :=
  if s.sess = none ∧ s.metered = true then d else 0

theorem view_put (k : K) (v : V) : view c (s.put k v) = upd (view c s) k (dec c v) := by
  funext k'
  unfold St.put view upd blockView
  by_cases hk : k' = k <;> cases s.sess <;> simp [alookup_upsert, hk]

theorem put_frame (k : K) (v : V) :
    (s.put k v).tree = s.tree ∧ (s.put k v).metered = s.metered ∧ (s.put k v).gas = s.gas := by
  unfold St.put
  split <;> exact ⟨rfl, rfl, rfl⟩

theorem put_addGas (k : K) (v : V) (d : Int) : (s.addGas d).put k v = (s.put k v).addGas d := by
  obtain ⟨se, ca, me, g, tr⟩ := s
  cases se <;> rfl

/-- neither overlay holds a key twice (they are built by `upsert`): `St.WF` without the tree -/
def OvNodup (s : St K V) : Prop :=
  (akeys s.cache).Nodup ∧ ∀ o, s.sess = some o → (akeys o).Nodup

theorem put_nodup (k : K) (v : V) (h : OvNodup s) : OvNodup (s.put k v) := by
  unfold St.put
  split
  · next o ho =>
    exact ⟨h.1, fun o' ho' => Option.some.inj ho' ▸ nodup_akeys_upsert o k v (h.2 o ho)⟩
  · exact ⟨nodup_akeys_upsert _ k v h.1, h.2⟩

theorem writeCost_nonneg (d : Int) (hd : 0 ≤ d) : 0 ≤ s.writeCost d := by
  unfold St.writeCost
  split
  · exact hd
  · exact Int.le_refl _

theorem set_exact (k : K) (v : V) :
    s.set c k v =
      if v = c.tomb then (s, .errReserved)
      else if WriteRefused s then (s, .errGas)
      else ((s.put k v).addGas (s.writeCost (200 + (c.vlen v : Int) * 20)), .ok) := by
  unfold St.set
  split
  · rfl
  · unfold WriteRefused St.put St.writeCost
    obtain ⟨se, ca, me, g, tr⟩ := s
    cases se with
    | some o => simp [addGas_zero]
    | none =>
      cases me with
      | false => simp [addGas_zero]
      | true =>
        by_cases hx : g.consumed ≥ g.limit
        · simp [consumeStrict_none hx, hx]
        · simp [consumeStrict_room hx, hx, St.addGas, Gas.consumeAlways, Int.add_assoc]

theorem del_exact (k : K) :
    s.del c k = if WriteRefused s then s else (s.put k c.tomb).addGas (s.writeCost 50) := by
  unfold St.del WriteRefused St.put St.writeCost
  obtain ⟨se, ca, me, g, tr⟩ := s
  cases se with
  | some o => simp [addGas_zero]
  | none =>
    cases me with
    | false => simp [addGas_zero]
    | true =>
      by_cases hx : g.consumed ≥ g.limit
      · simp [consumeStrict_none hx, hx]
      · simp [consumeStrict_room hx, hx, St.addGas]

theorem set_ok (k : K) (v : V) (h : (s.set c k v).2 = .ok) :
    v ≠ c.tomb ∧ ¬ WriteRefused s ∧ view c (s.set c k v).1 = upd (view c s) k (some v) := by
  rw [set_exact, apply_ite Prod.snd, apply_ite Prod.snd] at h
  obtain ⟨hv, h⟩ := of_guard h
  obtain ⟨hr, _⟩ := of_guard h
  exact ⟨hv, hr, by rw [set_exact, if_neg hv, if_neg hr, view_addGas, view_put, dec_of_ne c v hv]⟩

theorem set_sess {o : List (K × V)} (hs : s.sess = some o) (k : K) (v : V) (hv : v ≠ c.tomb) :
    s.set c k v = ({ s with sess := some (upsert o k v) }, .ok) := by
  simp [St.set, hs, hv]

theorem del_sess {o : List (K × V)} (hs : s.sess = some o) (k : K) :
    s.del c k = { s with sess := some (upsert o k c.tomb) } := by
  simp [St.del, hs]

theorem set_nosess_unmetered (hs : s.sess = none) (hm : s.metered = false) (k : K) (v : V)
    (hv : v ≠ c.tomb) :
    s.set c k v = ({ s with cache := upsert s.cache k v }, .ok) := by
  simp [St.set, hs, hm, hv]

/-- what one access of the store does to the state: the gas counter moves up, and a write may
    have put a pair into the topmost overlay (which pair is not said); `cases h` needs the second
    state to be a variable -/
inductive Accessed (s : St K V) : St K V → Prop
  | read (d : Int) (hd : 0 ≤ d) : Accessed s (s.addGas d)
  | wrote (k : K) (v : V) (d : Int) (hd : 0 ≤ d) : Accessed s ((s.put k v).addGas d)

theorem Accessed.refl : Accessed s s := by
  have := Accessed.read (s := s) 0 (Int.le_refl 0)
  rwa [addGas_zero] at this

theorem set_accessed (k : K) (v : V) : Accessed s (s.set c k v).1 := by
  rw [set_exact, apply_ite Prod.fst, apply_ite Prod.fst]
  exact ite_ind (fun _ => .refl s) fun _ => ite_ind (fun _ => .refl s) fun _ =>
    .wrote k v _ (writeCost_nonneg s _ (by omega))

theorem del_accessed (k : K) : Accessed s (s.del c k) := by
  rw [del_exact]
  exact ite_ind (fun _ => .refl s) fun _ => .wrote k c.tomb _ (writeCost_nonneg s _ (by decide))

theorem Accessed.frame {s s' : St K V} (h : Accessed s s') :
    s'.tree = s.tree ∧ s'.metered = s.metered ∧ s'.gas.limit = s.gas.limit := by
  cases h with
  | read => exact ⟨rfl, rfl, rfl⟩
  | wrote k v =>
    obtain ⟨ht, hm, hg⟩ := put_frame s k v
    exact ⟨ht, hm, (congrArg Gas.limit hg :)⟩

theorem Accessed.mono {s s' : St K V} (h : Accessed s s') : s.gas.consumed ≤ s'.gas.consumed := by
  cases h with
  | read d hd => exact Int.le_add_of_nonneg_right hd
  | wrote k v d hd =>
    show _ ≤ (s.put k v).gas.consumed + d
    rw [(put_frame s k v).2.2]
    exact Int.le_add_of_nonneg_right hd

theorem Accessed.nodup {s s' : St K V} (h : Accessed s s') (hn : OvNodup s) : OvNodup s' := by
  cases h with
  | read => exact hn
  | wrote k v => exact put_nodup s k v hn

theorem Accessed.WF {s s' : St K V} (h : Accessed s s') (wf : s.WF) : s'.WF :=
  have hn := h.nodup ⟨wf.1, wf.2.1⟩
  ⟨hn.1, hn.2, h.frame.1 ▸ wf.2.2⟩

theorem run_cons_fst (op : Op K V) (ops : List (Op K V)) :
    (run c s (op :: ops)).1 = (run c (step c s op).1 ops).1 := rfl

theorem run_append_fst (a b : List (Op K V)) :
    (run c s (a ++ b)).1 = (run c (run c s a).1 b).1 := by
  induction a generalizing s with
  | nil => rfl
  | cons op t ih =>
    rw [List.cons_append, run_cons_fst, run_cons_fst, ih]

theorem run_invariant (P : St K V → Prop) (hP : ∀ s, P s → ∀ op, P (step c s op).1)
    (ops : List (Op K V)) (s : St K V) (h : P s) : P (run c s ops).1 := by
  induction ops generalizing s with
  | nil => exact h
  | cons op t ih => rw [run_cons_fst]; exact ih _ (hP s h op)

theorem step_csess :
    (step c s .csess).1 =
      match s.sess with
      | some o => { s with cache := commitInto s.cache o, sess := none }
      | none => s := by
  unfold step St.csess
  cases s.sess <;> rfl

theorem step_read_addGas (op : Op K V) (hr : op.isRead = true) :
    ∃ d, 0 ≤ d ∧ (s.metered = false → d = 0) ∧ (step c s op).1 = s.addGas d := by
  have iter : ∀ ks : List K, ∃ d, 0 ≤ d ∧ (s.metered = false → d = 0) ∧
      (ks.foldl (iterStep c) (s, [])).1 = s.addGas d := fun ks => by
    obtain ⟨a, _, _, he, _⟩ := iter_foldl_split c s ks []
    exact ⟨_, iterCost_nonneg c s a, fun hm => iterCost_unmetered c s hm a, by rw [he]⟩
  cases op with
  | get k =>
    show ∃ d, _ ∧ _ ∧ (s.get c k).1 = _
    rcases get_val_or_refused c s k with ⟨h, _⟩ | ⟨h, _⟩ <;> rw [h]
    · exact ⟨_, readCost_nonneg c s k, readCost_unmetered c s k, rfl⟩
    · exact ⟨0, Int.le_refl _, fun _ => rfl, (addGas_zero s).symm⟩
  | has k =>
    show ∃ d, _ ∧ _ ∧ (s.has c k).1 = _
    rw [has_exact]
    exact ⟨_, by split <;> decide,
      fun hm => if_neg fun h => Bool.false_ne_true (hm.symm.trans h.2.1), rfl⟩
  | iter lo hi asc => exact iter _
  | iterAll lo hi asc => exact iter _
  | getv | gas => exact ⟨0, Int.le_refl _, fun _ => rfl, (addGas_zero s).symm⟩
  | _ => cases hr

theorem step_accessed (op : Op K V) (h : op.isRead = true ∨ op.isKeyWrite = true) :
    Accessed s (step c s op).1 := by
  rcases h with hr | hw
  · obtain ⟨d, hd, _, e⟩ := step_read_addGas c s op hr
    rw [e]
    exact .read d hd
  · cases op with
    | set k v => exact set_accessed c s k v
    | del k => exact del_accessed c s k
    | _ => cases hw

theorem step_tree_metered (op : Op K V) :
    (step c s op).1.tree =
      (match op with
      | .write => writeInto c s.tree s.cache
      | .commit => (writeInto c s.tree s.cache).commit
      | .reopen => s.tree.reopen
      | _ => s.tree) ∧
    (step c s op).1.metered =
      (match op with
      | .newState l => l.isSome
      | .commit | .reopen => false
      | _ => s.metered) := by
  cases op with
  | set | del => exact (step_accessed c s _ (.inr rfl)).frame.imp_right And.left
  | get | has | iter | iterAll => exact (step_accessed c s _ (.inl rfl)).frame.imp_right And.left
  | csess => rw [step_csess]; cases s.sess <;> exact ⟨rfl, rfl⟩
  | newState l => cases l <;> exact ⟨rfl, rfl⟩
  | _ => exact ⟨rfl, rfl⟩

/-- every operation of the state builds its tree from the one before by `Set` / `Delete`
    (`Write()`), `SaveVersion` and `DeleteVersion` (`Commit`) or by reopening: what these keep,
    `step` keeps -/
theorem step_tree_induct (P : Tree K V → Prop)
    (hset : ∀ t k v, P t → P (t.set k v)) (hrem : ∀ t k, P t → P (t.remove k))
    (hsave : ∀ t, P t → P t.saved) (hdel : ∀ t r, P t → P (t.deleteVersion r))
    (hre : ∀ t, P t → P t.reopen) (op : Op K V) (h : P s.tree) : P (step c s op).1.tree := by
  have hw := writeInto_induct c P hset hrem s.cache s.tree h
  rw [(step_tree_metered c s op).1]
  split
  · exact hw
  · exact commit_induct _ P (hsave _ hw) hdel
  · exact hre _ h
  · exact h

theorem step_keyWrite_sess {o : List (K × V)} (hs : s.sess = some o) {op : Op K V}
    (h : op.isKeyWrite = true) : ∃ o', (step c s op).1 = { s with sess := some o' } := by
  cases op with
  | set k v =>
    show ∃ o', (s.set c k v).1 = _
    by_cases hv : v = c.tomb
    · exact ⟨o, by rw [set_exact, if_pos hv, ← hs]⟩
    · exact ⟨_, by rw [set_sess c s hs k v hv]⟩
  | del k => exact ⟨_, del_sess c s hs k⟩
  | _ => cases h

theorem run_session_writes_gen (o : List (K × V)) (hs : s.sess = some o) (ws : List (Op K V))
    (hw : ∀ op ∈ ws, op.isKeyWrite = true ∨ op.isRead = true) :
    ∃ o' d, 0 ≤ d ∧ (s.metered = false → d = 0) ∧
      (run c s ws).1 = ({ s with sess := some o' } : St K V).addGas d := by
  induction ws generalizing s o with
  | nil => exact ⟨o, 0, Int.le_refl _, fun _ => rfl, by rw [addGas_zero, ← hs]; rfl⟩
  | cons op t ih =>
    have hw' : ∀ op ∈ t, op.isKeyWrite = true ∨ op.isRead = true :=
      fun x hx => hw x (List.mem_cons_of_mem _ hx)
    rw [run_cons_fst]
    rcases hw op List.mem_cons_self with h | h
    · obtain ⟨o1, h1⟩ := step_keyWrite_sess c s hs h
      rw [h1]
      exact ih { s with sess := some o1 } o1 rfl hw'
    · obtain ⟨d1, hd1, hz1, h1⟩ := step_read_addGas c s op h
      rw [h1]
      obtain ⟨o', d, hd, hz, h'⟩ := ih (s.addGas d1) o hs hw'
      refine ⟨o', d1 + d, Int.add_nonneg hd1 hd, fun hm => by rw [hz1 hm, hz hm]; rfl, ?_⟩
      rw [h', ← addGas_addGas]
      rfl

/-- inside an open session of an unmetered state, key writes and reads touch only the session -/
theorem run_session_writes (c : Cfg K V) (s : St K V) (hm : s.metered = false)
    (o : List (K × V)) (hs : s.sess = some o) (ws : List (Op K V))
    (hw : ∀ op ∈ ws, op.isKeyWrite = true ∨ op.isRead = true) :
    ∃ o', (run c s ws).1 = { s with sess := some o' } := by
  obtain ⟨o', d, _, hz, h⟩ := run_session_writes_gen c s o hs ws hw
  exact ⟨o', by rw [h, hz hm, addGas_zero]⟩

theorem run_discarded_session (hs : s.sess = none) (ws : List (Op K V))
    (hw : ∀ op ∈ ws, op.isKeyWrite = true ∨ op.isRead = true) :
    ∃ d, 0 ≤ d ∧ (s.metered = false → d = 0) ∧
      (run c s (.begin :: ws ++ [.dsess])).1 = s.addGas d := by
  obtain ⟨o', d, hd, hz, h⟩ := run_session_writes_gen c (step c s .begin).1 [] rfl ws hw
  refine ⟨d, hd, hz, ?_⟩
  rw [List.cons_append, run_cons_fst, run_append_fst, h]
  show ({ s with sess := none } : St K V).addGas d = s.addGas d
  rw [← hs]

theorem commit_log :
    (s.commit c).tree.log = s.tree.log ++ s.cache.map (toTreeOp c) ++ [.save] := by
  simp only [St.commit]
  rw [(commit_fields _).2.2.1, writeInto_log]

/-! ### the accesses under a shift of the gas level

  While the higher of two levels is below the limit no access is refused at either, and the access
  does the same from both: the operations commute with `addGas d`. -/

theorem get_room_shift (d : Int) (k : K) (hd : 0 ≤ d) (hr : s.gas.consumed + d < s.gas.limit) :
    (s.addGas d).get c k = ((s.get c k).1.addGas d, (s.get c k).2) := by
  have h0 : s.gas.consumed < s.gas.limit := by omega
  rw [get_exact, get_exact, if_neg (not_refused_of_room (s.addGas d) k hr),
    if_neg (not_refused_of_room s k h0), readCost_addGas, view_addGas]
  simp only
  rw [addGas_comm]

theorem has_room_shift (d : Int) (k : K) (hd : 0 ≤ d) (hr : s.gas.consumed + d < s.gas.limit) :
    (s.addGas d).has c k = ((s.has c k).1.addGas d, (s.has c k).2) := by
  rw [has_exact, has_exact, view_addGas]
  have e1 : ((s.addGas d).gas.consumed < (s.addGas d).gas.limit) = True := eq_true hr
  have e2 : (s.gas.consumed < s.gas.limit) = True := eq_true (by omega)
  have e3 : (s.addGas d).sess = s.sess := rfl
  have e4 : (s.addGas d).metered = s.metered := rfl
  simp only [e1, e2, e3, e4]
  rw [addGas_comm]

theorem set_room_shift (d : Int) (k : K) (v : V) (hd : 0 ≤ d)
    (hr : s.gas.consumed + d < s.gas.limit) :
    (s.addGas d).set c k v = ((s.set c k v).1.addGas d, (s.set c k v).2) := by
  have h0 : s.gas.consumed < s.gas.limit := by omega
  rw [set_exact, set_exact]
  by_cases hv : v = c.tomb
  · rw [if_pos hv, if_pos hv]
  · rw [if_neg hv, if_neg hv, if_neg (not_writeRefused_of_room (s.addGas d) hr),
      if_neg (not_writeRefused_of_room s h0), put_addGas, addGas_comm]
    rfl

theorem del_room_shift (d : Int) (k : K) (hd : 0 ≤ d) (hr : s.gas.consumed + d < s.gas.limit) :
    (s.addGas d).del c k = (s.del c k).addGas d := by
  have h0 : s.gas.consumed < s.gas.limit := by omega
  rw [del_exact, del_exact, if_neg (not_writeRefused_of_room (s.addGas d) hr),
    if_neg (not_writeRefused_of_room s h0), put_addGas, addGas_comm]
  rfl

theorem iter_foldl_of_room (ks : List K) (acc : List (K × Option V))
    (hr : (ks.foldl (iterStep c) (s, acc)).1.gas.consumed < (ks.foldl (iterStep c) (s, acc)).1.gas.limit) :
    ks.foldl (iterStep c) (s, acc) = (s.addGas (iterCost c s ks), acc ++ listed c s ks) := by
  obtain ⟨a, b, rfl, he, hl⟩ := iter_foldl_split c s ks acc
  cases b with
  | nil => simpa [listedSess] using he
  | cons k t =>
    rw [he] at hr
    exact absurd hr (Int.not_lt.mpr (hl k rfl).2.2.1)

theorem iter_foldl_room_shift (ks : List K) (acc : List (K × Option V)) (d : Int)
    (hd : 0 ≤ d)
    (hr : (ks.foldl (iterStep c) (s.addGas d, acc)).1.gas.consumed <
      (ks.foldl (iterStep c) (s.addGas d, acc)).1.gas.limit) :
    ks.foldl (iterStep c) (s.addGas d, acc) =
      ((ks.foldl (iterStep c) (s, acc)).1.addGas d, (ks.foldl (iterStep c) (s, acc)).2) := by
  have hhi := iter_foldl_of_room c (s.addGas d) ks acc hr
  rw [hhi, iterCost_addGas] at hr
  rw [hhi, iterCost_addGas, iter_foldl_enough_gas c s ks acc fun _ => by
    have : (s.gas.consumed + d) + iterCost c s ks < s.gas.limit := hr
    omega]
  exact congrArg (·, _) (addGas_comm s d _)

theorem iter_room_shift (d : Int) (lo hi : Option K) (asc : Bool) (hd : 0 ≤ d)
    (hr : ((s.addGas d).iter c lo hi asc).1.gas.consumed < ((s.addGas d).iter c lo hi asc).1.gas.limit) :
    (s.addGas d).iter c lo hi asc = ((s.iter c lo hi asc).1.addGas d, (s.iter c lo hi asc).2) :=
  iter_foldl_room_shift c s _ [] d hd hr

theorem iterAll_room_shift (d : Int) (lo hi : Option K) (asc : Bool) (hd : 0 ≤ d)
    (hr : ((s.addGas d).iterAll c lo hi asc).1.gas.consumed <
      ((s.addGas d).iterAll c lo hi asc).1.gas.limit) :
    (s.addGas d).iterAll c lo hi asc =
      ((s.iterAll c lo hi asc).1.addGas d, (s.iterAll c lo hi asc).2) :=
  iter_foldl_room_shift c s _ [] d hd hr

end OLP.KV
