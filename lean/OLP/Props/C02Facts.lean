/-
  C02 — obligation over the REGENERATED fact tables (tie T3): the coin arithmetic, balance-store,
  fee-step and transfer functions that OLP/Ledger/Model.lean ports are unchanged.
-/
import OLP.Props.SourceFacts

namespace OLP.Props.C02.Facts
open OLP.Expect

theorem ledger_leaves_source_pinned :
    pinnedOf OLP.Gen.pinned (pinnedLedger.map (fun r => r.fn)) = pinnedLedger :=
  Source.ledger_leaves_source_pinned

end OLP.Props.C02.Facts
