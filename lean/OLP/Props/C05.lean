/-
  C05 — At-most-once: a signed transaction never takes effect twice.
  The replay record of native transactions is the Tendermint tx index keyed by the hash of the
  *received bytes* (`T`); the shell is generic in the handlers.
-/
import OLP.Shell.Block

namespace OLP.Props.C05
open OLP OLP.KV OLP.Shell

set_option linter.unusedSectionVars false

variable {K V C E T H D : Type} [DecidableEq K] [DecidableEq V] [DecidableEq C] [DecidableEq H]
variable (cfg : Cfg K V) (hs : Handlers K V C E T H D) (e : E)

/-- byte-identical resubmission of an indexed transaction: DeliverTx returns the recorded result
    and changes nothing -/
theorem replay_deliver_noop (n : Node K V C T H D) (tx : T) (r : TxRes D)
    (h : lookupIdx n.idx (hs.hash tx) = some r) : deliverTx cfg hs e n tx = (n, r) :=
  deliverTx_hit cfg hs e h

/-- … and the mempool check rejects it, changing nothing -/
theorem replay_check_rejected (n : Node K V C T H D) (tx : T) (r : TxRes D)
    (h : lookupIdx n.idx (hs.hash tx) = some r) : checkTx cfg hs e n tx = (n, false) :=
  checkTx_hit cfg hs e h

theorem executed_tx_indexed (n : Node K V C T H D) (txs : List T) (tx : T) (hm : tx ∈ txs) :
    (lookupIdx (execBlock cfg hs e n txs).1.idx (hs.hash tx)).isSome := by
  unfold lookupIdx
  rw [execBlock_idx, alookup_append, Option.isSome_or, Bool.or_eq_true]
  right
  rw [← mem_akeys_iff_alookup, akeys, List.map_map,
    show ((fun x : H × TxRes D => x.1) ∘ fun p : T × TxRes D => (hs.hash p.1, p.2)) =
      hs.hash ∘ Prod.fst from rfl, ← List.map_map,
    List.map_fst_zip (Nat.le_of_eq (deliverAll_length cfg hs e txs _).symm)]
  exact List.mem_map_of_mem hm

theorem index_is_stable (n : Node K V C T H D) (blocks : List (List T)) (h : H) (r : TxRes D)
    (hl : lookupIdx n.idx h = some r) :
    lookupIdx (execBlocks cfg hs e n blocks).1.idx h = some r :=
  execBlocks_keeps cfg hs e (fun x => lookupIdx x.idx h = some r) (fun n b hl => by
    unfold lookupIdx at hl ⊢
    rw [execBlock_idx, alookup_append, hl, Option.some_or]) blocks n hl

theorem indexed_later (n : Node K V C T H D) {txs : List T} {tx : T} (hm : tx ∈ txs) :
    ∃ r, lookupIdx (execBlock cfg hs e n txs).1.idx (hs.hash tx) = some r ∧
      ∀ later, lookupIdx (execBlocks cfg hs e (execBlock cfg hs e n txs).1 later).1.idx (hs.hash tx) =
        some r := by
  obtain ⟨r, hr⟩ := Option.isSome_iff_exists.mp (executed_tx_indexed cfg hs e n txs tx hm)
  exact ⟨r, hr, fun later => index_is_stable cfg hs e _ later _ r hr⟩

/-- history form: once a transaction was in a block, delivering the same bytes in any later block
    (after any further blocks) returns the recorded result and leaves the node untouched -/
theorem replay_noop_in_later_block (n : Node K V C T H D) (txs : List T) (later : List (List T))
    (tx : T) (hm : tx ∈ txs) :
    let n' := (execBlocks cfg hs e (execBlock cfg hs e n txs).1 later).1
    ∃ r, deliverTx cfg hs e n' tx = (n', r) ∧ checkTx cfg hs e n' tx = (n', false) := by
  intro n'
  obtain ⟨r, _, h⟩ := indexed_later cfg hs e n hm
  have h2 : lookupIdx n'.idx (hs.hash tx) = some r := h later
  exact ⟨r, deliverTx_hit cfg hs e h2, checkTx_hit cfg hs e h2⟩

/-- `Canonical`: two byte strings the handlers cannot tell apart have the same hash. Under it the
    full statement (any re-encoding) holds … -/
def Canonical (hs : Handlers K V C E T H D) : Prop :=
  ∀ t₁ t₂, hs.deliver t₁ = hs.deliver t₂ → hs.hash t₁ = hs.hash t₂

theorem replay_any_encoding_noop_partial (hc : Canonical hs) (n : Node K V C T H D) (txs : List T)
    (later : List (List T)) (t₁ t₂ : T) (hm : t₁ ∈ txs) (hsame : hs.deliver t₁ = hs.deliver t₂) :
    let n' := (execBlocks cfg hs e (execBlock cfg hs e n txs).1 later).1
    ∃ r, deliverTx cfg hs e n' t₂ = (n', r) := by
  intro n'
  obtain ⟨r, _, h⟩ := indexed_later cfg hs e n hm
  have h2 : lookupIdx n'.idx (hs.hash t₁) = some r := h later
  rw [hc t₁ t₂ hsame] at h2
  exact ⟨r, deliverTx_hit cfg hs e h2⟩

/-! ### the canonical-encoding guard

  `Canonical` is an assumption about hash and ProcessDeliver together, and the handlers of /repo do
  not meet it (`reencoded_replay_executes_twice` below). What they do since the repair of S11 is to
  refuse, in Validate, every byte string that is not THE serialisation of what it parses to. The
  theorem below is about handlers of that shape and assumes nothing else. -/

/-- `Guarded parse ser hs`: the handlers have the canonical-encoding guard. `parse` decodes the
    received bytes, `ser` is the serialiser; bytes `t` are canonical when `ser (parse t) = t`.
    The ONLY thing asked of the handlers: the Validate program of non-canonical bytes is `.fail`
    (it touches nothing and fails), i.e. `validate t = if ser (parse t) = t then … else .fail`
    (`guardV`). Nothing is asked of the hash, of ProcessCheck / ProcessDeliver / ProcessFee or of
    the block hooks, nor of `parse` and `ser` (they need not be inverse to each other). -/
def Guarded {P : Type} (parse : T → P) (ser : P → T) (hs : Handlers K V C E T H D) : Prop :=
  ∀ t, ser (parse t) ≠ t → hs.validate t = .fail

def guardV [DecidableEq T] {P : Type} (parse : T → P) (ser : P → T) (v : P → Prog K V C E Unit)
    (t : T) : Prog K V C E Unit :=
  if ser (parse t) = t then v (parse t) else .fail

theorem guarded_of_guardV [DecidableEq T] {P : Type} (parse : T → P) (ser : P → T)
    (v : P → Prog K V C E Unit) (h : hs.validate = guardV parse ser v) : Guarded parse ser hs := by
  intro t hne
  rw [h, guardV, if_neg hne]

/-- bytes whose Validate program is `.fail` are without effect on ANY node, not only on one a
    history has reached -/
theorem validate_fail_noop (n : Node K V C T H D) {t : T} (hv : hs.validate t = .fail) :
    let x := deliverTx cfg hs e n t
    (x.1.tree = n.tree ∧ x.1.dlv.cache = n.dlv.cache ∧ x.1.dlv.gas = n.dlv.gas ∧
     x.1.vol = n.vol ∧ x.1.chk = n.chk ∧ x.1.idx = n.idx ∧ x.1.height = n.height) ∧
    ((∃ r, lookupIdx n.idx (hs.hash t) = some r ∧ x = (n, r)) ∨
      x.2 = { ok := false, data := none, gasUsed := 0 }) ∧
    (checkTx cfg hs e n t).2 = false := by
  intro x
  refine and_assoc.mp ⟨?_, checkTx_validate_fails cfg hs e n t fun _ _ => by rw [hv]; rfl⟩
  cases hl : lookupIdx n.idx (hs.hash t) with
  | some r =>
    have hx : x = (n, r) := deliverTx_hit cfg hs e hl
    exact ⟨by rw [hx]; exact ⟨rfl, rfl, rfl, rfl, rfl, rfl, rfl⟩, Or.inl ⟨r, rfl, hx⟩⟩
  | none =>
    have hx : x = _ := deliverTx_validate_fail cfg hs e n t hv hl
    exact ⟨by rw [hx]; exact ⟨rfl, rfl, rfl, rfl, rfl, rfl, rfl⟩, Or.inr (by rw [hx])⟩

/-- At-most-once for ANY re-encoding, for handlers with the canonical-encoding guard.

    Assumptions on the handlers: `Guarded parse ser hs` and nothing else (no `Canonical`, no
    injectivity of the hash, nothing about ProcessDeliver). Assumptions on the transactions: `t₁`
    is canonical (`ser (parse t₁) = t₁`) and was in the block `txs`; `t₂` is any byte string with the
    same parse.

    Then, at any point of any later block (`later` are the blocks in between, `blk` / `k` the
    transactions of the current block delivered so far), `DeliverTx t₂` leaves tree, block cache,
    block gas, volatile memory, check state, index and height as they are, and
      * if `t₂ = t₁` it returns the response recorded for `t₁` and the node is untouched;
      * otherwise `t₂` is not canonical, and either its own bytes are in the index (then the
        response recorded for them is returned and the node is untouched: nothing runs), or it is
        refused with `ok = false`, no data, no gas (`replay_any_encoding_rejected_guarded` below
        shows that with a collision-free hash the recorded response has `ok = false` too);
    and `CheckTx t₂` answers `false`. -/
theorem replay_any_encoding_noop_guarded {P : Type} (parse : T → P) (ser : P → T)
    (hg : Guarded parse ser hs) (n : Node K V C T H D) (txs : List T) (later : List (List T))
    (blk : List T) (k : Nat) (t₁ t₂ : T) (hm : t₁ ∈ txs) (hc : ser (parse t₁) = t₁)
    (hp : parse t₂ = parse t₁) :
    let n' := midBlock cfg hs e (execBlocks cfg hs e (execBlock cfg hs e n txs).1 later).1 blk k false
    let x := deliverTx cfg hs e n' t₂
    (x.1.tree = n'.tree ∧ x.1.dlv.cache = n'.dlv.cache ∧ x.1.dlv.gas = n'.dlv.gas ∧
     x.1.vol = n'.vol ∧ x.1.chk = n'.chk ∧ x.1.idx = n'.idx ∧ x.1.height = n'.height) ∧
    ((t₂ = t₁ ∧ ∃ r, lookupIdx (execBlock cfg hs e n txs).1.idx (hs.hash t₁) = some r ∧ x = (n', r)) ∨
     (t₂ ≠ t₁ ∧ ((∃ r, lookupIdx n'.idx (hs.hash t₂) = some r ∧ x = (n', r)) ∨
                 x.2 = { ok := false, data := none, gasUsed := 0 }))) ∧
    (checkTx cfg hs e n' t₂).2 = false := by
  intro n' x
  by_cases heq : t₂ = t₁
  · subst heq
    obtain ⟨r, hr, h⟩ := indexed_later cfg hs e n hm
    have h2 : lookupIdx n'.idx (hs.hash t₂) = some r := by
      show lookupIdx (midBlock cfg hs e _ blk k false).idx (hs.hash t₂) = some r
      rw [(midBlock_frame cfg hs e _ blk k false).idx]
      exact h later
    have hx : x = (n', r) := deliverTx_hit cfg hs e h2
    refine ⟨?_, Or.inl ⟨rfl, r, hr, hx⟩, by rw [checkTx_hit cfg hs e h2]⟩
    rw [hx]; exact ⟨rfl, rfl, rfl, rfl, rfl, rfl, rfl⟩
  · obtain ⟨h1, h2, h3⟩ :=
      validate_fail_noop cfg hs e n' (hg t₂ fun h => heq (by rw [← h, hp, hc]))
    exact ⟨h1, Or.inr ⟨heq, h2⟩, h3⟩

/-- every response the index holds for non-canonical bytes is a refusal -/
def IdxGuarded {P : Type} (parse : T → P) (ser : P → T) (hs : Handlers K V C E T H D)
    (idx : List (H × TxRes D)) : Prop :=
  ∀ t r, ser (parse t) ≠ t → lookupIdx idx (hs.hash t) = some r → r.ok = false

theorem idxGuarded_nil {P : Type} (parse : T → P) (ser : P → T) :
    IdxGuarded parse ser hs ([] : List (H × TxRes D)) := by
  intro t r _ h; cases h

theorem deliverAll_zip_mem {txs : List T} {n : Node K V C T H D} {t : T} {r : TxRes D}
    (hm : (t, r) ∈ txs.zip (deliverAll cfg hs e n txs).2) :
    ∃ m : Node K V C T H D, m.idx = n.idx ∧ r = (deliverTx cfg hs e m t).2 := by
  induction txs generalizing n with
  | nil => cases hm
  | cons tx txs ih =>
    rw [deliverAll_cons] at hm
    simp only [List.zip_cons_cons, List.mem_cons, Prod.mk.injEq] at hm
    rcases hm with ⟨rfl, rfl⟩ | hm
    · exact ⟨n, rfl, rfl⟩
    · obtain ⟨m, h1, h2⟩ := ih hm
      exact ⟨m, h1.trans (deliverTx_frame cfg hs e n tx).idx, h2⟩

theorem execBlock_idxGuarded {P : Type} {parse : T → P} {ser : P → T} (hg : Guarded parse ser hs)
    (hinj : ∀ a b, hs.hash a = hs.hash b → a = b) {n : Node K V C T H D}
    (hi : IdxGuarded parse ser hs n.idx) (txs : List T) :
    IdxGuarded parse ser hs (execBlock cfg hs e n txs).1.idx := by
  intro t r hnc hl
  unfold lookupIdx at hl
  rw [execBlock_idx, alookup_append] at hl
  cases hold : alookup (hs.hash t) n.idx with
  | some v =>
    rw [hold] at hl
    exact Option.some.inj hl ▸ hi t v hnc hold
  | none =>
    rw [hold] at hl
    obtain ⟨⟨t', r'⟩, hz, hp⟩ := List.mem_map.mp (mem_of_alookup hl)
    obtain ⟨hh, rfl⟩ := Prod.mk.inj hp
    obtain rfl := hinj _ _ hh
    obtain ⟨m, hm1, rfl⟩ := deliverAll_zip_mem cfg hs e hz
    have hmiss : lookupIdx m.idx (hs.hash t') = none := by
      rw [hm1, (beginBlock_frame cfg hs e n).idx]; exact hold
    rw [deliverTx_validate_fail cfg hs e m t' (hg t' hnc) hmiss]

theorem execBlocks_idxGuarded {P : Type} {parse : T → P} {ser : P → T} (hg : Guarded parse ser hs)
    (hinj : ∀ a b, hs.hash a = hs.hash b → a = b) (blocks : List (List T)) {n : Node K V C T H D}
    (hi : IdxGuarded parse ser hs n.idx) :
    IdxGuarded parse ser hs (execBlocks cfg hs e n blocks).1.idx :=
  execBlocks_keeps cfg hs e (fun x => IdxGuarded parse ser hs x.idx)
    (fun _ b hi => execBlock_idxGuarded cfg hs e hg hinj hi b) blocks n hi

/-- the sharp form: if, in addition, the hash is collision-free and the history started from an
    index that records only refusals for non-canonical bytes (the empty index of genesis does:
    `idxGuarded_nil`), then a re-encoding `t₂ ≠ t₁` of an executed transaction is ALWAYS answered
    with `ok = false`, and changes nothing -/
theorem replay_any_encoding_rejected_guarded {P : Type} (parse : T → P) (ser : P → T)
    (hg : Guarded parse ser hs) (hinj : ∀ a b, hs.hash a = hs.hash b → a = b)
    (n : Node K V C T H D) (hi : IdxGuarded parse ser hs n.idx) (txs : List T)
    (later : List (List T)) (blk : List T) (k : Nat) (t₁ t₂ : T) (hm : t₁ ∈ txs)
    (hc : ser (parse t₁) = t₁) (hp : parse t₂ = parse t₁) :
    let n' := midBlock cfg hs e (execBlocks cfg hs e (execBlock cfg hs e n txs).1 later).1 blk k false
    let x := deliverTx cfg hs e n' t₂
    (x.1.tree = n'.tree ∧ x.1.dlv.cache = n'.dlv.cache ∧ x.1.dlv.gas = n'.dlv.gas ∧
     x.1.vol = n'.vol ∧ x.1.chk = n'.chk ∧ x.1.idx = n'.idx ∧ x.1.height = n'.height) ∧
    ((t₂ = t₁ ∧ ∃ r, lookupIdx (execBlock cfg hs e n txs).1.idx (hs.hash t₁) = some r ∧ x = (n', r)) ∨
     (t₂ ≠ t₁ ∧ x.2.ok = false)) ∧
    (checkTx cfg hs e n' t₂).2 = false := by
  intro n' x
  obtain ⟨h1, h2, h3⟩ :=
    replay_any_encoding_noop_guarded cfg hs e parse ser hg n txs later blk k t₁ t₂ hm hc hp
  refine ⟨h1, h2.imp_right fun ⟨hne, h⟩ => ⟨hne, ?_⟩, h3⟩
  rcases h with ⟨r, hl, hx⟩ | hx
  · have hi' := execBlocks_idxGuarded cfg hs e hg hinj later (execBlock_idxGuarded cfg hs e hg hinj hi txs)
    rw [← (midBlock_frame cfg hs e _ blk k false).idx] at hi'
    exact (congrArg (fun y : _ × TxRes D => y.2.ok) hx).trans
      (hi' t₂ r (fun h => hne (by rw [← h, hp, hc])) hl)
  · exact congrArg TxRes.ok hx

/-! The handlers of /repo are not `Canonical`: JSON is not canonical (S11). The counterexample in
    the model: transactions are pairs (content, encoding); the handler only looks at the content,
    the hash at both. -/

def exCfg : Cfg Nat Nat := { tomb := 0, vlen := fun _ => 1, lt := fun a b => decide (a < b) }
def exH : Handlers Nat Nat Nat Unit (Nat × Nat) (Nat × Nat) Nat :=
  { hash := id, validate := fun _ => .ret (), check := fun _ => .ret 0,
    -- "add the content to the counter stored under key 1"
    deliver := fun tx => .get 1 (fun r => match r with
      | .val v => .set 1 (v.getD 0 + tx.1) (fun _ => .ret 0)
      | .errGas => .fail),
    fee := fun _ _ => .ret 0, begin := fun _ => [], endb := fun _ => [], gasLimit := 1000000 }
def exN : Node Nat Nat Nat (Nat × Nat) (Nat × Nat) Nat :=
  { tree := Tree.empty ⟨1, 0, 0⟩, dlv := Ov.fresh 1000000, chk := Ov.fresh 1000000, vol := fun _ => none,
    idx := [], aim := .check, height := 0, closed := false }

/-- the same content in a second encoding executes again: the counter ends at 10, not 5 -/
theorem reencoded_replay_executes_twice :
    let n1 := (execBlock exCfg exH () exN [(5, 0)]).1
    let n2 := (execBlock exCfg exH () n1 [(5, 1)]).1
    exH.deliver (5, 0) = exH.deliver (5, 1) ∧ n1.tree.get 1 = some 5 ∧ n2.tree.get 1 = some 10 := by
  refine ⟨rfl, ?_, ?_⟩ <;> decide

/-! ## Non-vacuity

  Transactions are pairs (content, encoding), as above. The programs below really use the store,
  the gas counter and a BeginBlock hook; content 0 fails after its write. -/

def ctrDeliver (tx : Nat × Nat) : Prog Nat Nat Nat Unit Nat :=
  .get 1 (fun r => match r with
    | .val v => .set 1 (v.getD 0 + tx.1) (fun _ => if tx.1 = 0 then .fail else .ret tx.1)
    | .errGas => .fail)

/-! ### `Canonical`, not by accident: the replay key is the hash of the CONTENT

  Same handler as `exH` (it looks at the content only), but the hash ignores the encoding too: the
  model of a replay key computed from the canonical re-serialisation of the parsed transaction
  instead of from the received bytes. `Canonical` holds because the ProcessDeliver program
  determines the content (it writes it), and the content determines the hash. -/

def canH : Handlers Nat Nat Nat Unit (Nat × Nat) Nat Nat :=
  { hash := fun tx => tx.1, validate := fun _ => .burn 5 (.ret ()), check := fun _ => .ret 0,
    deliver := ctrDeliver,
    fee := fun _ g0 => .gas (fun g => .ret (g - g0)),
    begin := fun h => [(true, .set 7 h (fun _ => .ret ()))],
    endb := fun _ => [], gasLimit := 10000 }

def canN : Node Nat Nat Nat (Nat × Nat) Nat Nat :=
  { tree := Tree.empty ⟨1, 0, 0⟩, dlv := Ov.fresh 10000, chk := Ov.fresh 10000, vol := fun _ => none,
    idx := [], aim := .check, height := 0, closed := false }

theorem canH_canonical : Canonical canH := by
  intro t₁ t₂ h
  simp only [canH, ctrDeliver, Prog.get.injEq, true_and] at h
  have h' := congrFun h (.val none)
  simp only [Prog.set.injEq, true_and, Option.getD_none, Nat.zero_add] at h'
  exact h'.1

/-- `replay_any_encoding_noop_partial` applied: block 1 is `[(5,0), (0,0)]` (the second one fails
    after its write), block 2 is `[(3,0)]`; then content 5 in ANOTHER encoding is delivered -/
theorem canonical_instance :
    let n' := (execBlocks exCfg canH () (execBlock exCfg canH () canN [(5, 0), (0, 0)]).1 [[(3, 0)]]).1
    ∃ r, deliverTx exCfg canH () n' (5, 1) = (n', r) :=
  replay_any_encoding_noop_partial exCfg canH () canH_canonical canN [(5, 0), (0, 0)] [[(3, 0)]]
    (5, 0) (5, 1) (by decide) rfl

/-- … and what that looks like: the counter is 8 after the two blocks; a third block
    `[(4,0), (5,1), (5,0)]` adds 4 only — both the re-encoding `(5,1)` and the byte-identical `(5,0)`
    get the recorded response of block 1 and write nothing (compare
    `reencoded_replay_executes_twice`, where the hash sees the encoding) -/
theorem canonical_instance_facts :
    let r1 := execBlock exCfg canH () canN [(5, 0), (0, 0)]
    let n' := (execBlocks exCfg canH () r1.1 [[(3, 0)]]).1
    let r3 := execBlock exCfg canH () n' [(4, 0), (5, 1), (5, 0)]
    r1.2.results = [⟨true, some 5, 25⟩, ⟨false, none, 27⟩] ∧
    r1.2.log = [.set 7 1, .set 1 5, .save] ∧
    n'.tree.get 1 = some 8 ∧
    r3.2.results = [⟨true, some 4, 25⟩, ⟨true, some 5, 25⟩, ⟨true, some 5, 25⟩] ∧
    r3.2.log = [.set 7 3, .set 1 12, .save] ∧ r3.1.tree.get 1 = some 12 := by
  dsimp only
  decide +kernel

/-- `replay_noop_in_later_block` (no hypothesis) on the same history -/
example :
    let n' := (execBlocks exCfg canH () (execBlock exCfg canH () canN [(5, 0), (0, 0)]).1 [[(3, 0)]]).1
    ∃ r, deliverTx exCfg canH () n' (0, 0) = (n', r) ∧ checkTx exCfg canH () n' (0, 0) = (n', false) :=
  replay_noop_in_later_block exCfg canH () canN [(5, 0), (0, 0)] [[(3, 0)]] (0, 0) (by decide)

/-! ### the guard: `Guarded` holds where `Canonical` does not

  The hash is the hash of the received bytes again (`id`, collision-free), ProcessDeliver still looks
  at the content only — so `Canonical` FAILS — but Validate refuses every encoding other than 0. -/

def gdParse (t : Nat × Nat) : Nat := t.1
def gdSer (p : Nat) : Nat × Nat := (p, 0)

def gdH : Handlers Nat Nat Nat Unit (Nat × Nat) (Nat × Nat) Nat :=
  { hash := id, validate := guardV gdParse gdSer (fun _ => .burn 5 (.ret ())),
    check := fun _ => .ret 0, deliver := ctrDeliver,
    fee := fun _ g0 => .gas (fun g => .ret (g - g0)),
    begin := fun h => [(true, .set 7 h (fun _ => .ret ()))],
    endb := fun _ => [], gasLimit := 10000 }

def gdN : Node Nat Nat Nat (Nat × Nat) (Nat × Nat) Nat :=
  { tree := Tree.empty ⟨1, 0, 0⟩, dlv := Ov.fresh 10000, chk := Ov.fresh 10000, vol := fun _ => none,
    idx := [], aim := .check, height := 0, closed := false }

theorem gdH_guarded : Guarded gdParse gdSer gdH := guarded_of_guardV gdH gdParse gdSer (fun _ => .burn 5 (.ret ())) rfl

theorem gdH_not_canonical : ¬ Canonical gdH := by
  intro h
  have := h (5, 0) (5, 1) rfl
  simp [gdH] at this

/-- `replay_any_encoding_rejected_guarded` applied, all hypotheses proved: block 1 is
    `[(5,0), (0,0)]`, block 2 is `[(3,0)]`, and in block 3, after `(4,0)` was delivered, the
    re-encoding `(5,1)` of the executed `(5,0)` arrives -/
theorem guarded_instance :
    let n' := midBlock exCfg gdH ()
      (execBlocks exCfg gdH () (execBlock exCfg gdH () gdN [(5, 0), (0, 0)]).1 [[(3, 0)]]).1 [(4, 0)] 1 false
    let x := deliverTx exCfg gdH () n' (5, 1)
    (x.1.tree = n'.tree ∧ x.1.dlv.cache = n'.dlv.cache ∧ x.1.dlv.gas = n'.dlv.gas ∧
     x.1.vol = n'.vol ∧ x.1.chk = n'.chk ∧ x.1.idx = n'.idx ∧ x.1.height = n'.height) ∧
    (((5, 1) = ((5, 0) : Nat × Nat) ∧ ∃ r,
        lookupIdx (execBlock exCfg gdH () gdN [(5, 0), (0, 0)]).1.idx (gdH.hash (5, 0)) = some r ∧
        x = (n', r)) ∨
     ((5, 1) ≠ ((5, 0) : Nat × Nat) ∧ x.2.ok = false)) ∧
    (checkTx exCfg gdH () n' (5, 1)).2 = false :=
  replay_any_encoding_rejected_guarded exCfg gdH () gdParse gdSer gdH_guarded (fun _ _ h => h) gdN
    (idxGuarded_nil gdH gdParse gdSer) [(5, 0), (0, 0)] [[(3, 0)]] [(4, 0)] 1 (5, 0) (5, 1)
    (by decide) rfl rfl

/-- … and what that looks like. Block 1 already contains a re-encoding `(5,1)` behind `(5,0)`: it
    is refused (no gas, no data) and recorded as refused. In block 3 `(5,1)` comes back (index hit:
    the recorded refusal), `(5,0)` comes back (index hit: the recorded success, nothing runs) and a
    fresh re-encoding `(5,2)` is refused by the guard. The counter moves by 4 only; the block
    cache before and after each of the three is the same -/
theorem guarded_instance_facts :
    let r1 := execBlock exCfg gdH () gdN [(5, 0), (0, 0), (5, 1)]
    let n2 := (execBlocks exCfg gdH () r1.1 [[(3, 0)]]).1
    let r3 := execBlock exCfg gdH () n2 [(4, 0), (5, 1), (5, 0), (5, 2)]
    let m := midBlock exCfg gdH () n2 [(4, 0)] 1 false
    r1.2.results = [⟨true, some 5, 25⟩, ⟨false, none, 27⟩, ⟨false, none, 0⟩] ∧
    r1.2.log = [.set 7 1, .set 1 5, .save] ∧
    n2.tree.get 1 = some 8 ∧
    r3.2.results = [⟨true, some 4, 25⟩, ⟨false, none, 0⟩, ⟨true, some 5, 25⟩, ⟨false, none, 0⟩] ∧
    r3.2.log = [.set 7 3, .set 1 12, .save] ∧ r3.1.tree.get 1 = some 12 ∧
    m.dlv.cache = [(7, 3), (1, 12)] ∧
    (deliverTx exCfg gdH () m (5, 2)).1.dlv.cache = [(7, 3), (1, 12)] ∧
    (deliverTx exCfg gdH () m (5, 2)).1.dlv.gas = m.dlv.gas ∧
    (deliverTx exCfg gdH () m (5, 2)).2 = ⟨false, none, 0⟩ ∧
    (checkTx exCfg gdH () m (5, 2)).2 = false := by
  dsimp only
  decide +kernel

end OLP.Props.C05
