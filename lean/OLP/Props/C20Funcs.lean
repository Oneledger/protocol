import OLP.Gen.Funcs
import OLP.Ons.Lemmas

/-!
# C20 — what a payment buys, tied to the source by translation (T2b)

`action/ons.blocksFor`, `calculateExpiry`, `calculateRenewal` are translated WHOLE from /repo's
working tree, including the `IsInt64` / `Int64()` guards (as `wrap64`). The model's `blocksFor` is
the translated function; `calculateExpiry` / `calculateRenewal` are `blocksFor` of the price above
the base price / of the price, behind the source's "too less" guards.
-/

namespace OLP.Props.C20

open OLP.Ons
open OLP.Gen

theorem wrap64_of_int64 (x : Int) (h : -9223372036854775808 ≤ x ∧ x ≤ 9223372036854775807) :
    Funcs.wrap64 x = x := by
  unfold Funcs.wrap64; omega

/-- the model's block count is the source's: refused in the same cases, the same quotient otherwise -/
theorem blocksFor_is_source (a pb f : Int) :
    blocksFor a pb f =
      (match Funcs.blocksFor a pb f with
       | (q, false) => some q
       | (_, true) => none) := by
  have hmin : minInt64 = -9223372036854775808 := rfl
  have hmax : maxInt64 = 9223372036854775807 := rfl
  unfold blocksFor Funcs.blocksFor
  by_cases hc : a / pb < minInt64 ∨ maxInt64 < a / pb ∨ f < 0 ∨ maxInt64 - f < a / pb
  · simp only [hc, if_true]
    by_cases h1 : -9223372036854775808 ≤ a / pb ∧ a / pb ≤ 9223372036854775807
    · rw [wrap64_of_int64 _ h1]
      have : f < 0 ∨ a / pb > 9223372036854775807 - f := by omega
      rcases this with h | h <;> simp [h]
    · simp [h1]
  · simp only [hc, if_false]
    have h1 : -9223372036854775808 ≤ a / pb ∧ a / pb ≤ 9223372036854775807 := by omega
    rw [wrap64_of_int64 _ h1]
    have h2 : ¬ f < 0 := by omega
    have h3 : ¬ a / pb > 9223372036854775807 - f := by omega
    simp [h1, h2, h3]

theorem blocksFor_of_source {a pb f q : Int} (h : Funcs.blocksFor a pb f = (q, false)) :
    blocksFor a pb f = some q := by
  rw [blocksFor_is_source, h]

theorem calculateExpiry_is_blocksFor (price base pb f : Int) :
    Funcs.calculateExpiry price base pb f =
      if price < base then (0, true) else Funcs.blocksFor (price - base) pb f := by
  unfold Funcs.calculateExpiry
  by_cases h : price < base <;> simp [h]

theorem calculateRenewal_is_blocksFor (price pb f : Int) :
    Funcs.calculateRenewal price pb f =
      if price < pb then (0, true) else Funcs.blocksFor price pb f := by
  unfold Funcs.calculateRenewal
  by_cases h : price < pb <;> simp [h]

/-- both price calculations are `blocksFor` behind one "too less" guard -/
theorem blocksFor_exact_of_guard {x lim a pb f q : Int}
    (h : (if x < lim then (0, true) else Funcs.blocksFor a pb f) = (q, false)) :
    lim ≤ x ∧ q = a / pb ∧ 0 ≤ f ∧ f + q ≤ 9223372036854775807 := by
  obtain ⟨hx, h⟩ := of_guard h
  obtain ⟨hq, h0, _, h1⟩ := blocksFor_some (blocksFor_of_source h)
  exact ⟨Int.not_lt.mp hx, hq, h0, h1⟩

/-- an accepted creation price buys exactly ⌊(price − base) / perBlock⌋ blocks, in the source -/
theorem expiry_exact_in_source (price base pb f q : Int)
    (h : Funcs.calculateExpiry price base pb f = (q, false)) :
    base ≤ price ∧ q = (price - base) / pb ∧ 0 ≤ f ∧ f + q ≤ 9223372036854775807 :=
  blocksFor_exact_of_guard (calculateExpiry_is_blocksFor .. ▸ h)

/-- an accepted renewal price buys exactly ⌊price / perBlock⌋ blocks, in the source -/
theorem renewal_exact_in_source (price pb f q : Int)
    (h : Funcs.calculateRenewal price pb f = (q, false)) :
    pb ≤ price ∧ q = price / pb ∧ 0 ≤ f ∧ f + q ≤ 9223372036854775807 :=
  blocksFor_exact_of_guard (calculateRenewal_is_blocksFor .. ▸ h)

/-- more money never buys fewer blocks: the source's block count is monotone in the amount (for a
    positive price per block) -/
theorem blocks_monotone_in_amount (a b pb f q r : Int) (hpb : 0 < pb) (hab : a ≤ b)
    (ha : Funcs.blocksFor a pb f = (q, false)) (hb : Funcs.blocksFor b pb f = (r, false)) : q ≤ r := by
  rw [(blocksFor_some (blocksFor_of_source ha)).1, (blocksFor_some (blocksFor_of_source hb)).1]
  exact Int.ediv_le_ediv hpb hab

/-! ### the domain record's own predicates and the expiry a purchase writes -/

theorem changeable_is_source (d : Domain) (h : Int) :
    changeable d h = Funcs.domainIsChangeable d.lastUpdate h := by
  unfold changeable Funcs.domainIsChangeable
  by_cases hc : h ≥ d.lastUpdate + 1 <;> simp [hc]

theorem expiredAt_is_source (d : Domain) (h : Int) :
    expiredAt d h = Funcs.domainIsExpired d.expire h := rfl

/-- the integer and boolean fields `ResetAfterSale` writes are the model's: the new expiry is the
    later of the old expiry and the current height, plus the blocks bought -/
theorem resetAfterSale_is_source (d : Domain) (buyer account : Addr) (n cur : Int) (sp : Int) :
    let r := resetAfterSale d buyer account n cur
    Funcs.domainResetAfterSale d.lastUpdate d.expire d.active d.onSale sp n cur =
      (r.active, r.expire, r.lastUpdate, r.onSale) := by
  unfold resetAfterSale Funcs.domainResetAfterSale
  by_cases hc : d.expire > cur <;> simp [hc]

/-- a purchase never shortens the time a name is held: the new expiry is at least the old one
    plus the blocks bought, and at least the current height plus the blocks bought -/
theorem purchase_expiry_lower_bounds (lu ex : Int) (a o : Bool) (sp n cur : Int) :
    (Funcs.domainResetAfterSale lu ex a o sp n cur).2.1 ≥ ex + n ∧
    (Funcs.domainResetAfterSale lu ex a o sp n cur).2.1 ≥ cur + n := by
  unfold Funcs.domainResetAfterSale
  by_cases hc : ex > cur <;> simp [hc] <;> omega

example : Funcs.calculateExpiry 1500 500 10 7 = (100, false) := by decide
example : Funcs.calculateExpiry 400 500 10 7 = (0, true) := by decide
example : Funcs.blocksFor 9223372036854775807 1 1 = (0, true) := by decide

end OLP.Props.C20
