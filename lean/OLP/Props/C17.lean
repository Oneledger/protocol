/-
  C17 — OLVM transactions keep one ledger and charge exactly the gas used.

  "An account's OLT balance is the same number whether read natively or through the EVM, before
  and after every transaction of either kind. An executed OLVM transaction, successful or
  reverted, debits the sender exactly gas used times gas price plus the value actually
  transferred, credits exactly gas used times gas price to the fee pool and the transferred value
  to the recipient, and raises the sender's nonce by exactly one; an OLVM transaction that fails
  its consensus pre-checks changes nothing."

  Model: OLP/Olvm/Model.lean (port of the keeper, the CommitStateDB object cache, TransitionDb, the
  outer layers of EVM.Call / EVM.create, runOLVM, ContractFeeHandling and the session rule; the
  interpreter's run is the parameter `VmOut`); `burnt`, `vmNet`, `effSum`, `noSuicide` stand at its end,
  `total` is the Ledger's.
  OLP/Olvm/Lemmas.lean defines `bought`, `started` (the state after `buyGas`, and with the nonce raised)
  and `Executed`, `Refused` (the two answers of `deliver_cases`; the proofs below name their fields).
  The model follows /repo HEAD: RemoveAccount leaves a zero balance record (da864f3, c90a103), the
  undo of a balance entry no longer leaves a dirty mark (d411c44), Validate refuses a missing chain
  id, a signature that is not 65 bytes long, a non-canonical payload or memo, a foreign envelope
  key, a transaction type or access list (d9b5b70, e1e2119, f332fc0).
  The standing hypothesis `s.cache = []` ("the EVM object cache is empty between transactions") is
  an invariant of every history (`step_keeps_cache_empty`, `run_keeps_cache_empty`), so it holds in every
  reachable state.
-/
import OLP.Olvm.Lemmas

namespace OLP.Props.C17
open OLP OLP.Ledger OLP.Olvm

/-- a well-formed transaction for the examples below: every decoded check passes -/
def okTx : Tx :=
  { sender := "a", to := some "t", nonce := 0, value := 0, gas := 21000, price := 1, nz := 0, z := 0,
    size := 110, memo := some 0, sigs := 1, sigOk := true, chainOk := true, senderOk := true,
    feeCurOk := true, amtCurOk := true, addrOk := true, chainNil := false, payloadCanon := true,
    signerKeyOk := true, typeOk := true, memoCanon := true }

/-! ## one ledger -/

/-- with an empty object cache the EVM reads the very record the native side reads -/
theorem one_ledger (s : St) (h : s.cache = []) (a : Addr) :
    evmBalance s a = nativeBalance s.w a :=
  (objOrNew_bal s a).symm.trans (objOrNew_of_empty h a).1

theorem evm_nonce_is_keeper_record (s : St) (h : s.cache = []) (a : Addr) :
    evmNonce s a = keeperNonce s.w a :=
  (objOrNew_nonce s a).symm.trans (objOrNew_of_empty h a).2.1

/-- every kind of step — any native transaction or block hook (arbitrary rewrite of balances and
    fee pool), an OLVM DeliverTx with any interpreter behaviour, an OLVM CheckTx, the end of a
    block — leaves the object cache empty -/
theorem step_keeps_cache_empty (s : St) (st : Step) (h : s.cache = []) : (step s st).cache = [] := by
  cases st with
  | native nb np => exact h
  | olvm env tx vm =>
    cases hd : deliverOlvm env s tx vm with
    | mk s' r =>
      show (deliverOlvm env s tx vm).1.cache = []
      rw [hd]
      by_cases hc : r.code = 0
      · obtain ⟨s1, er, -, rfl, -⟩ := (deliver_cases hd).1 hc
        rfl
      · rcases ((deliver_cases hd).2 hc).state with rfl | rfl
        · exact h
        · rfl
  | check env tx =>
    simp only [step, checkOlvm]
    split <;> exact h
  | endBlock => rfl

theorem run_keeps_cache_empty (s : St) (steps : List Step) (h : s.cache = []) : (run s steps).cache = [] :=
  List.foldlRecOn steps step h fun x hx st _ => step_keeps_cache_empty x st hx

/-- ONE LEDGER, for every history: after any mix of native and OLVM transactions in any order,
    within and across blocks, both views of every account agree (the statement at every
    intermediate point is this theorem for the prefix) -/
theorem one_ledger_history (s : St) (h : s.cache = []) (steps : List Step) (a : Addr) :
    evmBalance (run s steps) a = nativeBalance (run s steps).w a ∧
    evmNonce (run s steps) a = keeperNonce (run s steps).w a :=
  have hc := run_keeps_cache_empty s steps h
  ⟨one_ledger _ hc a, evm_nonce_is_keeper_record _ hc a⟩

/-- the invariant is needed: an object left in the cache makes the views differ as soon as a native
    transaction credits the account (what `Finalise` / `Reset` dropping the cache prevents) -/
theorem stale_cache_breaks_one_ledger :
    let s : St := ⟨⟨[("a", 5)], [], 0⟩, [("a", ⟨5, 0, false, false, false⟩)]⟩
    let s' := step s (.native [("a", 9)] 0)
    evmBalance s "a" = nativeBalance s.w "a" ∧ evmBalance s' "a" = 5 ∧ nativeBalance s'.w "a" = 9 := by
  decide

/-! ## an executed transaction -/

/-- the fee pool is credited exactly gas used × gas price -/
theorem feepool_credit_exact (env : Env) (s s' : St) (tx : Tx) (vm : VmOut) (r : Resp)
    (h : deliverOlvm env s tx vm = (s', r)) (hc : r.code = 0) :
    s'.w.pool = s.w.pool + r.gasUsed * tx.price := by
  obtain ⟨s1, er, ex, rfl, rfl⟩ := (deliver_cases h).1 hc
  simp only [finalise_pool, transitionDb_w ex.run]
  rw [Int.mul_comm]

theorem gas_used_within_limit (env : Env) (s s' : St) (tx : Tx) (vm : VmOut) (r : Resp)
    (h : deliverOlvm env s tx vm = (s', r)) (hc : r.code = 0) :
    0 < r.gasUsed ∧ r.gasUsed ≤ tx.gas ∧ r.gasWanted = tx.gas := by
  obtain ⟨s1, er, ex, -, rfl⟩ := (deliver_cases h).1 hc
  exact ⟨Int.natCast_pos.mpr (Nat.pos_of_ne_zero ex.used_ne), ex.used_le, rfl⟩

theorem ne_target {env : Env} {tx : Tx} {a : Addr} (hto : tx.to ≠ some a) (hnew : a ≠ env.newAddr) :
    a ≠ tx.to.getD env.newAddr := by
  cases ht : tx.to with
  | none => exact hnew
  | some t => exact fun e => hto (e ▸ ht)

/-- EVERY ACCOUNT that no balance call of the interpreter names, also when sender and recipient
    coincide (for a self-send the sender's formula below is false: the four theorems below exclude it
    and are cases of this one) -/
theorem account_exact {env : Env} {s s' : St} {tx : Tx} {vm : VmOut} {r : Resp} {a : Addr}
    (h0 : s.cache = []) (heff : ∀ e ∈ vm.effs, e.addr ≠ a)
    (h : deliverOlvm env s tx vm = (s', r)) (hc : r.code = 0) :
    nativeBalance s'.w a = nativeBalance s.w a
      - (if a = tx.sender then r.gasUsed * tx.price + (if r.stage = .success then tx.value else 0) else 0)
      + (if a = tx.to.getD env.newAddr then (if r.stage = .success then tx.value else 0) else 0) := by
  obtain ⟨s1, er, ex, rfl, rfl⟩ := (deliver_cases h).1 hc
  obtain ⟨hwf, hm⟩ := transitionDb_sound h0 ex.run
  obtain ⟨hs, hb⟩ := transitionDb_account h0 heff ex.run ex.used_ne
  have hfin := finalise_bal hwf hm a
  rw [hs, hb, (objOrNew_of_empty h0 a).1] at hfin
  cases hf : er.failed <;> rw [hf] at hfin <;> exact hfin

/-- SENDER: an executed transaction, successful or reverted, debits the sender exactly
    gas used × gas price plus the value actually transferred (the whole value on success, nothing
    when the interpreter ended in an error). Stated for transactions whose code does not pay the
    sender back (`heff`) and that are not sent to self. -/
theorem sender_debit_exact (env : Env) (s s' : St) (tx : Tx) (vm : VmOut) (r : Resp)
    (h0 : s.cache = []) (hto : tx.to ≠ some tx.sender) (hnew : tx.sender ≠ env.newAddr)
    (heff : ∀ e ∈ vm.effs, e.addr ≠ tx.sender)
    (h : deliverOlvm env s tx vm = (s', r)) (hc : r.code = 0) :
    nativeBalance s'.w tx.sender =
      nativeBalance s.w tx.sender - r.gasUsed * tx.price - (if r.stage = .success then tx.value else 0) := by
  rw [account_exact h0 heff h hc, if_pos rfl, if_neg (ne_target hto hnew)]
  omega

/-- NONCE: an executed transaction, successful or reverted, whatever nonce it carried, raises the
    sender's nonce by exactly one -/
theorem nonce_plus_one (env : Env) (s s' : St) (tx : Tx) (vm : VmOut) (r : Resp)
    (h0 : s.cache = []) (hto : tx.to ≠ some tx.sender) (hnew : tx.sender ≠ env.newAddr)
    (heff : ∀ e ∈ vm.effs, e.addr ≠ tx.sender)
    (h : deliverOlvm env s tx vm = (s', r)) (hc : r.code = 0) :
    keeperNonce s'.w tx.sender = keeperNonce s.w tx.sender + 1 ∧
    evmNonce s' tx.sender = evmNonce s tx.sender + 1 := by
  obtain ⟨s1, er, ex, rfl, -⟩ := (deliver_cases h).1 hc
  obtain ⟨hwf, hm⟩ := transitionDb_sound h0 ex.run
  have hn := transitionDb_nonce h0 (ne_target hto hnew) heff ex.run
  -- an object with a nonce is not empty
  have hg : gone (objOrNew s1 tx.sender) = false := by
    simp [gone, (transitionDb_account h0 heff ex.run ex.used_ne).1, isEmpty, hn]
  have key : keeperNonce (finalise s1).w tx.sender = keeperNonce s.w tx.sender + 1 := by
    rw [finalise_nonce hwf hm tx.sender, hg, hn]; rfl
  rw [evm_nonce_is_keeper_record _ rfl, evm_nonce_is_keeper_record s h0]
  exact ⟨key, key⟩

/-- RECIPIENT: an executed call credits the recipient exactly the transferred value (the whole value
    on success, nothing when the interpreter ended in an error — including the EIP-158 case of a
    zero-value call to a missing account). Stated for recipients whose balance the code itself does
    not move (`heff`: plain accounts, contracts that keep what they get). -/
theorem recipient_credit_exact (env : Env) (s s' : St) (tx : Tx) (vm : VmOut) (r : Resp) (t : Addr)
    (h0 : s.cache = []) (hto : tx.to = some t) (hat : t ≠ tx.sender)
    (heff : ∀ e ∈ vm.effs, e.addr ≠ t)
    (h : deliverOlvm env s tx vm = (s', r)) (hc : r.code = 0) :
    nativeBalance s'.w t = nativeBalance s.w t + (if r.stage = .success then tx.value else 0) := by
  rw [account_exact h0 heff h hc, if_neg hat, hto, Option.getD_some, if_pos rfl]
  omega

/-- CREATED CONTRACT: an executed creation credits the new contract address exactly the transferred
    value on top of whatever the address already held (pre-funded addresses keep their balance) -/
theorem created_contract_credit_exact (env : Env) (s s' : St) (tx : Tx) (vm : VmOut) (r : Resp)
    (h0 : s.cache = []) (hto : tx.to = none) (hat : env.newAddr ≠ tx.sender)
    (heff : ∀ e ∈ vm.effs, e.addr ≠ env.newAddr)
    (h : deliverOlvm env s tx vm = (s', r)) (hc : r.code = 0) :
    nativeBalance s'.w env.newAddr =
      nativeBalance s.w env.newAddr + (if r.stage = .success then tx.value else 0) := by
  rw [account_exact h0 heff h hc, if_neg hat, hto, Option.getD_none, if_pos rfl]
  omega

/-- NOBODY ELSE: an account that is neither the sender, nor the recipient / new contract, nor named
    by a balance call of the interpreter keeps its balance -/
theorem bystander_untouched (env : Env) (s s' : St) (tx : Tx) (vm : VmOut) (r : Resp) (c : Addr)
    (h0 : s.cache = []) (hcs : c ≠ tx.sender) (hct : tx.to ≠ some c) (hcn : c ≠ env.newAddr)
    (heff : ∀ e ∈ vm.effs, e.addr ≠ c)
    (h : deliverOlvm env s tx vm = (s', r)) : nativeBalance s'.w c = nativeBalance s.w c := by
  by_cases hc : r.code = 0
  · rw [account_exact h0 heff h hc, if_neg hcs, if_neg (ne_target hct hcn)]
    omega
  · rcases ((deliver_cases h).2 hc).state with rfl | rfl <;> rfl

/-! ## a refused transaction -/

/-- an OLVM transaction that fails `Validate` or a consensus pre-check of `TransitionDb`
    (or whose fee step fails) changes nothing: not a record, not the object cache — whatever it
    did to the sender's working copy before failing is discarded with the session -/
theorem precheck_failure_noop (env : Env) (s s' : St) (tx : Tx) (vm : VmOut) (r : Resp)
    (h0 : s.cache = []) (h : deliverOlvm env s tx vm = (s', r)) (hc : r.code ≠ 0) : s' = s := by
  rcases ((deliver_cases h).2 hc).state with rfl | rfl
  · rfl
  · cases s; cases h0; rfl

/-- a refused transaction reports no gas used (the one exception is the gas-overflow answer of the
    fee step: it takes a negative `Fee.Gas` whose wrap `gasU` is within the block gas limit, and no
    int64 is one) -/
theorem precheck_failure_reports_no_gas (env : Env) (s s' : St) (tx : Tx) (vm : VmOut) (r : Resp)
    (h : deliverOlvm env s tx vm = (s', r)) (hc : r.code ≠ 0) (hs : r.stage ≠ .gasOverflow) :
    r.gasUsed = 0 :=
  ((deliver_cases h).2 hc).no_gas hs

/-- CheckTx of an OLVM transaction never changes anything (`ProcessCheck` does not execute) -/
theorem checktx_changes_nothing (env : Env) (s : St) (tx : Tx) : (checkOlvm env s tx).1 = s := by
  unfold checkOlvm; split <;> rfl

/-! ## nothing created; lost only what a deleted account still holds

  History of this clause: until da864f3 `RemoveAccount` deleted the keeper record only, so a
  selfdestructed contract kept its balance record and value was CREATED (S8, former KF-C17-1).
  The first repair wrote the object's working balance; c90a103 writes zero: a removed account is
  gone with whatever it holds, so what a contract is paid AFTER its SELFDESTRUCT in the same
  transaction is burnt, as in go-ethereum. The clause therefore reads: the total never grows, and
  it shrinks exactly by `burnt` — what the objects `Finalise` drops still hold. Both scenarios
  (create / fund / trigger; pay-the-dead) are replayed on the implementation on every run (scripted
  cases 0 and 3). -/

/-- VALUE ACCOUNTING, exact, for every state, transaction and interpreter behaviour — executed,
    reverted or refused; inner transfers and SELFDESTRUCT included: the sum of all OLT balance
    records plus the fee pool changes by exactly minus the burnt amount. Hypotheses: the empty
    object cache (an invariant of every history) and the contract of the interpreter itself: the
    balance calls it makes on the state it is handed (`vmInput`) net to zero (`vmNet`): an inner
    transfer credits what it debits, SELFDESTRUCT pays the beneficiary exactly what `Suicide` then
    clears. -/
theorem olvm_value_accounting (env : Env) (s s' : St) (tx : Tx) (vm : VmOut) (r : Resp)
    (h0 : s.cache = []) (hz : vmNet (vmInput env s tx) vm.effs = 0)
    (h : deliverOlvm env s tx vm = (s', r)) :
    total s'.w.bal + s'.w.pool = total s.w.bal + s.w.pool - burnt env s tx vm := by
  by_cases hc : r.code = 0
  · obtain ⟨s1, er, ex, rfl, -⟩ := (deliver_cases h).1 hc
    obtain ⟨hwf, hm⟩ := transitionDb_sound h0 ex.run
    rw [ex.burnt_eq]
    show total (finalise s1).w.bal + ((finalise s1).w.pool + tx.price * er.usedGas) = _
    rw [total_finalise hwf hm, finalise_pool, transitionDb_w ex.run,
      pend_transitionDb h0 hz ex.run ex.used_ne, Int.mul_comm]
    omega
  · have rf := (deliver_cases h).2 hc
    rw [rf.burnt_eq]
    rcases rf.state with rfl | rfl <;> simp

/-- VALUE CONSERVATION: when no deleted object holds a balance (`burnt = 0`: every run in which no
    contract is paid after its own SELFDESTRUCT), the total is unchanged -/
theorem olvm_conserves_value (env : Env) (s s' : St) (tx : Tx) (vm : VmOut) (r : Resp)
    (h0 : s.cache = []) (hz : vmNet (vmInput env s tx) vm.effs = 0) (hb : burnt env s tx vm = 0)
    (h : deliverOlvm env s tx vm = (s', r)) :
    total s'.w.bal + s'.w.pool = total s.w.bal + s.w.pool := by
  rw [olvm_value_accounting env s s' tx vm r h0 hz h, hb]; omega

/-- THE TOTAL NEVER GROWS: in general `burnt ≥ 0`, given two more facts about the interpreter: its
    credits are non-negative amounts and the sender (an account without code) does not
    selfdestruct -/
theorem olvm_total_never_grows (env : Env) (s s' : St) (tx : Tx) (vm : VmOut) (r : Resp)
    (h0 : s.cache = []) (hz : vmNet (vmInput env s tx) vm.effs = 0)
    (hadd : ∀ a n, Eff.add a n ∈ vm.effs → 0 ≤ n) (hsnd : Eff.suicide tx.sender ∉ vm.effs)
    (h : deliverOlvm env s tx vm = (s', r)) :
    0 ≤ burnt env s tx vm ∧ total s'.w.bal + s'.w.pool ≤ total s.w.bal + s.w.pool := by
  have hacc := olvm_value_accounting env s s' tx vm r h0 hz h
  have hb : 0 ≤ burnt env s tx vm := by
    by_cases hc : r.code = 0
    · obtain ⟨s1, er, ex, -⟩ := (deliver_cases h).1 hc
      rw [ex.burnt_eq]
      exact burntAt_nonneg (transitionDb_sound h0 ex.run).1 (suiOk_transitionDb h0 hadd hsnd ex.run)
    · rw [((deliver_cases h).2 hc).burnt_eq]; omega
  exact ⟨hb, by omega⟩

theorem nothing_burnt_without_selfdestruct (env : Env) (s s' : St) (tx : Tx) (vm : VmOut) (r : Resp)
    (h0 : s.cache = []) (hn : noSuicide vm.effs = true)
    (h : deliverOlvm env s tx vm = (s', r)) : burnt env s tx vm = 0 := by
  by_cases hc : r.code = 0
  · obtain ⟨s1, er, ex, -⟩ := (deliver_cases h).1 hc
    rw [ex.burnt_eq]
    exact burntAt_zero_of_noSui (transitionDb_sound h0 ex.run).1 (noSui_transitionDb h0 hn ex.run)
  · exact ((deliver_cases h).2 hc).burnt_eq

/-- conservation in the state-independent form, for every run without SELFDESTRUCT: the credits of
    the interpreter's calls equal its debits -/
theorem olvm_conserves_value_balanced_effs (env : Env) (s s' : St) (tx : Tx) (vm : VmOut) (r : Resp)
    (h0 : s.cache = []) (hn : noSuicide vm.effs = true) (hz : effSum vm.effs = 0)
    (h : deliverOlvm env s tx vm = (s', r)) :
    total s'.w.bal + s'.w.pool = total s.w.bal + s.w.pool :=
  olvm_conserves_value env s s' tx vm r h0 (by rw [vmNet_noSuicide _ hn, hz])
    (nothing_burnt_without_selfdestruct env s s' tx vm r h0 hn h) h

/-- … in particular, unconditionally on the interpreter, for every transaction during which no
    balance call of the interpreter survives: all plain transfers, every reverted or out-of-gas
    run, creations and calls of code that moves no value itself -/
theorem olvm_conserves_value_no_inner_moves (env : Env) (s s' : St) (tx : Tx) (vm : VmOut) (r : Resp)
    (h0 : s.cache = []) (he : vm.effs = [])
    (h : deliverOlvm env s tx vm = (s', r)) :
    total s'.w.bal + s'.w.pool = total s.w.bal + s.w.pool :=
  olvm_conserves_value_balanced_effs env s s' tx vm r h0 (by rw [he]; rfl) (by rw [he]; rfl) h

def cxEnv : Env := ⟨true, 1, 1000000, "n", false, 1000000⟩
def cxTx : Tx := { okTx with to := some "c", value := 7, gas := 30000, nz := 1 }
/-- `c` is a contract holding 5; called with value 7 it pays 12 to `b` and selfdestructs -/
def cxState : St := ⟨⟨[("a", 100000), ("c", 5)], [("c", ⟨1, true⟩)], 0⟩, []⟩
def cxVm : VmOut := ⟨1000, 0, false, false, [.add "b" 12, .suicide "c"]⟩

/-- SELFDESTRUCT (the former counterexample to conservation, now a regression example): the
    hypotheses of `olvm_conserves_value` hold, the beneficiary gets everything, the contract's record
    is 0, its keeper record is gone, nothing is burnt and the total is unchanged -/
theorem selfdestruct_conserves_value :
    let out := deliverOlvm cxEnv cxState cxTx cxVm
    vmNet (vmInput cxEnv cxState cxTx) cxVm.effs = 0 ∧ burnt cxEnv cxState cxTx cxVm = 0 ∧
    out.2.code = 0 ∧ out.2.stage = .success ∧
    nativeBalance out.1.w "b" = 12 ∧ nativeBalance out.1.w "c" = 0 ∧
    alookup "c" out.1.w.keeper = none ∧
    total out.1.w.bal + out.1.w.pool = total cxState.w.bal + cxState.w.pool := by
  decide +kernel

/-- PAY THE DEAD: contract `p` (holding 3) is called with value 7, calls `c` (holding 5), which pays
    its 5 to `b` and selfdestructs, and then pays `c` 1: `c` is deleted with that 1 — the record is 0,
    the keeper record gone, exactly 1 is burnt, the total shrinks by 1 and does not grow -/
theorem pay_the_dead_burns_exactly_that :
    let tx : Tx := { okTx with to := some "p", value := 7, gas := 90000 }
    let vm : VmOut := ⟨1000, 0, false, false,
      [.sub "p" 0, .add "c" 0, .add "b" 5, .suicide "c", .sub "p" 1, .add "c" 1]⟩
    let s : St := ⟨⟨[("a", 100000), ("p", 3), ("c", 5)], [("p", ⟨1, true⟩), ("c", ⟨1, true⟩)], 0⟩, []⟩
    let out := deliverOlvm cxEnv s tx vm
    vmNet (vmInput cxEnv s tx) vm.effs = 0 ∧ burnt cxEnv s tx vm = 1 ∧ out.2.code = 0 ∧
    nativeBalance out.1.w "p" = 9 ∧ nativeBalance out.1.w "b" = 5 ∧ nativeBalance out.1.w "c" = 0 ∧
    alookup "c" out.1.w.keeper = none ∧
    total out.1.w.bal + out.1.w.pool = total s.w.bal + s.w.pool - 1 := by
  decide +kernel

/-- S12 (outside the statement of C17, which only asks for "+1"; relevant to C05): only
    `stNonce > msgNonce` is refused, so a transaction carrying nonce state+2 executes and leaves
    nonce state+1, and a DIFFERENT transaction carrying the same nonce executes afterwards: the
    nonce of an executed OLVM transaction is not unique per sender. Witness replayed on the
    implementation by scripted case 1 (counters `s12_*`). -/
theorem nonce_above_state_executes_and_can_be_reused :
    let tx1 : Tx := { okTx with nonce := 2, value := 11, memo := some 2 }
    let tx2 : Tx := { tx1 with value := 22 }
    let vm : VmOut := ⟨0, 0, false, false, []⟩
    let s0 : St := ⟨⟨[("a", 100000)], [], 0⟩, []⟩
    let o1 := deliverOlvm cxEnv s0 tx1 vm
    let o2 := deliverOlvm cxEnv o1.1 tx2 vm
    keeperNonce s0.w "a" = 0 ∧ o1.2.code = 0 ∧ keeperNonce o1.1.w "a" = 1 ∧
    o2.2.code = 0 ∧ keeperNonce o2.1.w "a" = 2 ∧ nativeBalance o2.1.w "t" = 33 := by
  decide +kernel

/-! ## non-vacuity: the hypotheses of the theorems above are met by concrete, non-trivial runs -/

/-- a successful plain transfer: every hypothesis of `sender_debit_exact`, `recipient_credit_exact`,
    `nonce_plus_one`, `feepool_credit_exact`, `bystander_untouched` holds, and the numbers are the
    expected ones (gas used 21000 at price 3) -/
example :
    let env : Env := ⟨true, 1, 1000000, "n", false, 1000000⟩
    let tx : Tx := { okTx with nonce := 4, value := 500, gas := 25000, price := 3, memo := some 4 }
    let vm : VmOut := ⟨0, 0, false, false, []⟩
    let s : St := ⟨⟨[("a", 100000), ("t", 9), ("z", 1)], [("a", ⟨4, false⟩)], 40⟩, []⟩
    let out := deliverOlvm env s tx vm
    s.cache = [] ∧ tx.to ≠ some tx.sender ∧ tx.sender ≠ env.newAddr ∧ (∀ e ∈ vm.effs, e.addr ≠ tx.sender) ∧
    out.2.code = 0 ∧ out.2.stage = .success ∧ out.2.gasUsed = 21000 ∧
    nativeBalance out.1.w "a" = 100000 - 21000 * 3 - 500 ∧ nativeBalance out.1.w "t" = 509 ∧
    out.1.w.pool = 40 + 21000 * 3 ∧ keeperNonce out.1.w "a" = 5 ∧ nativeBalance out.1.w "z" = 1 := by
  decide +kernel

/-- an executed but reverted call with a refund-free out-of-gas: all gas is charged, no value moves,
    the nonce still goes up -/
example :
    let env : Env := ⟨true, 1, 1000000, "n", false, 1000000⟩
    let tx : Tx := { okTx with to := some "c", value := 500, gas := 30000, price := 2, nz := 1 }
    let vm : VmOut := ⟨0, 0, true, false, []⟩
    let s : St := ⟨⟨[("a", 100000)], [("c", ⟨1, true⟩)], 0⟩, []⟩
    let out := deliverOlvm env s tx vm
    out.2.code = 0 ∧ out.2.stage = .reverted ∧ out.2.gasUsed = 30000 ∧
    nativeBalance out.1.w "a" = 100000 - 30000 * 2 ∧ nativeBalance out.1.w "c" = 0 ∧
    out.1.w.pool = 60000 ∧ keeperNonce out.1.w "a" = 1 := by
  decide

/-- a creation at a pre-funded address with a refund: gas used = 60000 − (5000 + min(55000/3, 4800)) -/
example :
    let env : Env := ⟨true, 1, 1000000, "n", false, 1000000⟩
    let tx : Tx := { okTx with to := none, value := 7, gas := 60000, nz := 10, z := 2, size := 130 }
    let vm : VmOut := ⟨5000, 4800, false, true, []⟩
    let s : St := ⟨⟨[("a", 100000), ("n", 3)], [], 0⟩, []⟩
    let out := deliverOlvm env s tx vm
    tx.to = none ∧ env.newAddr ≠ tx.sender ∧ out.2.code = 0 ∧ out.2.stage = .success ∧ out.2.gasUsed = 50200 ∧
    nativeBalance out.1.w "n" = 10 ∧ alookup "n" out.1.w.keeper = some ⟨1, true⟩ ∧
    nativeBalance out.1.w "a" = 100000 - 50200 - 7 := by
  decide

/-- a forwarding contract: the hypothesis of `olvm_conserves_value` holds for a run with inner
    value movement (contract `c` passes the 7 it receives on to `t`), and the total is unchanged -/
example :
    let env : Env := ⟨true, 1, 1000000, "n", false, 1000000⟩
    let tx : Tx := { okTx with to := some "c", value := 7, gas := 90000 }
    let vm : VmOut := ⟨20000, 0, false, false, [.sub "c" 7, .add "t" 7]⟩
    let s : St := ⟨⟨[("a", 100000), ("c", 5)], [("c", ⟨1, true⟩)], 0⟩, []⟩
    let out := deliverOlvm env s tx vm
    s.cache = [] ∧ vmNet (vmInput env s tx) vm.effs = 0 ∧ out.2.code = 0 ∧
    nativeBalance out.1.w "t" = 7 ∧ nativeBalance out.1.w "c" = 5 ∧
    total out.1.w.bal + out.1.w.pool = total s.w.bal + s.w.pool := by
  decide +kernel

/-- refused transactions of both kinds (Validate: nonce too low; TransitionDb: block gas pool) meet
    the hypothesis of `precheck_failure_noop` -/
example :
    let tx : Tx := { okTx with nonce := 1, value := 5, memo := some 1 }
    let vm : VmOut := ⟨0, 0, false, false, []⟩
    let s : St := ⟨⟨[("a", 100000)], [("a", ⟨2, false⟩)], 0⟩, []⟩
    (deliverOlvm ⟨true, 1, 1000000, "n", false, 1000000⟩ s tx vm).2.stage = .invalid .nonceLow ∧
    (deliverOlvm ⟨true, 1, 20000, "n", false, 20000⟩ s { tx with nonce := 2, memo := some 2 } vm).2.stage = .consensus .gasPool ∧
    (deliverOlvm ⟨true, 1, 20000, "n", false, 20000⟩ s { tx with nonce := 2, memo := some 2 } vm).1 = s := by
  decide

/-- the inputs that used to panic in `validateSigner` and the spellings that used to be admitted
    although they are outside the signature are refused like any other invalid transaction, in the
    order of the Go code, and change nothing -/
example :
    let tx : Tx := { okTx with value := 5 }
    let vm : VmOut := ⟨0, 0, false, false, []⟩
    let s : St := ⟨⟨[("a", 100000)], [], 0⟩, []⟩
    (deliverOlvm cxEnv s tx vm).2.code = 0 ∧
    (deliverOlvm cxEnv s { tx with sigOk := false } vm).2.stage = .invalid .sigBad ∧
    (deliverOlvm cxEnv s { tx with chainNil := true, chainOk := false, sigOk := false } vm).2.stage = .invalid .chainId ∧
    (deliverOlvm cxEnv s { tx with payloadCanon := false, sigs := 2 } vm).2.stage = .invalid .payloadEnc ∧
    (deliverOlvm cxEnv s { tx with signerKeyOk := false, typeOk := false } vm).2.stage = .invalid .signerKey ∧
    (deliverOlvm cxEnv s { tx with typeOk := false } vm).2.stage = .invalid .txType ∧
    (deliverOlvm cxEnv s { tx with memoCanon := false } vm).2.stage = .invalid .memoNonce ∧
    (deliverOlvm cxEnv s { tx with memoCanon := false } vm).1 = s := by
  decide +kernel

/-- the block gas meter: a transaction that arrives on a shut meter cannot read its sender and is
    refused for lack of funds; one whose contract gas takes the meter to its limit fails in the fee
    step; both leave no trace -/
example :
    let tx : Tx := { okTx with value := 5 }
    let vm : VmOut := ⟨0, 0, false, false, []⟩
    let s : St := ⟨⟨[("a", 100000)], [], 7⟩, []⟩
    (deliverOlvm ⟨true, 1, 1000000, "n", false, 1000000⟩ s tx vm).2.code = 0 ∧
    (deliverOlvm ⟨true, 1, 0, "n", true, 0⟩ s tx vm).2.stage = .invalid .funds ∧
    (deliverOlvm ⟨true, 1, 21000, "n", false, 20900⟩ s tx vm).2.stage = .feeRefused ∧
    (deliverOlvm ⟨true, 1, 21000, "n", false, 20900⟩ s tx vm).1 = s ∧
    (checkOlvm ⟨true, 1, 0, "n", true, 0⟩ s tx).2 = 1 := by
  decide

end OLP.Props.C17
