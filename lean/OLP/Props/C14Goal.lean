import OLP.Gov.Lemmas

/-!
# C14 — "then voting once its goal is met before the funding deadline" (the IF direction)

`voting_starts_only_at_goal_before_deadline` (Props/C14.lean) says that voting starts ONLY through
a contribution that reaches the goal before the deadline. This file has the other direction, the
one seed C14-funds-summed-from-committed-records broke: an ACCEPTED contribution that takes the
escrow to the goal DOES start the vote, in the same transaction, with the deadline counted from
this block and the validators of this block as the electorate — a proposal cannot sit in the
funding stage with its goal met. (The monitor `goal-met-but-still-funding` of the governance engine
evaluates the same predicate on the implementation.)
-/

namespace OLP.Props.C14

open OLP OLP.Gov OLP.Ledger

theorem fund_reaching_goal_starts_voting (E : Env) (s s' : St) (pid : PID) (f : Addr) (v fee : Int) (p : Proposal)
    (ha : (s.item pid).active = some p) (hf : p.status = .funding)
    (hg : v + (s.item pid).total ≥ p.fundingGoal)
    (h : runTx E s (.fund pid f v fee) = .ok s') :
    ∃ p', (s'.item pid).active = some p' ∧ p'.status = .voting ∧
      p'.votingDeadline = s.height + (s.opts.byType p.ptype).votingDeadline ∧
      (s'.item pid).total = (s.item pid).total + v ∧
      (s'.item pid).votes = snapshot (s.item pid).votes s.vals := by
  obtain ⟨_, h⟩ := of_guard h
  obtain ⟨s1, b, h1, _, rfl⟩ := withFee_ok h
  obtain ⟨p0, b1, ha0, _, _, _, hcase⟩ := runFund_ok h1
  cases ha.symm.trans ha0
  rcases hcase with ⟨hng, _⟩ | ⟨_, rfl⟩
  · exact absurd hg hng
  · rw [item_of_upsert (s := s) rfl, if_pos rfl]
    exact ⟨{ p with status := .voting, votingDeadline := s.height + (s.opts.byType p.ptype).votingDeadline },
      by simp, rfl, rfl, by simp, by simp⟩

/-- the contrapositive the monitor uses: after an accepted contribution a proposal that is still
    in the funding stage has an escrow below its goal -/
theorem still_funding_means_below_goal (E : Env) (s s' : St) (pid : PID) (f : Addr) (v fee : Int) (p p' : Proposal)
    (ha : (s.item pid).active = some p) (hf : p.status = .funding)
    (h : runTx E s (.fund pid f v fee) = .ok s')
    (ha' : (s'.item pid).active = some p') (hf' : p'.status = .funding) :
    v + (s.item pid).total < p.fundingGoal := by
  by_cases hg : v + (s.item pid).total ≥ p.fundingGoal
  · obtain ⟨q, hq, hv, _⟩ := fund_reaching_goal_starts_voting E s s' pid f v fee p ha hf hg h
    rw [hq] at ha'; injection ha' with ha'; subst ha'; rw [hv] at hf'; cases hf'
  · omega

end OLP.Props.C14
