/-
  C01 — obligations over the REGENERATED fact tables (tie T3): map iteration order and
  node-local environment uses on the consensus paths are exactly the classified ones.
-/
import OLP.Shell.Expect

namespace OLP.Props.C01.Facts
open OLP.Expect

/-- no `range` over a Go map writes state in iteration order -/
theorem no_unsorted_writing_range : unsortedWritingRanges OLP.Gen.mapRanges = unsortedWriting := by decide +kernel

/-- every map range in the consensus packages is one of the classified rows -/
theorem map_ranges_as_classified : OLP.Gen.mapRanges = mapRanges := by rfl

/-- every use of clock / randomness / uuid / process environment / node identity / witness flag
    in the consensus packages is one of the classified rows -/
theorem env_uses_as_classified : OLP.Gen.envUses = envUses := by rfl

end OLP.Props.C01.Facts
