/-
  C02 / C03 on the external bid application (external_apps/bid): no value creation, no unauthorised
  debit, exact refunds and payouts, a conversation ends once.

  All statements are about the executable model `OLP.Bid` (OLP/Bid/Model.lean), a port of
  bid_action/*.go and bid_block_func/bid_block_func.go which the `bidm` correspondence engine
  compares with the real handlers on every bid DeliverTx, every EndBlock run of the block function
  and every BeginBlock queue of every generated history (decoded pre-state + operation -> result
  class + post-state).  The words of the statements (`total`, `holdings`, `transfer`, `dealOf`, `Same`, …) are the
  last section of Model.lean; `Op.refunds` is defined in OLP/Bid/Lemmas.lean.

  The theorems assume `WF s` (Model.lean).  It holds of the empty store (`bid_wf_empty`) and is
  preserved by every step (`bid_wf_step`), so it holds in every reachable state; the engine's monitor
  checks the same shape on every observed state of the implementation.

  (f), "a conversation ends once", is NOT a clause of C02 or C03 (no value moves by it) and is false
  of the code as written: it is stated with the hypothesis the code forces, beside a proved
  counterexample.  (a)–(e) hold at full strength.
-/
import OLP.Bid.Lemmas

namespace OLP.Props.C02
open OLP OLP.Bid

/-! ## fixtures for the non-vacuity examples and the counterexample -/

def bidA : Addr := "aaaaaaaaaaaaaaaaaaaaaaaaaaaaaaaaaaaaaaaa"
def bidB : Addr := "bbbbbbbbbbbbbbbbbbbbbbbbbbbbbbbbbbbbbbbb"
def bidC : Addr := "cccccccccccccccccccccccccccccccccccccccc"
def bidX : ConvId := "1111111111111111111111111111111111111111111111111111111111111111"
def bidY : ConvId := "2222222222222222222222222222222222222222222222222222222222222222"
def bidZ : ConvId := "3333333333333333333333333333333333333333333333333333333333333333"

/-- validly signed by `payer`; every transaction pays the fee 3 · 2 = 6 -/
def bidEnv (payer : Addr) (now : Int) : Env :=
  { height := 5, version := 4, now := now, feePrice := 3, fee := .used 2, payer := payer, sigValid := true, minFee := 1 }

def bidFoo : Ons.Domain :=
  { owner := bidA, benef := bidA, creation := 1, lastUpdate := 1, expire := 100, active := true, onSale := false,
    salePrice := none, uri := "" }

/-- A owns foo.ol and its sub name x.foo.ol; A, B, C hold 1000, 1000, 50 -/
def bidS0 : St :=
  { St.empty with bals := [(bidA, 1000), (bidB, 1000), (bidC, 50)],
                  doms := [(["foo", "ol"], bidFoo), (["x", "foo", "ol"], bidFoo)] }

/-- B offers 100 for foo.ol (conversation X, deadline 500), C offers 20 for the example asset "ex" of A (Y) -/
def bidOpen : List (Env × Op) :=
  [ (bidEnv bidB 10, .create "" bidA "foo.ol" assetOns bidB 100 "OLT" 500 bidX),
    (bidEnv bidC 10, .create "" bidA "ex" assetExample bidC 20 "OLT" 15 bidY),
    (bidEnv bidA 10, .commit) ]

def bidS1 : St := run bidS0 bidOpen

/-- … and A answers B with a counter offer of 300 -/
def bidS2 : St := (step (bidEnv bidA 11) bidS1 (.counter bidX bidA 300 "OLT")).2

deriving instance DecidableEq for St

/-- `bidS1` as a value, so that the examples need not run `bidOpen` each for itself (slow in the kernel: `Validate`
    measures the length of every address) -/
theorem bidS1_eq : bidS1 =
    { active := [(bidX, ⟨bidA, "foo.ol", assetOns, bidB, 500⟩), (bidY, ⟨bidA, "ex", assetExample, bidC, 15⟩)],
      committed := [bidX, bidY], closed := [],
      aoffers := [(bidX, ⟨bidX, tBid, 10, 0, 0, 100, aLocked⟩), (bidY, ⟨bidY, tBid, 10, 0, 0, 20, aLocked⟩)],
      ioffers := [], doms := bidS0.doms, bals := [(bidA, 1000), (bidB, 894), (bidC, 24)], pool := 12 } := by
  decide +kernel

theorem bidS2_eq : step (bidEnv bidA 11) bidS1 (.counter bidX bidA 300 "OLT") = (.ok,
    { bidS1 with
      aoffers := [(bidY, ⟨bidY, tBid, 10, 0, 0, 20, aLocked⟩), (bidX, ⟨bidX, tCounter, 11, 0, 0, 300, aCounter⟩)],
      ioffers := [((bidX, tBid, 10), ⟨bidX, tBid, 10, 0, 11, 100, aUnlocked⟩)],
      bals := [(bidA, 994), (bidB, 994), (bidC, 24)], pool := 18 }) := by
  rw [bidS1_eq]; decide +kernel

example : wfB bidS1 = true ∧ nonNegB bidS1 = true ∧ total bidS1 = 2050 ∧ lockedSum bidS1.aoffers = 120 ∧
    holdings bidS1 bidB = 1000 - 6 ∧ bal bidS1.bals bidB = 1000 - 6 - 100 := by rw [bidS1_eq]; decide +kernel

/-! ## well-formedness is an invariant -/

/-- the start of every chain: no bid record at all -/
theorem bid_wf_empty (s0 : St) (h : s0.aoffers = []) : WF s0 := by
  refine ⟨by rw [h]; exact List.nodup_nil, fun k o ho => ?_⟩
  rw [h] at ho; cases ho

theorem bid_wf_step (env : Env) (s : St) (op : Op) (hw : WF s) : WF (step env s op).2 :=
  (keeps_step env s op hw).wf

theorem bid_wf_history (s0 : St) (hw : WF s0) (evs : List (Env × Op)) : WF (run s0 evs) :=
  (keeps_run evs hw).wf

example : WF bidS0 ∧ WF bidS1 := ⟨bid_wf_empty bidS0 rfl, bid_wf_history bidS0 (bid_wf_empty bidS0 rfl) bidOpen⟩

/-! ## (a), (b) C02 — no value creation -/

/-- every step — any of the six transactions with any payload, the block function on any queue, a
    commit — leaves balances + locked offers + fee pool exactly as they were, and a step that does
    not succeed changes nothing at all -/
theorem bid_step_conserves_value (env : Env) (s : St) (op : Op) (hw : WF s) :
    total (step env s op).2 = total s ∧ ((step env s op).1 ≠ .ok → (step env s op).2 = s) :=
  ⟨(keeps_step env s op hw).tot, step_fail⟩

/-- the counter offer of A gives B's 100 back: nothing is locked any more under X, the total stays -/
example : (step (bidEnv bidA 11) bidS1 (.counter bidX bidA 300 "OLT")).1 = .ok ∧ total bidS2 = total bidS1 ∧
    lockedSum bidS2.aoffers = 20 ∧ bal bidS2.bals bidB = bal bidS1.bals bidB + 100 := by rw [bidS2, bidS2_eq, bidS1_eq]; decide +kernel
/-- hostile amounts: a negative or foreign-currency offer is refused by Validate, one above the balance by the lock -/
example : (step (bidEnv bidC 11) bidS1 (.create "" bidA "e2" assetExample bidC (-5) "OLT" 500 bidZ)).1 = .fail .vBadAmount ∧
    (step (bidEnv bidC 11) bidS1 (.create "" bidA "e2" assetExample bidC 5 "VT" 500 bidZ)).1 = .fail .vBadAmount ∧
    (step (bidEnv bidC 11) bidS1 (.create "" bidA "e2" assetExample bidC 31 "OLT" 500 bidZ)).1 = .fail .lockAmount ∧
    (step (bidEnv bidC 11) bidS1 (.create "" bidA "e2" assetExample bidC 0 "OLT" 500 bidZ)).1 = .ok := by rw [bidS1_eq]; decide +kernel

theorem bid_history_conserves_value (s0 : St) (hw : WF s0) (evs : List (Env × Op)) : total (run s0 evs) = total s0 :=
  (keeps_run evs hw).tot

example : total (run bidS0 bidOpen) = total bidS0 := bid_history_conserves_value bidS0 (bid_wf_empty bidS0 rfl) bidOpen

/-! ## (c) no stored amount is negative -/

theorem bid_amounts_nonneg (s0 : St) (hw : WF s0) (hn : NonNegBals s0) (evs : List (Env × Op)) :
    NonNegBals (run s0 evs) ∧ ∀ k o, alookup k (run s0 evs).aoffers = some o → 0 ≤ o.amount :=
  ⟨(keeps_run evs hw).nn hn, fun _ _ ho => (keeps_run evs hw).wf.nonneg ho⟩

example : NonNegBals bidS0 ∧ nonNegB bidS2 = true := ⟨nonNeg_of_nonNegB (by decide), by rw [bidS2, bidS2_eq, bidS1_eq]; decide⟩

/-! ## (d) C03 — no unauthorised debit -/

/-- the holdings equation of every successful step: an account's balance + own locked offers moves
    by the deal of an acceptance (the offer amount, from the bidder to the owner) and by the fee the
    signer pays — by nothing else.  Locking, unlocking (counter offer, reject, cancel, expiry by
    anybody, the block function) never change anybody's holdings. -/
theorem bid_holdings_equation (env : Env) (s s' : St) (op : Op) (hw : WF s) (h : step env s op = (.ok, s')) (a : Addr) :
    holdings s' a = holdings s a + transfer s op a - (if op.isTx then ifEq a env.payer (feeOf env) else 0) :=
  step_holdings hw h a

/-- a successful step lowers the holdings of an account only if that account signed the
    transaction, or it is the bidder of a conversation whose active bid offer (which it signed and
    locked) the asset owner — the signer — accepts with BID_OWNER_DECISION; it then loses exactly
    the offer amount.  (The block function and a commit lower nobody's holdings.) -/
theorem bid_debits_only_authorised (env : Env) (s s' : St) (op : Op) (a : Addr) (hw : WF s)
    (h : step env s op = (.ok, s')) (hlow : holdings s' a < holdings s a) :
    (op.signer = some a ∧ env.payer = a ∧ env.sigValid = true) ∨
    (∃ id c o, op = .ownerDecision id c.owner decAccept ∧ alookup id s.active = some c ∧ alookup id s.aoffers = some o ∧
       o.otype = tBid ∧ env.payer = c.owner ∧ env.sigValid = true ∧ a = c.bidder ∧ holdings s' a = holdings s a - o.amount) := by
  have heq := step_holdings hw h a
  obtain ⟨hv, s1, hh, _⟩ := step_ok h
  by_cases hp : env.payer = a
  · -- the signer: of a transaction (the hook and the commit have no signer and charge nothing)
    cases ht : op.isTx with
    | true => exact Or.inl ⟨hp ▸ (validate_isTx hv ht).1, hp, (validate_isTx hv ht).2⟩
    | false =>
      have : transfer s op a = 0 := by
        cases op with
        | hook _ => rfl
        | commit => rfl
        | _ => cases ht
      rw [ht, this] at heq; simp at heq; omega
  · right
    rw [show ifEq a env.payer (feeOf env) = 0 from if_neg (Ne.symm hp), ite_self] at heq
    have htr : transfer s op a < 0 := by omega
    cases op with
    | ownerDecision k ow d =>
      obtain ⟨c, o, hc, ho, hty, rfl, ⟨rfl, _⟩ | ⟨rfl, _⟩⟩ := runOwnerDecision_ok hh
      · exact absurd htr (Int.lt_irrefl 0)
      · rw [transfer_of_deal (dealOf_accept hc ho _).1] at heq htr
        have hsig := validate_signer hv (a := c.owner) rfl
        have e1 : ifEq a c.owner o.amount = 0 := if_neg (fun e => hp (hsig.1.trans e.symm))
        have hab : a = c.bidder := Decidable.by_contra fun hab => by
          rw [e1, show ifEq a c.bidder o.amount = 0 from if_neg hab] at htr; exact Int.lt_irrefl 0 htr
        rw [e1, show ifEq a c.bidder o.amount = o.amount from if_pos hab] at heq
        exact ⟨k, c, o, rfl, hc, ho, hty, hsig.1, hsig.2, hab, by omega⟩
    | bidderDecision k b d =>
      obtain ⟨c, o, hc, ho, _, rfl, ⟨rfl, _⟩ | ⟨rfl, _⟩⟩ := runBidderDecision_ok hh
      · exact absurd htr (Int.lt_irrefl 0)
      · rw [transfer_of_deal (dealOf_accept hc ho _).2,
          show ifEq a c.bidder o.amount = 0 from if_neg (fun e => hp ((validate_signer hv (a := c.bidder) rfl).1.trans e.symm))] at htr
        have := WFo.nonneg hw ho
        unfold ifEq at htr; split at htr <;> omega
    | _ => exact absurd htr (Int.lt_irrefl 0)

/-- A accepts the offer of B: B — who signed nothing here — loses its locked 100, A gains them -/
example : (step (bidEnv bidA 11) bidS1 (.ownerDecision bidX bidA decAccept)).1 = .ok ∧
    holdings (step (bidEnv bidA 11) bidS1 (.ownerDecision bidX bidA decAccept)).2 bidB = holdings bidS1 bidB - 100 ∧
    holdings (step (bidEnv bidA 11) bidS1 (.ownerDecision bidX bidA decAccept)).2 bidA = holdings bidS1 bidA + 100 - 6 := by rw [bidS1_eq]; decide +kernel
/-- a stranger cannot accept, reject, cancel or make offers for a party: the identity checks refuse -/
example : (step (bidEnv bidC 11) bidS1 (.ownerDecision bidX bidC decAccept)).1 = .fail .wrongOwner ∧
    (step (bidEnv bidC 11) bidS1 (.ownerDecision bidX bidA decAccept)).1 = .fail .vSigner ∧
    (step (bidEnv bidC 11) bidS1 (.cancel bidX bidC)).1 = .fail .wrongBidder ∧
    (step (bidEnv bidC 11) bidS2 (.bidderDecision bidX bidC decAccept)).1 = .fail .wrongBidder := by rw [bidS2, bidS2_eq, bidS1_eq]; decide +kernel
/-- … but anybody can expire anybody's conversation, before its deadline (BID_EXPIRE is on the public
    router and `runExpireBid` checks neither the deadline nor the signer): B gets its 100 back -/
example : (step (bidEnv bidC 11) bidS1 (.expire bidX bidC)).1 = .ok ∧
    holdings (step (bidEnv bidC 11) bidS1 (.expire bidX bidC)).2 bidB = holdings bidS1 bidB ∧
    bal (step (bidEnv bidC 11) bidS1 (.expire bidX bidC)).2.bals bidB = bal bidS1.bals bidB + 100 := by rw [bidS1_eq]; decide +kernel

/-- the same equation for a step taken in any state a history reaches: `bid_wf_history` supplies `WF` -/
theorem bid_history_holdings_equation (s0 : St) (hw : WF s0) (evs : List (Env × Op)) (env : Env) (op : Op) (s' : St)
    (h : step env (run s0 evs) op = (.ok, s')) (a : Addr) :
    holdings s' a = holdings (run s0 evs) a + transfer (run s0 evs) op a -
      (if op.isTx then ifEq a env.payer (feeOf env) else 0) :=
  step_holdings (keeps_run evs hw).wf h a

/-! ## (e) exact refunds and payouts -/

/-- reject (by either side), cancel and expiry (by BID_EXPIRE or by the block function's
    `runExpireBid`) end the conversation, give the bidder exactly the locked amount of its active bid
    offer (nothing when the active offer is the owner's counter offer), charge the signer the fee,
    move no other balance and leave every domain alone -/
theorem bid_refund_exact (env : Env) (s s' : St) (op : Op) (id : ConvId) (hw : WF s) (hr : op.refunds id)
    (h : step env s op = (.ok, s')) :
    ∃ c o, alookup id s.active = some c ∧ alookup id s.aoffers = some o ∧
      (∀ a, bal s'.bals a = bal s.bals a + ifEq a c.bidder (lockedAmt o) - ifEq a env.payer (feeOf env)) ∧
      alookup id s'.active = none ∧ alookup id s'.aoffers = none ∧ s'.doms = s.doms ∧ s'.pool = s.pool + feeOf env := by
  obtain ⟨_, s1, hh, hfee⟩ := step_ok h
  obtain ⟨c, o, hc, ho, hb, hga, hgo, hd, hp⟩ := refund_handler hw hr hh
  have htx : op.isTx = true := by
    rcases hr with ⟨b, rfl⟩ | ⟨v, rfl⟩ | ⟨o, rfl⟩ | ⟨b, rfl⟩ <;> rfl
  rcases hfee with ⟨hnt, _⟩ | ⟨_, hf⟩
  · rw [htx] at hnt; cases hnt
  · obtain ⟨b1, hdb, rfl⟩ := feeStep_ok hf
    refine ⟨c, o, hc, ho, fun a => ?_, hga, hgo, hd, by show s1.pool + _ = _; rw [hp]⟩
    show bal b1 a = _
    rw [bal_debit hdb, hb a]

/-- one `runExpireBid` of the block function (no `Validate`, no fee step): the same refund, and
    nobody is charged -/
theorem bid_hook_refund_exact (env : Env) (s s' : St) (id : ConvId) (hw : WF s) (h : runExpire env s id = .ok s') :
    ∃ c o, alookup id s.active = some c ∧ alookup id s.aoffers = some o ∧
      (∀ a, bal s'.bals a = bal s.bals a + ifEq a c.bidder (lockedAmt o)) ∧
      alookup id s'.active = none ∧ alookup id s'.aoffers = none ∧ s'.doms = s.doms ∧ s'.pool = s.pool :=
  refund_handler (op := .expire id "") hw (Or.inr (Or.inl ⟨"", rfl⟩)) h

example : (step (bidEnv bidB 11) bidS1 (.cancel bidX bidB)).1 = .ok ∧
    bal (step (bidEnv bidB 11) bidS1 (.cancel bidX bidB)).2.bals bidB = bal bidS1.bals bidB + 100 - 6 := by rw [bidS1_eq]; decide +kernel
/-- the block function at time 16: Y (deadline 15) is expired and C gets its 20 back, X (deadline 500) stays -/
example : hookQueue 16 bidS1 = [bidY] ∧
    bal (step (bidEnv "" 16) bidS1 (.hook [bidY])).2.bals bidC = bal bidS1.bals bidC + 20 ∧
    (alookup bidX (step (bidEnv "" 16) bidS1 (.hook [bidY])).2.active).isSome = true ∧
    (alookup bidY (step (bidEnv "" 16) bidS1 (.hook [bidY])).2.active).isSome = false := by rw [bidS1_eq]; decide +kernel

/-- the owner's acceptance pays the owner exactly the locked amount of the active bid offer, charges
    the owner (the signer) the fee, moves no other balance, ends the conversation, and an ONS asset
    changes hands: the name is re-registered to the bidder (`ResetAfterSale`) -/
theorem bid_payout_exact (env : Env) (s s' : St) (id : ConvId) (ow : Addr) (hw : WF s)
    (h : step env s (.ownerDecision id ow decAccept) = (.ok, s')) :
    ∃ c o, alookup id s.active = some c ∧ alookup id s.aoffers = some o ∧ o.otype = tBid ∧ ow = c.owner ∧ env.payer = c.owner ∧
      (∀ a, bal s'.bals a = bal s.bals a + ifEq a c.owner o.amount - ifEq a env.payer (feeOf env)) ∧
      alookup id s'.active = none ∧ alookup id s'.aoffers = none ∧
      (c.atype = assetOns → ∃ d d', alookup (nameOf c.asset) s.doms = some d ∧ d.owner = c.owner ∧
        alookup (nameOf c.asset) s'.doms = some d' ∧ d'.owner = c.bidder ∧ d'.benef = c.bidder) ∧
      (c.atype ≠ assetOns → s'.doms = s.doms) := by
  obtain ⟨hv, s1, hh, ⟨hnt, _⟩ | ⟨_, hf⟩⟩ := step_ok h
  · cases hnt
  have hsig := validate_signer hv (a := ow) rfl
  obtain ⟨c, o, hc, ho, hty, how, hav, ⟨hd, _⟩ | ⟨_, s2, hd, hx⟩⟩ := runOwnerDecision_avail hh
  · exact absurd hd.symm dec_ne
  have e := eff_ownerAccept hw hc ho hty hd hx
  obtain ⟨hga, hgo, _, hons, hnons⟩ := accept_tail hw ho (by rfl) (by rfl) hd hx
  obtain ⟨b1, hdb, rfl⟩ := feeStep_ok hf
  refine ⟨c, o, hc, ho, hty, how, by rw [hsig.1, how], fun a => ?_, hga, hgo, fun hat => ?_, hnons⟩
  · show bal b1 a = _
    rw [bal_debit hdb, e.moves.bal a]
  · obtain ⟨d, hd1, hd2⟩ := hons hat
    -- the asset was available to the recorded owner: `runOwnerDecision` checked it
    obtain ⟨d', hd', hown⟩ := assetAvailable_ons (hat ▸ hav)
    rw [hd1] at hd'; cases hd'
    exact ⟨d, _, hd1, hown, hd2, rfl, rfl⟩

/-- the bidder's acceptance of the owner's counter offer: the bidder — the signer — pays the owner
    exactly the counter-offer amount out of its balance (nothing was locked), pays the fee, nobody
    else's balance moves, the conversation ends -/
theorem bid_payout_exact_bidder (env : Env) (s s' : St) (id : ConvId) (b : Addr) (hw : WF s)
    (h : step env s (.bidderDecision id b decAccept) = (.ok, s')) :
    ∃ c o, alookup id s.active = some c ∧ alookup id s.aoffers = some o ∧ o.otype = tCounter ∧ b = c.bidder ∧ env.payer = c.bidder ∧
      (∀ a, bal s'.bals a = bal s.bals a + ifEq a c.owner o.amount - ifEq a c.bidder o.amount - ifEq a env.payer (feeOf env)) ∧
      alookup id s'.active = none ∧ alookup id s'.aoffers = none ∧ (c.atype ≠ assetOns → s'.doms = s.doms) := by
  obtain ⟨hv, s1, hh, ⟨hnt, _⟩ | ⟨_, hf⟩⟩ := step_ok h
  · cases hnt
  have hsig := validate_signer hv (a := b) rfl
  obtain ⟨c, o, hc, ho, hty, rfl, ⟨hd, _⟩ | ⟨_, b1, s2, hdb, hd, hx⟩⟩ := runBidderDecision_ok hh
  · exact absurd hd.symm dec_ne
  have e := eff_bidderAccept hw hc ho hty hdb hd hx
  obtain ⟨hga, hgo, _, _, hnons⟩ := accept_tail hw ho (by rfl) (by rfl) hd hx
  obtain ⟨b2, hdb2, rfl⟩ := feeStep_ok hf
  refine ⟨c, o, hc, ho, hty, rfl, hsig.1, fun a => ?_, hga, hgo, hnons⟩
  show bal b2 a = _
  rw [bal_debit hdb2, e.moves.bal a]; omega

/-- the asset changes owner only when an offer is accepted: every other successful step leaves
    the whole registry alone -/
theorem bid_asset_moves_only_on_acceptance (env : Env) (s s' : St) (op : Op) (h : step env s op = (.ok, s'))
    (hd : dealOf s op = none) : s'.doms = s.doms := by
  obtain ⟨_, s1, hh, hfee⟩ := step_ok h
  have h1 := handler_doms hh hd
  rcases hfee with ⟨_, rfl⟩ | ⟨_, hf⟩
  · exact h1
  · obtain ⟨b1, _, rfl⟩ := feeStep_ok hf
    exact h1

/-- foo.ol goes to B (its sub name is deleted), 100 go to A -/
example : (alookup ["foo", "ol"] (step (bidEnv bidA 11) bidS1 (.ownerDecision bidX bidA decAccept)).2.doms).map (·.owner) = some bidB ∧
    alookup ["x", "foo", "ol"] (step (bidEnv bidA 11) bidS1 (.ownerDecision bidX bidA decAccept)).2.doms = none ∧
    bal (step (bidEnv bidA 11) bidS1 (.ownerDecision bidX bidA decAccept)).2.bals bidA = bal bidS1.bals bidA + 100 - 6 := by rw [bidS1_eq]; decide +kernel
/-- B accepts A's counter offer of 300: B pays 300 out of its balance, foo.ol goes to B -/
example : (step (bidEnv bidB 12) bidS2 (.bidderDecision bidX bidB decAccept)).1 = .ok ∧
    bal (step (bidEnv bidB 12) bidS2 (.bidderDecision bidX bidB decAccept)).2.bals bidB = bal bidS2.bals bidB - 300 - 6 ∧
    bal (step (bidEnv bidB 12) bidS2 (.bidderDecision bidX bidB decAccept)).2.bals bidA = bal bidS2.bals bidA + 300 ∧
    (alookup ["foo", "ol"] (step (bidEnv bidB 12) bidS2 (.bidderDecision bidX bidB decAccept)).2.doms).map (·.owner) = some bidB := by
  rw [bidS2, bidS2_eq, bidS1_eq]; decide +kernel

/-! ## (f) a conversation ends once

  FULL STATEMENT (false of the code as written):

    theorem bid_conversation_ends_once (env : Env) (s : St) (op : Op) (id : ConvId) (hw : WF s)
        (hc : isClosed s id = true) (hid : alookup id s.active = none) : Same id s (step env s op).2

  i.e. a conversation that left the active store never becomes active again and neither its closed
  record nor its offer history ever changes.  `createBidConv` (create_bid.go) does not look into the
  closed stores and the id is a function of (owner, asset, bidder, height): in the block that created
  it a closed conversation can be opened again under the same id; both records then exist, and the
  next closing overwrites the closed record and the offer history (`bid_reopen_counterexample`).
  The engine observes this on the implementation and counts it (counters
  `observed:bid-conversation-reopened`, `observed:bid-closed-conversation-changed`; script
  "reopen-script"); it is not reported as a violation because the properties do not state it.
  What holds is the statement for every step that does not open a conversation under that very id. -/

theorem bid_closed_stays_closed_unless_recreated (env : Env) (s : St) (op : Op) (id : ConvId) (hw : WF s)
    (hid : alookup id s.active = none) (hno : op.opensId ≠ some id) : Same id s (step env s op).2 :=
  step_same hw hid hno

theorem bid_closed_stays_closed_unless_recreated_history (s0 : St) (id : ConvId) (hw : WF s0) (hid : alookup id s0.active = none)
    (evs : List (Env × Op)) (hno : ∀ p ∈ evs, p.2.opensId ≠ some id) : Same id s0 (run s0 evs) :=
  (List.foldlRecOn (motive := fun s => Same id s0 s ∧ WF s) evs _ ⟨same_refl id s0, hw⟩ fun s ⟨hs, hw⟩ p hp =>
    ⟨same_trans hs (step_same hw (hs.1.trans hid) (hno p hp)), (keeps_step p.1 s p.2 hw).wf⟩).1

/-- the state after C's conversation Y was cancelled in the block that created it (time 10, before the commit) -/
def bidS3 : St := run bidS0
  [ (bidEnv bidC 10, .create "" bidA "ex" assetExample bidC 20 "OLT" 15 bidY), (bidEnv bidC 10, .cancel bidY bidC) ]

/-- Y is closed (cancelled) and not active; the same BID_CREATE in the same block (same height, so the
    same id) opens it again: it is active AND cancelled; expiring it then leaves it cancelled AND
    expired, and the offer history of the first life (the inactive record of type 1 at time 10) is
    overwritten by the second offer's.  No value is created: the total stays. -/
theorem bid_reopen_counterexample :
    isClosed bidS3 bidY = true ∧ alookup bidY bidS3.active = none ∧ WF bidS3 ∧
    (step (bidEnv bidC 10) bidS3 (.create "" bidA "ex" assetExample bidC 7 "OLT" 90 bidY)).1 = .ok ∧
    (alookup bidY (step (bidEnv bidC 10) bidS3 (.create "" bidA "ex" assetExample bidC 7 "OLT" 90 bidY)).2.active).isSome = true ∧
    isClosed (step (bidEnv bidC 10) bidS3 (.create "" bidA "ex" assetExample bidC 7 "OLT" 90 bidY)).2 bidY = true ∧
    (let s4 := (step (bidEnv bidC 10) bidS3 (.create "" bidA "ex" assetExample bidC 7 "OLT" 90 bidY)).2
     let s5 := (step (bidEnv bidA 10) s4 (.expire bidY bidA)).2
     (alookup (stCancelled, bidY) s5.closed).isSome = true ∧ (alookup (stExpired, bidY) s5.closed).isSome = true ∧
     (alookup (bidY, tBid, 10) bidS3.ioffers).map (·.amount) = some 20 ∧
     (alookup (bidY, tBid, 10) s5.ioffers).map (·.amount) = some 7 ∧ total s5 = total bidS3) :=
  by decide +kernel

example : (Op.create "" bidA "ex" assetExample bidC 7 "OLT" 90 bidY).opensId = some bidY := rfl
example : (Op.cancel bidX bidB).opensId ≠ some bidY ∧ (Op.create "" bidA "ex" assetExample bidC 7 "OLT" 90 bidX).opensId ≠ some bidY := by decide +kernel

end OLP.Props.C02
