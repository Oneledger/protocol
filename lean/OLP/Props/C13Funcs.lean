import OLP.Gen.Funcs
import OLP.Rewards.CalcLemmas

/-!
# C13 — the reward split and the per-block amount, tied to the source by translation (T2b)

`OLP.Gen.Funcs` is regenerated from /repo's working tree on every run: `getRewardForValidator` is
translated whole, the assignments of `handleDelegationRewards` and of `Calculate` with the
temporaries they depend on inlined and the named constants (`COMMISSION_PERCENTAGE`,
`BLOCK_PROPOSER_COMMISSION`) resolved by go/types. The theorems say that the hand-written model's
formulas ARE those definitions: a changed factor, divisor, constant or operand order in the
source breaks a theorem named here.
-/

namespace OLP.Props.C13

open OLP.Rewards
open OLP.Gen

theorem rewardFor_is_source (P p T : Int) :
    rewardFor P p T = Funcs.getRewardForValidator P p T := rfl

/-- the three amounts of `handleDelegationRewards` are the source's assignments, in the source's
    order of dependence: T·D/P, then 25 % of it, then 20 % of that -/
theorem delegSplit_amounts_are_source (T D P : Int) (active : List (Addr × Int)) :
    let dr0 := Funcs.delegationRewards T D P
    let comm := Funcs.delegationCommission dr0
    let pr := Funcs.proposerReward comm
    (delegSplit T D P active).delegRewards = dr0 - comm ∧
    (delegSplit T D P active).proposerReward = pr ∧
    (0 ≤ dr0 - comm → (delegSplit T D P active).commission = comm - pr) := by
  simp only [Funcs.delegationRewards, Funcs.delegationCommission, Funcs.proposerReward]
  unfold delegSplit
  simp only []
  split
  · exact ⟨rfl, rfl, fun h => by omega⟩
  · split <;> exact ⟨rfl, rfl, fun _ => rfl⟩

/-- every credit of the delegator loop is the source's `delegatorReward` of what was left after the
    commission -/
theorem delegSplit_credits_are_source (T D P : Int) (active : List (Addr × Int)) (a : Addr) (x : Int)
    (h : (a, x) ∈ (delegSplit T D P active).credits) :
    ∃ amt, (a, amt) ∈ active ∧
      x = Funcs.delegatorReward (delegSplit T D P active).delegRewards amt D := by
  rw [(delegSplit_amounts_are_source T D P active).1]
  unfold delegSplit at h
  simp only [] at h
  split at h
  · cases h
  · split at h
    · cases h
    · obtain ⟨p, hp, heq⟩ := List.mem_map.1 h
      cases heq
      exact ⟨p.2, hp, rfl⟩

/-- the amount per block a recalculation hands out is the source's quotient of what is left of the
    year by the forecast number of blocks -/
theorem recalc_amount_is_source (e : Env) (years : List Year) (c : Cache) (h : Int) (a : Int) (c' : Cache)
    (hr : recalc e years c h = .ok a c') (hn : (numMoreBlocks e years h).1 ≠ 0) :
    ∃ supply yr, e.o.shares[(numMoreBlocks e years h).2.toNat]? = some supply ∧
      years[(numMoreBlocks e years h).2.toNat]? = some yr ∧
      a = Funcs.rewardPerBlock (supply - yr.till) (numMoreBlocks e years h).1 := by
  rcases recalc_cases e years h with
    ⟨h0, _⟩ | ⟨y, yr, n, _, h1, hy, _, _, ⟨_, hk⟩ | ⟨supply, hs, ⟨_, hk⟩ | ⟨_, hk⟩⟩⟩
  · exact absurd h0 hn
  all_goals rw [hk c] at hr; cases hr
  rw [h1]
  exact ⟨supply, yr, hs, hy, rfl⟩

/-- `getCycleNo` as a whole function (all three results at once) is the model's cycle arithmetic -/
theorem getCycleNo_is_source (o : Opts) (h : Int) :
    Funcs.rewardGetCycleNo h o.cycle = (cycleNo o h, firstInCycle o h, lastInCycle o h) := by
  unfold Funcs.rewardGetCycleNo cycleNo firstInCycle lastInCycle
  simp only [Prod.mk.injEq, true_and]
  constructor
  · by_cases h1 : Int.tmod (h - 1) o.cycle = 0 <;> simp [h1]
  · by_cases h2 : Int.tmod h o.cycle = 0 <;> simp [h2]

end OLP.Props.C13
