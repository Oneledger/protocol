/-
  C08 — Crash-restart equivalence: committed state survives and replay converges.
  `crash boot hs n` = the process dies and is restarted from its on-disk data: only the saved
  versions (and Tendermint's own index) survive, overlays are empty, volatile memory is recomputed
  by the start-up code `boot` from the persisted tree.
-/
import OLP.Shell.Restart
import OLP.Shell.Nodup

namespace OLP.Props.C08
open OLP OLP.KV OLP.Shell

set_option linter.unusedSectionVars false

variable {K V C E T H D : Type} [DecidableEq K] [DecidableEq V] [DecidableEq C] [DecidableEq H]
variable (cfg : Cfg K V) (hs : Handlers K V C E T H D) (e : E) (boot : Tree K V → Vol C V)

/-- after a restart Info reports height and hash input of the last completed commit -/
theorem info_after_crash (n : Node K V C T H D) : info (crash boot hs n) = info n := by
  show (n.tree.reopen.version, n.tree.reopen.log.take (savedPrefixLen n.tree.reopen.log)) =
    (n.tree.version, n.tree.log.take (savedPrefixLen n.tree.log))
  rw [(reopen_fields n.tree).2, reopen_log, savedPrefixLen_take, List.take_take, Nat.min_self]

/-- nothing of a block is on disk before Commit: at every point inside a block (after BeginBlock,
    after the k-th DeliverTx, after EndBlock) a crash leads to the same restarted node as a crash
    before the block began -/
theorem crash_midblock_eq_crash_before (n : Node K V C T H D) (txs : List T) (k : Nat) (ended : Bool) :
    crash boot hs (midBlock cfg hs e n txs k ended) = crash boot hs n :=
  crash_of_frame hs boot (midBlock_frame cfg hs e n txs k ended)

/-- mempool checks between the calls do not change that -/
theorem crash_after_check_eq (n : Node K V C T H D) (tx : T) :
    crash boot hs (checkTx cfg hs e n tx).1 = crash boot hs n :=
  crash_of_frame hs boot (checkTx_frame cfg hs e n tx).1

/-- Info after a crash anywhere inside a block is Info of the previous commit -/
theorem info_after_midblock_crash (n : Node K V C T H D) (txs : List T) (k : Nat) (ended : Bool) :
    info (crash boot hs (midBlock cfg hs e n txs k ended)) = info n := by
  rw [crash_midblock_eq_crash_before, info_after_crash]

/-- replay converges: at a block boundary whose volatile memory is what start-up would compute,
    and with every hook re-aimed, crashing anywhere inside the block and replaying the whole block
    gives exactly the transcript and the consensus state of the uninterrupted execution -/
theorem replay_converges (ha : AllAimed hs) (n : Node K V C T H D) (hb : n.AtBoundary)
    (hv : n.vol = boot n.tree) (txs : List T) (k : Nat) (ended : Bool) :
    let restarted := crash boot hs (midBlock cfg hs e n txs k ended)
    (execBlock cfg hs e restarted txs).2.results = (execBlock cfg hs e n txs).2.results ∧
    (execBlock cfg hs e restarted txs).2.log = (execBlock cfg hs e n txs).2.log ∧
    (execBlock cfg hs e restarted txs).1.consensus = (execBlock cfg hs e n txs).1.consensus := by
  intro restarted
  have hc := (crash_boundary hs hb hv).2.1
  rw [← crash_midblock_eq_crash_before cfg hs e boot n txs k ended] at hc
  have h := execBlock_congr cfg hs e ha hc txs
  exact ⟨congrArg BlockOut.results h.1, congrArg BlockOut.log h.1, h.2⟩

/-- a crash right after a completed block (Commit done, index fed) loses nothing consensus
    depends on, up to the deliver overlay that the next BeginBlock replaces -/
theorem crash_at_boundary (n : Node K V C T H D) (hb : n.AtBoundary) (hv : n.vol = boot n.tree) :
    let c := crash boot hs n
    c.tree = n.tree ∧ c.vol = n.vol ∧ c.idx = n.idx ∧ c.height = n.height :=
  (crash_boundary hs hb hv).2.1

theorem execBlock_at_boundary (n : Node K V C T H D) (hb : n.AtBoundary) (wf : n.tree.WF)
    (txs : List T) : (execBlock cfg hs e n txs).1.AtBoundary :=
  (execBlock_boundary cfg hs e hb wf txs).1

/-- a block run by a node that first crashes at each of the given points inside it (after `k`
    transactions, after EndBlock or not) and restarts, replaying the block from its beginning -/
def execBlockWithCrashes (n : Node K V C T H D) (txs : List T) :
    List (Nat × Bool) → Node K V C T H D × BlockOut K V D
  | [] => execBlock cfg hs e n txs
  | (k, ended) :: more =>
    execBlockWithCrashes (crash boot hs (midBlock cfg hs e n txs k ended)) txs more

def execHistoryWithCrashes :
    Node K V C T H D → List (List T × List (Nat × Bool)) → List (BlockOut K V D)
  | _, [] => []
  | n, (txs, cps) :: rest =>
    let r := execBlockWithCrashes cfg hs e boot n txs cps
    r.2 :: execHistoryWithCrashes r.1 rest

/-- a node between two blocks, as start-up leaves it -/
def Settled (n : Node K V C T H D) : Prop := n.AtBoundary ∧ n.tree.WF ∧ n.vol = boot n.tree

/-- however often and wherever a block is interrupted, it is in the end run once, from the
    restarted node: nothing of a block is on disk before Commit, and a restart of a restarted node
    changes nothing -/
theorem execBlockWithCrashes_cons (n : Node K V C T H D) (txs : List T) (cp : Nat × Bool)
    (more : List (Nat × Bool)) :
    execBlockWithCrashes cfg hs e boot n txs (cp :: more) =
      execBlock cfg hs e (crash boot hs n) txs := by
  induction more generalizing n cp with
  | nil => rw [execBlockWithCrashes, crash_midblock_eq_crash_before]; rfl
  | cons _ _ ih => rw [execBlockWithCrashes, crash_midblock_eq_crash_before, ih, crash_crash]

/-- repeated crashes, at any points, over a whole history: if the application keeps its volatile
    memory derived from the persisted tree at boundaries, a node that crashes (possibly several
    times: each block comes with its list of crash points) and replays produces the same
    transcripts as one that never stopped -/
theorem history_with_crashes_converges (ha : AllAimed hs) (hd : VolDerived cfg boot hs)
    (n : Node K V C T H D) (hb : n.AtBoundary) (wf : n.tree.WF) (hv : n.vol = boot n.tree)
    (hist : List (List T × List (Nat × Bool))) :
    (execHistoryWithCrashes cfg hs e boot n hist).map (fun o => (o.results, o.log)) =
    (execBlocks cfg hs e n (hist.map (·.1))).2.map (fun o => (o.results, o.log)) := by
  -- two runs side by side, from nodes that are only `CEq` (Shell/Isolation): no one-run induction
  -- principle applies, so the induction over the history is done by hand
  suffices ∀ m m' : Node K V C T H D, Settled boot m → CEq m m' →
      (execHistoryWithCrashes cfg hs e boot m hist).map (fun o => (o.results, o.log)) =
      (execBlocks cfg hs e m' (hist.map (·.1))).2.map (fun o => (o.results, o.log)) from
    this n n ⟨hb, wf, hv⟩ ⟨rfl, rfl, rfl, rfl⟩
  induction hist with
  | nil => intro _ _ _ _; rfl
  | cons b rest ih =>
    intro m m' hm hc
    -- the block is run once, from `m` or from the restarted `m`: both settled and `CEq` to `m'`
    obtain ⟨x, hx, hxc, he⟩ : ∃ x, Settled boot x ∧ CEq x m' ∧
        execBlockWithCrashes cfg hs e boot m b.1 b.2 = execBlock cfg hs e x b.1 := by
      obtain ⟨txs, _ | ⟨cp, more⟩⟩ := b
      · exact ⟨m, hm, hc, rfl⟩
      · obtain ⟨hb, c, hv⟩ := crash_boundary hs hm.1 hm.2.2
        exact ⟨_, ⟨hb, c.1 ▸ hm.2.1, hv⟩,
          ⟨c.1.trans hc.1, c.2.1.trans hc.2.1, c.2.2.1.trans hc.2.2.1, c.2.2.2.trans hc.2.2.2⟩,
          execBlockWithCrashes_cons ..⟩
    have h := execBlock_congr cfg hs e ha hxc b.1
    have hb' := execBlock_boundary cfg hs e hx.1 hx.2.1 b.1
    simp only [execHistoryWithCrashes, List.map_cons, execBlocks]
    rw [he, h.1, ih _ _ ⟨hb'.1, hb'.2, hd e x b.1 hx.1 hx.2.2⟩ (CEq.of_consensus h.2)]

/-! ## Non-vacuity and the shape of a violation (a cache that start-up does not rebuild) -/

def exCfg : Cfg Nat Nat := { tomb := 0, vlen := fun _ => 1, lt := fun a b => decide (a < b) }
def exN : Node Nat Nat Nat Nat Nat Nat :=
  { tree := Tree.empty ⟨1, 0, 0⟩, dlv := Ov.fresh 1000000, chk := Ov.fresh 1000000, vol := fun _ => none,
    idx := [], aim := .check, height := 0, closed := false }

example : exN.AtBoundary ∧ exN.vol = (fun (_ : Tree Nat Nat) => (fun _ => none : Vol Nat Nat)) exN.tree ∧
    (exN.tree : Tree Nat Nat).WF := by
  refine ⟨⟨rfl, rfl, rfl, rfl, rfl⟩, rfl, ?_⟩
  simp [Tree.WF, exN, Tree.empty]

/-- a volatile counter bumped by every delivered transaction and copied into the state, which
    start-up resets to nothing: not `VolDerived`, and a restart changes the next commit log -/
def cacheH : Handlers Nat Nat Nat Unit Nat Nat Nat :=
  { hash := id, validate := fun _ => .ret (), check := fun _ => .ret 0,
    deliver := fun _ => .vget 0 (fun v => .vset 0 (some (v.getD 0 + 1)) (.set 1 (v.getD 0 + 1) (fun _ => .ret 0))),
    fee := fun _ _ => .ret 0, begin := fun _ => [], endb := fun _ => [], gasLimit := 1000000 }

theorem underived_cache_diverges :
    let n1 := (execBlock exCfg cacheH () exN [1]).1
    (execBlock exCfg cacheH () n1 [2]).2.log ≠
    (execBlock exCfg cacheH () (crash (fun _ => (fun _ => none)) cacheH n1) [2]).2.log := by
  dsimp only
  decide

/-! ## Non-vacuity: an application whose volatile memory is genuinely used and derived

  The volatile cell 0 caches the VALUE STORED UNDER KEY 9 of the tree. `crBoot` recomputes it from
  the persisted tree (`t.get 9`). The EndBlock hook of height `h`, aimed at the deliver state, writes
  `h` under key 9 and, if the write was served — it always is: the hook runs on the unmetered view
  of the deliver state — refreshes the cell with `.vset`. The cell is consensus-relevant: the
  BeginBlock hook copies `cell + 100` into key 8 and every ProcessDeliver copies it into key 2 — a
  stale cell would change the commit log (this is what goes wrong in `underived_cache_diverges`,
  where start-up does not rebuild the cell).

  `VolDerived` is PROVED for these handlers, for every node and every block (`cr_volDerived`): the
  block cache holds every key once (`deliverAll_nodup`), so what Commit writes under key 9 is what
  the hook, the last to write it, put there. -/

def crH : Handlers Nat Nat Nat Unit Nat Nat Nat :=
  { hash := id,
    validate := fun tx => .burn 5 (if tx = 0 then .fail else .ret ()),
    check := fun _ => .ret 0,
    deliver := fun tx => .get 1 (fun r => match r with
      | .val v => .set 1 (v.getD 0 + tx) (fun _ => .vget 0 (fun c => .set 2 (c.getD 0 + 100) (fun _ =>
          if tx = 9 then .fail else .ret tx)))
      | .errGas => .fail),
    fee := fun _ g0 => .gas (fun g => .ret (g - g0)),
    begin := fun _ => [(true, .vget 0 (fun c => .set 8 (c.getD 0 + 100) (fun _ => .ret ())))],
    endb := fun h => [(true, .set 9 h (fun ok => if ok then .vset 0 (some h) (.ret ()) else .ret ()))],
    gasLimit := 10000 }

def crBoot (t : Tree Nat Nat) : Vol Nat Nat := fun c => if c = 0 then t.get 9 else none

def crN : Node Nat Nat Nat Nat Nat Nat :=
  { tree := Tree.empty ⟨1, 0, 0⟩, dlv := Ov.fresh 10000, chk := Ov.fresh 10000,
    vol := crBoot (Tree.empty ⟨1, 0, 0⟩), idx := [], aim := .check, height := 0, closed := false }

theorem cr_aimed : AllAimed crH := fun _ =>
  ⟨fun _ hm => by rw [List.mem_singleton.mp hm], fun _ hm => by rw [List.mem_singleton.mp hm]⟩

theorem cr_noVset : DeliverNoVset crH := fun tx =>
  ⟨by show (if tx = 0 then Prog.fail else Prog.ret ()).NoVset; split <;> trivial,
   fun r => by
    cases r with
    | errGas => trivial
    | val v => exact fun _ _ _ => by split <;> trivial,
   fun _ _ => trivial⟩

theorem cr_volDerived : VolDerived exCfg crBoot crH := by
  intro e n txs hb hv
  -- the node `m` that EndBlock finds: memory as at the start, no session
  have mv : (deliverAll exCfg crH e (beginBlock exCfg crH e n) txs).1.vol = n.vol :=
    (deliverAll_vol exCfg crH e cr_noVset txs _).trans
    (hooks_vol exCfg e (crH.begin (n.height + 1))
      (fun _ hm => by rw [List.mem_singleton.mp hm]; exact fun _ _ => trivial)
      { n with dlv := Ov.fresh crH.gasLimit })
  have ms := (deliverAll_frame exCfg crH e txs (beginBlock exCfg crH e n)).sess
    (beginBlock_sess exCfg crH e n)
  have hg := execBlock_get exCfg crH e n txs 9
  have hfv : (execBlock exCfg crH e n txs).1.vol =
      (endBlock exCfg crH e (deliverAll exCfg crH e (beginBlock exCfg crH e n) txs).1).vol := rfl
  generalize (deliverAll exCfg crH e (beginBlock exCfg crH e n) txs).1 = m at *
  -- EndBlock: the hook runs unmetered, its write lands in the block cache and the cell is refreshed
  have hend : (endBlock exCfg crH e m).dlv.cache = upsert m.dlv.cache 9 (m.height + 1) ∧
      (endBlock exCfg crH e m).vol = m.vol.set 0 (some (m.height + 1)) := by
    have hc := set_nosess_unmetered exCfg (m.dlv.unmetered m.tree) ms rfl 9 (m.height + 1)
      (Nat.succ_ne_zero _)
    simp only [endBlock, crH, List.foldl_cons, List.foldl_nil, runHook, Bool.true_or, if_true, Prog.run]
    rw [hc]
    exact ⟨rfl, rfl⟩
  rw [hend.1, blockView, alookup_upsert_self] at hg
  rw [hfv, hend.2, mv, hv]
  funext c
  unfold crBoot Vol.set
  rw [hg]
  show _ = if c = 0 then dec exCfg (m.height + 1) else none
  rw [dec_of_ne exCfg _ (Nat.succ_ne_zero _)]
  split
  · rfl
  · next h => exact if_neg h

theorem crN_boundary : crN.AtBoundary ∧ crN.tree.WF ∧ crN.vol = crBoot crN.tree := by
  refine ⟨⟨rfl, rfl, rfl, rfl, rfl⟩, ?_, rfl⟩
  simp [Tree.WF, crN, Tree.empty]

/-- two blocks; the first is interrupted after its first transaction and again after EndBlock, the
    second after EndBlock and again right after BeginBlock; every time the node restarts from disk
    and replays the block -/
def crHist : List (List Nat × List (Nat × Bool)) :=
  [([5, 9, 0], [(1, false), (3, true)]), ([7, 3], [(2, true), (0, false)])]

theorem crash_history_instance :
    (execHistoryWithCrashes exCfg crH () crBoot crN crHist).map (fun o => (o.results, o.log)) =
    (execBlocks exCfg crH () crN (crHist.map (·.1))).2.map (fun o => (o.results, o.log)) :=
  history_with_crashes_converges exCfg crH () crBoot cr_aimed cr_volDerived crN crN_boundary.1
    crN_boundary.2.1 crN_boundary.2.2 crHist

/-- `replay_converges` applied to a crash after the second transaction of block 1 -/
theorem replay_instance :
    let restarted := crash crBoot crH (midBlock exCfg crH () crN [5, 9, 0] 2 false)
    (execBlock exCfg crH () restarted [5, 9, 0]).2.results = (execBlock exCfg crH () crN [5, 9, 0]).2.results ∧
    (execBlock exCfg crH () restarted [5, 9, 0]).2.log = (execBlock exCfg crH () crN [5, 9, 0]).2.log ∧
    (execBlock exCfg crH () restarted [5, 9, 0]).1.consensus = (execBlock exCfg crH () crN [5, 9, 0]).1.consensus :=
  replay_converges exCfg crH () crBoot cr_aimed crN crN_boundary.1 crN_boundary.2.2 [5, 9, 0] 2 false

/-- the conclusion of `crash_history_instance`, recomputed on both sides: the transcripts of the
    crashed-and-replayed run and of the uninterrupted run are the same two concrete blocks
    (transaction 9 fails after its writes, transaction 0 is refused; keys 8 and 2 carry the cached
    height + 100) -/
theorem crash_history_facts :
    (execHistoryWithCrashes exCfg crH () crBoot crN crHist).map (fun o => (o.results, o.log)) =
      [([⟨true, some 5, 25⟩, ⟨false, none, 27⟩, ⟨false, none, 0⟩],
        [.set 8 100, .set 1 5, .set 2 100, .set 9 1, .save]),
       ([⟨true, some 7, 25⟩, ⟨true, some 3, 27⟩],
        [.set 8 101, .set 1 15, .set 2 101, .set 9 2, .save])] ∧
    (execBlocks exCfg crH () crN [[5, 9, 0], [7, 3]]).2.map (fun o => (o.results, o.log)) =
      [([⟨true, some 5, 25⟩, ⟨false, none, 27⟩, ⟨false, none, 0⟩],
        [.set 8 100, .set 1 5, .set 2 100, .set 9 1, .save]),
       ([⟨true, some 7, 25⟩, ⟨true, some 3, 27⟩],
        [.set 8 101, .set 1 15, .set 2 101, .set 9 2, .save])] := by
  decide +kernel

/-- the final nodes: same tree contents, same write log, same version, same volatile cell -/
theorem crash_history_final_node :
    let c1 := (execBlockWithCrashes exCfg crH () crBoot crN [5, 9, 0] [(1, false), (3, true)]).1
    let c2 := (execBlockWithCrashes exCfg crH () crBoot c1 [7, 3] [(2, true), (0, false)]).1
    let u2 := (execBlocks exCfg crH () crN [[5, 9, 0], [7, 3]]).1
    c2.tree.working = [(8, 101), (1, 15), (2, 101), (9, 2)] ∧ u2.tree.working = c2.tree.working ∧
    c2.tree.log = [.set 8 100, .set 1 5, .set 2 100, .set 9 1, .save,
                   .set 8 101, .set 1 15, .set 2 101, .set 9 2, .save] ∧ u2.tree.log = c2.tree.log ∧
    c2.tree.version = 2 ∧ u2.tree.version = 2 ∧ c2.vol 0 = some 2 ∧ u2.vol 0 = some 2 ∧
    c2.idx = u2.idx := by
  dsimp only
  decide +kernel

/-- the crashes do destroy something. Mid-block (block 1, two transactions delivered) the block
    cache holds three pending writes and 52 units of gas are consumed (25 + 27 by the two
    transactions; the BeginBlock hook's write is charged to nobody): the restart has an empty
    cache. After EndBlock of block 2 the hook has already moved the volatile cell to 2 while the tree
    is still at version 1: the restart recomputes the cell from the tree (1), and this is what makes
    the replayed BeginBlock hook write 101 again, not 102 -/
theorem crash_points_facts :
    let m1 := midBlock exCfg crH () crN [5, 9, 0] 2 false
    let n1 := (execBlock exCfg crH () crN [5, 9, 0]).1
    let m2 := midBlock exCfg crH () n1 [7, 3] 2 true
    m1.dlv.cache = [(8, 100), (1, 5), (2, 100)] ∧ m1.dlv.gas = ⟨10000, 52⟩ ∧
    (crash crBoot crH m1).dlv.cache = [] ∧ (crash crBoot crH m1).dlv.gas = ⟨10000, 0⟩ ∧
    m2.dlv.cache = [(8, 101), (1, 15), (2, 101), (9, 2)] ∧ m2.vol 0 = some 2 ∧
    m2.tree.working = [(8, 100), (1, 5), (2, 100), (9, 1)] ∧
    (crash crBoot crH m2).dlv.cache = [] ∧ (crash crBoot crH m2).vol 0 = some 1 ∧
    (crash crBoot crH m2).tree.working = [(8, 100), (1, 5), (2, 100), (9, 1)] := by
  dsimp only
  decide +kernel

end OLP.Props.C08
