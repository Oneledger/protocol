/-
  C09 — The layered state store behaves like a transactional, versioned map.

  Property theorems, read off the equations of the operations in OLP/KV/Refine.lean.  All
  statements are about the executable model `OLP.KV` (OLP/KV/Model.lean), which the `kv`
  correspondence engine compares with the real `storage.State` on every run.

  `view c s : K → Option V` is what a reader of the state sees; `baseView` is what remains when
  the open transaction session is dropped; `upd f k x` is the point-wise update (these and the
  other notions of the statements: OLP/KV/Spec.lean).
-/
import OLP.KV.Refine

namespace OLP.Props.C09
open OLP OLP.KV

variable {K V : Type} [DecidableEq K] [DecidableEq V] (c : Cfg K V)

/-! ## 1. Reads return the most recent write in scope (session ▹ block ▹ last write-out) -/

theorem get_returns_view (s : St K V) (hm : s.metered = false) (k : K) :
    s.get c k = (s, .val (view c s k)) := by
  rw [get_exact, if_neg (not_refused s k hm), readCost_unmetered c s k hm, addGas_zero]

theorem has_returns_view (s : St K V) (hm : s.metered = false) (k : K) :
    s.has c k = (s, (view c s k).isSome) := by
  rw [has_exact]
  simp [hm, addGas_zero]

/-- iteration enumerates the keys of the tree in range that are not deleted in an overlay and
    reports for each the value a `get` would return -/
theorem iter_returns_view (s : St K V) (hm : s.metered = false) (lo hi : Option K) (asc : Bool) :
    s.iter c lo hi asc =
      (s, ((s.tree.rangeKeys c lo hi asc).filter (fun k => !s.deleted c k)).map
            (fun k => (k, view c s k))) :=
  iter_foldl_unmetered c s _ hm

/-- a write is accepted and visible, or refused by the meter and then changes nothing -/
theorem view_set_always (s : St K V) (k : K) (v : V) (hv : v ≠ c.tomb) :
    (¬ WriteRefused s ∧ (s.set c k v).2 = .ok ∧
      view c (s.set c k v).1 = upd (view c s) k (some v)) ∨
    (WriteRefused s ∧ s.set c k v = (s, .errGas)) := by
  rw [set_exact, if_neg hv]
  by_cases hr : WriteRefused s
  · exact Or.inr ⟨hr, if_pos hr⟩
  · rw [if_neg hr]
    exact Or.inl ⟨hr, rfl, by rw [view_addGas, view_put, dec_of_ne c v hv]⟩

theorem view_set (s : St K V) (hm : s.metered = false) (k : K) (v : V) (hv : v ≠ c.tomb) :
    (s.set c k v).2 = .ok ∧ view c (s.set c k v).1 = upd (view c s) k (some v) :=
  ((view_set_always c s k v hv).resolve_right (not_writeRefused s hm ·.1)).2

/-- the TOMBSTONE marker is reserved: a write of exactly that value is refused with
    `ErrReservedValue` and changes nothing (before the fix "refuse the tombstone marker as a value"
    it was silently turned into a delete, the former known finding KF-C09-1) -/
theorem set_tombstone_refused (s : St K V) (k : K) : s.set c k c.tomb = (s, .errReserved) := by
  rw [set_exact, if_pos rfl]

/-- every accepted write is read back, or the read says that it could not be served -/
theorem accepted_set_is_read_back_always (s : St K V) (k : K) (v : V)
    (h : (s.set c k v).2 = .ok) :
    ((s.set c k v).1.get c k).2 = .val (some v) ∨
    (((s.set c k v).1.get c k).2 = .errGas ∧ Refused (s.set c k v).1 k) := by
  rcases get_val_or_refused c (s.set c k v).1 k with ⟨hg, _⟩ | ⟨hg, hr⟩
  · left; rw [hg, (set_ok c s k v h).2.2]; simp [upd]
  · right; rw [hg]; exact ⟨rfl, hr⟩

/-- so every write that is accepted is read back: no hypothesis on the value -/
theorem accepted_set_is_read_back (s : St K V) (hm : s.metered = false) (k : K) (v : V)
    (h : (s.set c k v).2 = .ok) : ((s.set c k v).1.get c k).2 = .val (some v) :=
  (accepted_set_is_read_back_always c s k v h).resolve_right
    (not_refused _ k ((set_accessed c s k v).frame.2.1.trans hm) ·.2)

/-- … and `Exists` sees every accepted write, whatever the meter says -/
theorem accepted_set_exists_always (s : St K V) (k : K) (v : V) (h : (s.set c k v).2 = .ok) :
    ((s.set c k v).1.has c k).2 = true := by
  rw [has_exact, (set_ok c s k v h).2.2]; simp [upd]

/-! ## 2. A deleted key reads as absent -/

/-- a delete takes effect, or is (silently: `Delete` reports success) refused by the meter and
    changes nothing -/
theorem view_del_always (s : St K V) (k : K) :
    (¬ WriteRefused s ∧ view c (s.del c k) = upd (view c s) k none) ∨
    (WriteRefused s ∧ s.del c k = s) := by
  rw [del_exact]
  by_cases hr : WriteRefused s
  · exact Or.inr ⟨hr, if_pos hr⟩
  · rw [if_neg hr]
    exact Or.inl ⟨hr, by rw [view_addGas, view_put, dec_tomb]⟩

theorem view_del (s : St K V) (hm : s.metered = false) (k : K) :
    view c (s.del c k) = upd (view c s) k none :=
  ((view_del_always c s k).resolve_right (not_writeRefused s hm ·.1)).2

/-- a key whose delete took effect never reads as present -/
theorem deleted_reads_absent_always (s : St K V) (k : K) (hw : ¬ WriteRefused s) :
    ((s.del c k).has c k).2 = false ∧
    (((s.del c k).get c k).2 = .val none ∨ ((s.del c k).get c k).2 = .errGas) := by
  have hview := ((view_del_always c s k).resolve_right (hw ·.1)).2
  refine ⟨by rw [has_exact, hview]; simp [upd], ?_⟩
  rcases get_val_or_refused c (s.del c k) k with ⟨hg, _⟩ | ⟨hg, _⟩
  · left; rw [hg, hview]; simp [upd]
  · right; rw [hg]

theorem deleted_reads_absent (s : St K V) (hm : s.metered = false) (k : K) :
    ((s.del c k).get c k).2 = .val none ∧ ((s.del c k).has c k).2 = false := by
  have hm' : (s.del c k).metered = false := (del_accessed c s k).frame.2.1.trans hm
  rw [get_returns_view c _ hm', has_returns_view c _ hm', view_del c s hm]
  simp [upd]

/-! ## 1–2 for every state, metered or not

  Since the fix "reads after the block gas is used up fail" a `Get` the meter refuses is an error
  (`ErrExceedGasLimit`), not a read of the committed tree; `Exists`, which has no error channel,
  looks at the block cache once more without the meter.  So for *every* state a read returns the
  most recent write in scope or says that it could not be served; it never returns anything else.

  `Refused s k`  : metered ∧ consumed ≥ limit ∧ the open session does not hold `k`.
  `readCost c s k` : what a served read is charged.  `s.addGas d` : `s` with `d` more gas consumed. -/

/-- `State.Get`, exactly: refused (and then nothing at all changes), or the view, at the price
    `readCost` -/
theorem get_exactly (s : St K V) (k : K) :
    s.get c k = if Refused s k then (s, .errGas)
                else (s.addGas (readCost c s k), .val (view c s k)) := get_exact c s k

theorem get_returns_view_or_gas_error (s : St K V) (k : K) :
    (s.get c k).2 = .val (view c s k) ∨
    ((s.get c k).2 = .errGas ∧ s.metered = true ∧ s.gas.consumed ≥ s.gas.limit ∧
      s.sess.bind (alookup k) = none ∧ (s.get c k).1 = s) := by
  rcases get_val_or_refused c s k with ⟨h, _⟩ | ⟨h, hr⟩
  · left; rw [h]
  · right; rw [h]; exact ⟨rfl, hr.1, hr.2.1, hr.2.2, rfl⟩

theorem get_gas_error_iff (s : St K V) (k : K) :
    (s.get c k).2 = .errGas ↔
      (s.metered = true ∧ s.gas.consumed ≥ s.gas.limit ∧ s.sess.bind (alookup k) = none) := by
  rcases get_val_or_refused c s k with ⟨h, hr⟩ | ⟨h, hr⟩
  · rw [h]
    exact ⟨fun e => (by cases e), fun e => absurd e hr⟩
  · rw [h]
    exact ⟨fun _ => hr, fun _ => rfl⟩

theorem get_returns_view_when_served (s : St K V) (k : K)
    (h : s.metered = false ∨ s.gas.consumed < s.gas.limit ∨
         (s.sess.bind (alookup k)).isSome = true) :
    s.get c k = (s.addGas (readCost c s k), .val (view c s k)) := by
  rcases get_val_or_refused c s k with ⟨h', _⟩ | ⟨_, hm, hx, hs⟩
  · exact h'
  · rcases h with h | h | h
    · rw [hm] at h; cases h
    · omega
    · rw [hs] at h; cases h

/-- THE REPAIRED DEFECT IS GONE: whatever the state, a `Get` never returns a value other than the
    most recent write in scope (before the fix a refused read returned the tree's stale value) -/
theorem no_stale_read (s : St K V) (k : K) (v : Option V) (h : (s.get c k).2 = .val v) :
    v = view c s k := by
  rcases get_val_or_refused c s k with ⟨h', _⟩ | ⟨h', _⟩
  · rw [h'] at h; exact (GetRes.val.inj h).symm
  · rw [h'] at h; cases h

/-- the same at the line protocol of the `kv` engine: the answer to `get k` is the view or the
    gas error, the latter only when `Refused` -/
theorem get_op_output (s : St K V) (k : K) :
    ((step c s (.get k)).2 = .val (view c s k) ∧ ¬ Refused s k) ∨
    ((step c s (.get k)).2 = .errGas ∧ Refused s k ∧ (step c s (.get k)).1 = s) := by
  show ((match (s.get c k).2 with | .val v => Out.val v | .errGas => Out.errGas) = _ ∧ _) ∨
       ((match (s.get c k).2 with | .val v => Out.val v | .errGas => Out.errGas) = _ ∧ _ ∧
        (s.get c k).1 = s)
  rcases get_val_or_refused c s k with ⟨h, hr⟩ | ⟨h, hr⟩
  · left; rw [h]; exact ⟨rfl, hr⟩
  · right; rw [h]; exact ⟨rfl, hr, rfl⟩

/-- … in particular in every state reachable from a fresh (metered or unmetered) state over any
    tree by any sequence of operations -/
theorem no_stale_read_reachable (t : Tree K V) (limit : Option Int) (ops : List (Op K V)) (k : K)
    (v : Option V) :
    let s0 : St K V := match limit with | none => St.new t | some l => St.newGas t l
    let s := (run c s0 ops).1
    ((s.get c k).2 = .val v → v = view c s k) ∧
    ((step c s (.get k)).2 = .val v → v = view c s k) := by
  intro s0 s
  refine ⟨no_stale_read c s k v, ?_⟩
  intro h
  rcases get_op_output c s k with ⟨h', _⟩ | ⟨h', _⟩
  · rw [h'] at h; exact (Out.val.inj h).symm
  · rw [h'] at h; cases h

/-- `State.Exists`, exactly: the answer is always the view's (also when the meter refuses: this is
    what the second, unmetered look at the cache gives); the flat read cost is charged iff the
    metered cache was asked while gas was left -/
theorem has_exactly (s : St K V) (k : K) :
    s.has c k =
      (s.addGas (if (s.sess.bind (alookup k)).isSome = false ∧ s.metered = true ∧
                    s.gas.consumed < s.gas.limit then 20 else 0),
       (view c s k).isSome) := has_exact c s k

theorem has_returns_view_always (s : St K V) (k : K) :
    (s.has c k).2 = (view c s k).isSome ∧
    (s.has c k).1.tree = s.tree ∧ (s.has c k).1.cache = s.cache ∧ (s.has c k).1.sess = s.sess := by
  rw [has_exact]
  exact ⟨rfl, rfl, rfl, rfl⟩

theorem get_has_agree (s : St K V) (k : K) (v : Option V) (h : (s.get c k).2 = .val v) :
    (s.has c k).2 = v.isSome := by
  rw [no_stale_read c s k v h, has_exact]

/-- iteration, exactly: there is a cut-off `n` (the point where the meter ran out; the whole range
    if it did not) such that the keys before it are all read (`listed`: every key of the tree in
    range that is not deleted in an overlay, in range order, with the value of the view), the keys
    after it are read only if the session answers them (`listedSess`); the charge is that of the
    reads before the cut-off, and a cut-off inside the range means the gas is used up -/
theorem iter_returns_view_metered (s : St K V) (lo hi : Option K) (asc : Bool) :
    ∃ n, n ≤ (s.tree.rangeKeys c lo hi asc).length ∧
      s.iter c lo hi asc =
        (s.addGas (iterCost c s ((s.tree.rangeKeys c lo hi asc).take n)),
         listed c s ((s.tree.rangeKeys c lo hi asc).take n) ++
           listedSess c s ((s.tree.rangeKeys c lo hi asc).drop n)) ∧
      (n < (s.tree.rangeKeys c lo hi asc).length →
        s.metered = true ∧
        s.gas.limit ≤ s.gas.consumed + iterCost c s ((s.tree.rangeKeys c lo hi asc).take n)) :=
  iter_foldl_cutoff c s _ []

/-- every listed pair is `(k, view c s k)` for a key of the tree in range that is not deleted in
    an overlay, and the pairs come in range order: the listing is a sublist of the full one -/
theorem iter_lists_only_views (s : St K V) (lo hi : Option K) (asc : Bool) :
    (s.iter c lo hi asc).2.Sublist
      (((s.tree.rangeKeys c lo hi asc).filter (fun k => !s.deleted c k)).map
        (fun k => (k, view c s k))) := iter_foldl_sublist c s _

theorem iter_listed_pair (s : St K V) (lo hi : Option K) (asc : Bool) (p : K × Option V)
    (hp : p ∈ (s.iter c lo hi asc).2) :
    p.2 = view c s p.1 ∧ s.deleted c p.1 = false ∧ p.1 ∈ akeys s.tree.working ∧
    (∀ l, lo = some l → c.lt p.1 l = false) ∧ (∀ h, hi = some h → c.lt p.1 h = true) := by
  have h := (mem_listed_iff c s _ p).mp ((iter_lists_only_views c s lo hi asc).subset hp)
  have hr := (mem_rangeKeys c s.tree lo hi asc p.1).mp h.1
  exact ⟨h.2.2, h.2.1, hr.1, (inRange_iff c lo hi p.1).mp hr.2⟩

/-- a key of the range is missing from the listing only if it is deleted in an overlay or its read
    was refused: the state is metered, the gas was used up by the end of the iteration and the
    session does not hold the key -/
theorem iter_misses_only_refused (s : St K V) (lo hi : Option K) (asc : Bool) (k : K)
    (hk : k ∈ s.tree.rangeKeys c lo hi asc) (hd : s.deleted c k = false)
    (hmiss : (k, view c s k) ∉ (s.iter c lo hi asc).2) :
    s.metered = true ∧ s.gas.limit ≤ (s.iter c lo hi asc).1.gas.consumed ∧
    s.sess.bind (alookup k) = none := iter_foldl_missing c s hk hd hmiss

/-- with gas for all the reads nothing is missing (an unmetered state needs none) -/
theorem iter_complete_when_gas_suffices (s : St K V) (lo hi : Option K) (asc : Bool)
    (h : s.metered = true →
      s.gas.consumed + iterCost c s (s.tree.rangeKeys c lo hi asc) ≤ s.gas.limit) :
    s.iter c lo hi asc =
      (s.addGas (iterCost c s (s.tree.rangeKeys c lo hi asc)),
       ((s.tree.rangeKeys c lo hi asc).filter (fun k => !s.deleted c k)).map
         (fun k => (k, view c s k))) := iter_foldl_enough_gas c s _ [] h

/-- every read, of whatever kind and in whatever state, only advances the gas counter -/
theorem reads_change_only_gas (s : St K V) (op : Op K V) (hr : op.isRead = true) :
    ∃ d, 0 ≤ d ∧ (step c s op).1 = s.addGas d := by
  obtain ⟨d, hd, _, h⟩ := step_read_addGas c s op hr
  exact ⟨d, hd, h⟩

/-! ## `IterateRangeAll`: an iteration that visits what `Get` would find

  `IterateRange` / `Iterate` (`St.iter`, the theorems `iter_…` above) enumerate the keys of the
  TREE only: a key written earlier in the same block or transaction is not iterated (the
  code's behaviour, left as it is).  The additional method `IterateRangeAll` (`St.iterAll`, the
  theorems `iterAll_…`) enumerates the keys of the tree AND the keys pending in the block cache or
  the open session: it lists exactly what `Get` would find.

  `inRange c lo hi k` : `k` lies in `[lo, hi)`.  `dir asc l` : `l`, reversed when descending.
  `SortedDir lt asc l` : `l` is sorted in that direction.  `StrictTotal lt` : the byte order is a
  strict total order.  `s.iterKeys c lo hi asc` : the keys visited — those of the tree, the block
  cache and the session in `[lo, hi)`, each once, in iteration order (`mem_iterKeys`,
  `nodup_iterKeys`, `sorted_iterKeys`). -/

/-- `IterateRangeAll` on an unmetered state enumerates the keys in range that some layer holds
    (tree, block cache, session: `St.iterKeys`) and that are not deleted in an overlay, and reports
    for each the value a `get` would return (`iterAll_lists_exactly_visible_keys` below says the
    same without `iterKeys`) -/
theorem iterAll_returns_view (s : St K V) (hm : s.metered = false) (lo hi : Option K) (asc : Bool) :
    s.iterAll c lo hi asc =
      (s, ((s.iterKeys c lo hi asc).filter (fun k => !s.deleted c k)).map
            (fun k => (k, view c s k))) :=
  iter_foldl_unmetered c s _ hm

/-- `IterateRangeAll`, exactly, whatever the state: as `iter_returns_view_metered`, over the keys
    `s.iterKeys c lo hi asc` — those of the tree, the block cache and the session in `[lo, hi)`,
    each once, in iteration order (`mem_iterKeys`, `nodup_iterKeys`, `sorted_iterKeys`) -/
theorem iterAll_returns_view_metered (s : St K V) (lo hi : Option K) (asc : Bool) :
    ∃ n, n ≤ (s.iterKeys c lo hi asc).length ∧
      s.iterAll c lo hi asc =
        (s.addGas (iterCost c s ((s.iterKeys c lo hi asc).take n)),
         listed c s ((s.iterKeys c lo hi asc).take n) ++
           listedSess c s ((s.iterKeys c lo hi asc).drop n)) ∧
      (n < (s.iterKeys c lo hi asc).length →
        s.metered = true ∧
        s.gas.limit ≤ s.gas.consumed + iterCost c s ((s.iterKeys c lo hi asc).take n)) :=
  iter_foldl_cutoff c s _ []

theorem iterAll_lists_only_views (s : St K V) (lo hi : Option K) (asc : Bool) :
    (s.iterAll c lo hi asc).2.Sublist
      (((s.iterKeys c lo hi asc).filter (fun k => !s.deleted c k)).map
        (fun k => (k, view c s k))) := iter_foldl_sublist c s _

/-- whatever the state, metered or not: only visible keys of the range are listed, with their
    value (so no listed value is `none`) -/
theorem iterAll_lists_only_visible (s : St K V) (lo hi : Option K) (asc : Bool) (p : K × Option V)
    (hp : p ∈ (s.iterAll c lo hi asc).2) :
    p.2 = view c s p.1 ∧ (view c s p.1).isSome = true ∧ inRange c lo hi p.1 = true := by
  have h := (iter_foldl_sublist c s (s.iterKeys c lo hi asc)).subset hp
  rw [listed_iterKeys] at h
  obtain ⟨k, hk, rfl⟩ := List.mem_map.mp h
  have hv := (mem_visKeys c s lo hi asc k).mp hk
  exact ⟨rfl, hv.2, hv.1⟩

theorem iterAll_listed_pair (s : St K V) (lo hi : Option K) (asc : Bool) (p : K × Option V)
    (hp : p ∈ (s.iterAll c lo hi asc).2) :
    p.2 = view c s p.1 ∧ (view c s p.1).isSome = true ∧ s.deleted c p.1 = false ∧
    (p.1 ∈ akeys s.tree.working ∨ p.1 ∈ akeys s.cache ∨ ∃ o, s.sess = some o ∧ p.1 ∈ akeys o) ∧
    (∀ l, lo = some l → c.lt p.1 l = false) ∧ (∀ h, hi = some h → c.lt p.1 h = true) := by
  have h := iterAll_lists_only_visible c s lo hi asc p hp
  have ha := (visible_iff c s p.1).mp h.2.1
  exact ⟨h.1, h.2.1, ha.2, (mem_allKeys s p.1).mp ha.1, (inRange_iff c lo hi p.1).mp h.2.2⟩

theorem iterAll_misses_only_refused (s : St K V) (lo hi : Option K) (asc : Bool) (k : K)
    (hk : k ∈ s.iterKeys c lo hi asc) (hd : s.deleted c k = false)
    (hmiss : (k, view c s k) ∉ (s.iterAll c lo hi asc).2) :
    s.metered = true ∧ s.gas.limit ≤ (s.iterAll c lo hi asc).1.gas.consumed ∧
    s.sess.bind (alookup k) = none := iter_foldl_missing c s hk hd hmiss

theorem iterAll_complete_when_gas_suffices (s : St K V) (lo hi : Option K) (asc : Bool)
    (h : s.metered = true →
      s.gas.consumed + iterCost c s (s.iterKeys c lo hi asc) ≤ s.gas.limit) :
    s.iterAll c lo hi asc =
      (s.addGas (iterCost c s (s.iterKeys c lo hi asc)),
       ((s.iterKeys c lo hi asc).filter (fun k => !s.deleted c k)).map
         (fun k => (k, view c s k))) := iter_foldl_enough_gas c s _ [] h

/-- the same as one equation (`visKeys` = the keys `iterKeys` visits that a reader can see) -/
theorem iterAll_exactly_when_gas_suffices (s : St K V) (lo hi : Option K) (asc : Bool)
    (hg : s.metered = true →
      s.gas.consumed + iterCost c s (s.iterKeys c lo hi asc) ≤ s.gas.limit) :
    s.iterAll c lo hi asc =
      (s.addGas (iterCost c s (s.iterKeys c lo hi asc)),
       (visKeys c s lo hi asc).map (fun k => (k, view c s k))) := by
  rw [← listed_iterKeys]
  exact iter_foldl_enough_gas c s _ [] hg

/-- THE FULL STATEMENT, with gas for all the reads (an unmetered state needs none): an iteration
    lists EXACTLY the keys in `[lo, hi)` a reader can see (`view ≠ none`: written in the session,
    the block or the tree and not deleted since), each once, each with the value of the view, in
    the order asked for — it is the sorted duplicate-free list of those keys -/
theorem iterAll_lists_exactly_visible_keys_when_gas_suffices (s : St K V) (lo hi : Option K)
    (asc : Bool)
    (hg : s.metered = true →
      s.gas.consumed + iterCost c s (s.iterKeys c lo hi asc) ≤ s.gas.limit) :
    let ks := (s.iterAll c lo hi asc).2.map Prod.fst
    (s.iterAll c lo hi asc).2 = ks.map (fun k => (k, view c s k)) ∧
    (∀ k, k ∈ ks ↔ inRange c lo hi k = true ∧ (view c s k).isSome = true) ∧
    ks.Nodup ∧
    (StrictTotal c.lt →
      SortedDir c.lt asc ks ∧
      ∀ L : List K, L.Nodup →
        (∀ k, k ∈ L ↔ inRange c lo hi k = true ∧ (view c s k).isSome = true) →
        ks = dir asc (sortKeys c.lt L)) := by
  intro ks
  have hk : ks = visKeys c s lo hi asc := by
    show (s.iterAll c lo hi asc).2.map Prod.fst = _
    rw [iterAll_exactly_when_gas_suffices c s lo hi asc hg, List.map_map]
    exact List.map_id _
  rw [hk]
  exact ⟨by rw [iterAll_exactly_when_gas_suffices c s lo hi asc hg], mem_visKeys c s lo hi asc,
    nodup_visKeys c s lo hi asc,
    fun ho => ⟨sorted_visKeys c s ho lo hi asc, visKeys_unique c s ho lo hi asc⟩⟩

theorem iterAll_lists_exactly_visible_keys (s : St K V) (hm : s.metered = false) (lo hi : Option K)
    (asc : Bool) :
    let ks := (s.iterAll c lo hi asc).2.map Prod.fst
    (s.iterAll c lo hi asc).2 = ks.map (fun k => (k, view c s k)) ∧
    (∀ k, k ∈ ks ↔ inRange c lo hi k = true ∧ (view c s k).isSome = true) ∧
    ks.Nodup ∧
    (StrictTotal c.lt →
      SortedDir c.lt asc ks ∧
      ∀ L : List K, L.Nodup →
        (∀ k, k ∈ L ↔ inRange c lo hi k = true ∧ (view c s k).isSome = true) →
        ks = dir asc (sortKeys c.lt L)) :=
  iterAll_lists_exactly_visible_keys_when_gas_suffices c s lo hi asc
    (fun h => by rw [hm] at h; cases h)

/-- every visible key of the range is listed unless the meter refused its read (metered,
    gas used up by the end of the iteration, key not answered by the session) -/
theorem iterAll_lists_visible_unless_refused (s : St K V) (lo hi : Option K) (asc : Bool) (k : K)
    (hr : inRange c lo hi k = true) (hv : (view c s k).isSome = true) :
    (k, view c s k) ∈ (s.iterAll c lo hi asc).2 ∨
    (s.metered = true ∧ s.gas.limit ≤ (s.iterAll c lo hi asc).1.gas.consumed ∧
      s.sess.bind (alookup k) = none) := by
  have hvis := (visible_iff c s k).mp hv
  exact Classical.or_iff_not_imp_left.mpr (iterAll_misses_only_refused c s lo hi asc k
    ((mem_iterKeys c s lo hi asc k).mpr ⟨hvis.1, hr⟩) hvis.2)

/-- WHAT `IterateRangeAll` IS FOR: a key written earlier in the same block or transaction is
    iterated, whether or not the tree holds it — unless the meter refuses the read, which can
    only happen to a write that went to the metered block cache (no session open) -/
theorem iterAll_sees_pending_writes (s : St K V) (k : K) (v : V) (lo hi : Option K) (asc : Bool)
    (h : (s.set c k v).2 = .ok) (hr : inRange c lo hi k = true) :
    (k, some v) ∈ ((s.set c k v).1.iterAll c lo hi asc).2 ∨
    (s.metered = true ∧ s.sess = none ∧
      s.gas.limit ≤ ((s.set c k v).1.iterAll c lo hi asc).1.gas.consumed) := by
  obtain ⟨hv, _, hview⟩ := set_ok c s k v h
  have hvk : view c (s.set c k v).1 k = some v := by rw [hview]; simp [upd]
  rcases iterAll_lists_visible_unless_refused c (s.set c k v).1 lo hi asc k hr (by rw [hvk]; rfl)
    with hl | ⟨hm, hx, hs⟩
  · left; rw [hvk] at hl; exact hl
  · obtain ⟨_, hmet, hlim⟩ := (set_accessed c s k v).frame
    refine Or.inr ⟨hmet.symm.trans hm, ?_, hlim ▸ hx⟩
    -- a session would hold the key after the write
    cases ho : s.sess with
    | none => rfl
    | some o =>
      rw [set_sess c s ho k v hv] at hs
      simp at hs

theorem iterAll_sees_pending_writes_unmetered (s : St K V) (hm : s.metered = false) (k : K) (v : V)
    (lo hi : Option K) (asc : Bool) (h : (s.set c k v).2 = .ok) (hr : inRange c lo hi k = true) :
    (k, some v) ∈ ((s.set c k v).1.iterAll c lo hi asc).2 := by
  rcases iterAll_sees_pending_writes c s k v lo hi asc h hr with hl | ⟨hm', _⟩
  · exact hl
  · rw [hm] at hm'; cases hm'

/-- … and what a transaction wrote itself (session open) always, metered or not, gas or not -/
theorem iterAll_sees_pending_writes_session (s : St K V) (hs : s.sess.isSome = true) (k : K) (v : V)
    (lo hi : Option K) (asc : Bool) (h : (s.set c k v).2 = .ok) (hr : inRange c lo hi k = true) :
    (k, some v) ∈ ((s.set c k v).1.iterAll c lo hi asc).2 := by
  rcases iterAll_sees_pending_writes c s k v lo hi asc h hr with hl | ⟨_, hn, _⟩
  · exact hl
  · rw [hn] at hs; cases hs

/-- a key whose delete took effect is not iterated, whatever the tree holds for it -/
theorem iterAll_skips_pending_deletes (s : St K V) (hw : ¬ WriteRefused s) (k : K)
    (lo hi : Option K) (asc : Bool) :
    ∀ p ∈ ((s.del c k).iterAll c lo hi asc).2, p.1 ≠ k := by
  intro p hp hk
  have := (iterAll_lists_only_visible c (s.del c k) lo hi asc p hp).2.1
  rw [hk, ((view_del_always c s k).resolve_right (hw ·.1)).2] at this
  simp [upd] at this

/-- every key pending as deleted in an overlay is skipped (it is not visible) -/
theorem iterAll_skips_deleted (s : St K V) (lo hi : Option K) (asc : Bool) (k : K)
    (hd : s.deleted c k = true) : ∀ p ∈ (s.iterAll c lo hi asc).2, p.1 ≠ k := by
  intro p hp hk
  have := (iterAll_listed_pair c s lo hi asc p hp).2.2.1
  rw [hk, hd] at this
  cases this

/-! ### `IterateRangeAll` and `IterateRange` -/

/-- the trees of reachable states hold no key twice (in the working tree and in every retained
    version): `Tree.KeysNodup` is kept by every operation (`hn` of
    `iterAll_eq_iter_when_nothing_pending` below) -/
theorem tree_keys_nodup_step (s : St K V) (h : s.tree.KeysNodup) (op : Op K V) :
    (step c s op).1.tree.KeysNodup :=
  step_tree_induct c s Tree.KeysNodup (fun _ _ _ h => ⟨nodup_akeys_upsert _ _ _ h.1, h.2⟩)
    (fun _ _ h => ⟨nodup_akeys_aerase _ _ h.1, h.2⟩) saved_keysNodup deleteVersion_keysNodup
    reopen_keysNodup op h

theorem tree_keys_nodup_reachable (rot : Rot) (ops : List (Op K V)) :
    (run c (St.new (Tree.empty rot)) ops).1.tree.KeysNodup :=
  run_invariant c (·.tree.KeysNodup) (tree_keys_nodup_step c) ops _ ⟨List.nodup_nil, nofun⟩

/-- with nothing pending (empty block cache, no session: the state of a query, or of a block
    before its first write) the two iterations are the same, state and listing -/
theorem iterAll_eq_iter_when_nothing_pending (s : St K V) (hc : s.cache = []) (hs : s.sess = none)
    (hn : (akeys s.tree.working).Nodup) (lo hi : Option K) (asc : Bool) :
    s.iterAll c lo hi asc = s.iter c lo hi asc := by
  rw [iterAll_eq_foldl, iter_eq_foldl, iterKeys_nothing_pending c s hc hs hn]

theorem rangeKeys_subset_iterKeys (s : St K V) (lo hi : Option K) (asc : Bool) (k : K)
    (hk : k ∈ s.tree.rangeKeys c lo hi asc) : k ∈ s.iterKeys c lo hi asc := by
  have h := (mem_rangeKeys c s.tree lo hi asc k).mp hk
  exact (mem_iterKeys c s lo hi asc k).mpr ⟨(mem_allKeys s k).mpr (Or.inl h.1), h.2⟩

theorem iter_listed_by_iterAll_unless_refused (s : St K V) (lo hi : Option K) (asc : Bool)
    (p : K × Option V) (hp : p ∈ (s.iter c lo hi asc).2) :
    p ∈ (s.iterAll c lo hi asc).2 ∨
    (s.metered = true ∧ s.gas.limit ≤ (s.iterAll c lo hi asc).1.gas.consumed ∧
      s.sess.bind (alookup p.1) = none) := by
  obtain ⟨k, v⟩ := p
  have h := (mem_listed_iff c s _ _).mp ((iter_lists_only_views c s lo hi asc).subset hp)
  obtain rfl : v = view c s k := h.2.2
  exact Classical.or_iff_not_imp_left.mpr (iterAll_misses_only_refused c s lo hi asc k
    (rangeKeys_subset_iterKeys c s lo hi asc k h.1) h.2.1)

/-- with gas for all the reads of `IterateRangeAll` (an unmetered state needs none) every pair
    `IterateRange` lists is listed by `IterateRangeAll` -/
theorem iter_sublist_of_iterAll (s : St K V) (lo hi : Option K) (asc : Bool)
    (hg : s.metered = true →
      s.gas.consumed + iterCost c s (s.iterKeys c lo hi asc) ≤ s.gas.limit)
    (p : K × Option V) (hp : p ∈ (s.iter c lo hi asc).2) : p ∈ (s.iterAll c lo hi asc).2 := by
  have h := (mem_listed_iff c s _ p).mp ((iter_lists_only_views c s lo hi asc).subset hp)
  rw [iterAll_complete_when_gas_suffices c s lo hi asc hg]
  exact (mem_listed_iff c s _ p).mpr ⟨rangeKeys_subset_iterKeys c s lo hi asc p.1 h.1, h.2⟩

/-- `IterateRange` does NOT see a key that is only pending (the behaviour of the code, left as it
    is, beside which `IterateRangeAll` was added): a key the tree does not hold is never listed by it -/
theorem iter_misses_pending_only_keys (s : St K V) (lo hi : Option K) (asc : Bool) (k : K)
    (hk : k ∉ akeys s.tree.working) : ∀ p ∈ (s.iter c lo hi asc).2, p.1 ≠ k := by
  intro p hp e
  exact hk (e ▸ (iter_listed_pair c s lo hi asc p hp).2.2.1)

/-! ## 3. Sessions: writes of a discarded session are never visible -/

theorem view_begin (s : St K V) : view c s.begin = baseView c s := by
  funext k
  simp [view, St.begin, baseView, blockView]

theorem baseView_begin (s : St K V) : baseView c s.begin = baseView c s := rfl

theorem session_writes_keep_base (s : St K V) (h : s.sess.isSome) (k : K) (v : V) :
    baseView c (s.set c k v).1 = baseView c s ∧ baseView c (s.del c k) = baseView c s := by
  cases hs : s.sess with
  | none => simp [hs] at h
  | some o =>
    rw [del_sess c s hs]
    refine ⟨?_, rfl⟩
    by_cases hv : v = c.tomb
    · rw [hv, set_tombstone_refused]
    · rw [set_sess c s hs k v hv]
      rfl

theorem discard_invisible (s : St K V) : view c s.dsess = baseView c s ∧ s.dsess.sess = none := by
  refine ⟨?_, rfl⟩
  funext k
  simp [view, St.dsess, baseView, blockView]

/-- committing the session keeps what readers see (`wf`: overlays hold no key twice, which
    `wf_step` shows for every reachable state) -/
theorem csess_keeps_view (s s' : St K V) (wf : s.WF) (h : s.csess = some s') :
    view c s' = view c s ∧ baseView c s' = view c s ∧ s'.sess = none := by
  unfold St.csess at h
  cases hs : s.sess with
  | none => simp [hs] at h
  | some o =>
    simp only [hs, Option.some.injEq] at h
    subst h
    have key : baseView c { s with cache := commitInto s.cache o, sess := none } = view c s := by
      funext k
      simp only [baseView, view, blockView, hs, Option.bind_some, commitInto,
        alookup_foldl_upsert o s.cache (wf.2.1 o hs) k]
      cases alookup k o <;> rfl
    exact ⟨key, key, rfl⟩

theorem csess_panics_iff_no_session (s : St K V) : s.csess = none ↔ s.sess = none := by
  unfold St.csess
  cases s.sess <;> simp

/-- a whole session that ends in a discard leaves the state exactly as it was -/
theorem discarded_session_noop (s : St K V) (hm : s.metered = false) (hs : s.sess = none)
    (ws : List (Op K V)) (hw : ∀ o ∈ ws, o.isKeyWrite = true ∨ o.isRead = true) :
    (run c s (.begin :: ws ++ [.dsess])).1 = s := by
  obtain ⟨d, _, hz, h⟩ := run_discarded_session c s hs ws hw
  rw [h, hz hm, addGas_zero]

/-- … metered or not: only the gas counter has advanced (by what the reads were charged) -/
theorem discarded_session_noop_always (s : St K V) (hs : s.sess = none)
    (ws : List (Op K V)) (hw : ∀ o ∈ ws, o.isKeyWrite = true ∨ o.isRead = true) :
    ∃ d, 0 ≤ d ∧ (run c s (.begin :: ws ++ [.dsess])).1 = s.addGas d := by
  obtain ⟨d, hd, _, h⟩ := run_discarded_session c s hs ws hw
  exact ⟨d, hd, h⟩

/-! ## 4. Commit persists exactly the block's surviving writes as a new immutable version -/

theorem commit_persists_block (s : St K V) (wf : s.WF) :
    (∀ k, (s.commit c).tree.get k = baseView c s k) ∧
    view c (s.commit c) = baseView c s ∧
    (s.commit c).tree.version = s.tree.version + 1 ∧
    (∀ k, (s.commit c).tree.getVersioned ((s.tree.version + 1 : Nat) : Int) k = baseView c s k) := by
  have hv := writeInto_versions c s.cache s.tree
  have hf := commit_fields (writeInto c s.tree s.cache)
  have hg := writeInto_get c s.cache s.tree wf.1
  have h1 : ∀ k, (s.commit c).tree.get k = baseView c s k := fun k =>
    (congrArg (alookup k) hf.1).trans (hg k)
  refine ⟨h1, ?_, ?_, ?_⟩
  · -- a fresh state has no overlay: its view is the tree
    funext k
    exact h1 k
  · exact hf.2.1.trans (congrArg (· + 1) hv.2.1)
  · intro k
    have := commit_getVersioned_new _ (WF_of_versions_eq _ _ hv.1 hv.2.1 wf.2.2) k
    rw [hv.2.1] at this
    exact this.trans (hg k)

theorem wf_empty (rot : Rot) : (Tree.empty rot : Tree K V).WF := by
  simp [Tree.WF, Tree.empty]

theorem wf_step (s : St K V) (wf : s.WF) (op : Op K V) : (step c s op).1.WF := by
  have ht : (step c s op).1.tree.WF :=
    step_tree_induct c s Tree.WF (fun _ _ _ h => h) (fun _ _ h => h) saved_WF deleteVersion_WF
      (fun t h => WF_of_versions_eq _ _ (reopen_fields t).1 (reopen_fields t).2 h) op wf.2.2
  cases op with
  | newState l => cases l <;> exact ⟨List.nodup_nil, nofun, ht⟩
  | set | del => exact (step_accessed c s _ (.inr rfl)).WF wf
  | get | has | iter | iterAll | getv | gas => exact (step_accessed c s _ (.inl rfl)).WF wf
  | begin => exact ⟨wf.1, fun o ho => Option.some.inj ho ▸ List.nodup_nil, ht⟩
  | csess =>
    rw [step_csess] at ht ⊢
    cases hs : s.sess with
    | none => exact wf
    | some o => exact ⟨nodup_akeys_foldl_upsert o s.cache wf.1, nofun, wf.2.2⟩
  | dsess => exact ⟨wf.1, nofun, ht⟩
  | write => exact ⟨wf.1, wf.2.1, ht⟩
  | commit | reopen => exact ⟨List.nodup_nil, nofun, ht⟩

theorem wf_reachable (rot : Rot) (ops : List (Op K V)) :
    (run c (St.new (Tree.empty rot)) ops).1.WF :=
  run_invariant c St.WF (wf_step c) ops _ ⟨List.nodup_nil, nofun, wf_empty rot⟩

theorem noncommit_keeps_versions (s : St K V) (op : Op K V) (h : op ≠ .commit) :
    (step c s op).1.tree.versions = s.tree.versions ∧ (step c s op).1.tree.version = s.tree.version := by
  rw [(step_tree_metered c s op).1]
  split
  · exact ⟨(writeInto_versions c _ _).1, (writeInto_versions c _ _).2.1⟩
  · exact absurd rfl h
  · exact reopen_fields s.tree
  · exact ⟨rfl, rfl⟩

/-- earlier versions keep returning their old values (or nothing, once rotated away) -/
theorem old_versions_immutable (s : St K V) (wf : s.tree.WF) (op : Op K V) (ver : Int) (k : K)
    (hver : ver ≤ (s.tree.version : Int)) :
    (step c s op).1.tree.getVersioned ver k = s.tree.getVersioned ver k ∨
    (step c s op).1.tree.getVersioned ver k = none := by
  have _ := wf  -- not used
  by_cases hc : op = .commit
  · subst hc
    have hv := writeInto_versions c s.cache s.tree
    have h := commit_getVersioned_old (writeInto c s.tree s.cache) ver k (by rw [hv.2.1]; exact hver)
    rw [getVersioned_congr s.tree (writeInto c s.tree s.cache) hv.1] at h
    exact h
  · exact Or.inl (getVersioned_congr _ _ (noncommit_keeps_versions c s op hc).1 ver k)

theorem reopen_returns_last_commit (s : St K V) (wf : s.tree.WF) (k : K) :
    view c (step c s .reopen).1 k = s.tree.getVersioned (s.tree.version : Int) k :=
  have _ := wf
  reopen_get s.tree k

/-! ## 5. The root hash input (the write log) is a function of the writes only -/

/-- reads leave an unmetered state untouched -/
theorem reads_change_nothing (s : St K V) (hm : s.metered = false) (op : Op K V)
    (hr : op.isRead = true) : (step c s op).1 = s := by
  obtain ⟨d, _, hz, h⟩ := step_read_addGas c s op hr
  rw [h, hz hm, addGas_zero]

/-- metered or not, reads never touch overlays or tree (only the gas counter) -/
theorem reads_never_touch_data (s : St K V) (op : Op K V) (hr : op.isRead = true) :
    (step c s op).1.tree = s.tree ∧ (step c s op).1.cache = s.cache ∧ (step c s op).1.sess = s.sess := by
  obtain ⟨d, _, _, h⟩ := step_read_addGas c s op hr
  rw [h]
  exact ⟨rfl, rfl, rfl⟩

theorem erase_reads_same_state (s : St K V) (hm : s.metered = false) (ops : List (Op K V))
    (hnm : ∀ op ∈ ops, op.isMeteredNew = false) :
    (run c s (ops.filter (fun o => !o.isRead))).1 = (run c s ops).1 := by
  induction ops generalizing s with
  | nil => rfl
  | cons op t ih =>
    have hnm' : ∀ op ∈ t, op.isMeteredNew = false := fun o ho => hnm o (List.mem_cons_of_mem _ ho)
    by_cases hr : op.isRead = true
    · rw [List.filter_cons_of_neg (by simp [hr]), run_cons_fst, reads_change_nothing c s hm op hr]
      exact ih s hm hnm'
    · rw [List.filter_cons_of_pos (by simp [hr]), run_cons_fst, run_cons_fst]
      refine ih _ ?_ hnm'
      -- no other operation than a metered `newState` switches the meter on
      rw [(step_tree_metered c s op).2]
      split
      · next l => cases l; rfl; exact hnm _ List.mem_cons_self
      · rfl
      · rfl
      · exact hm

theorem log_changes_only_at_write_commit_reopen (s : St K V) (op : Op K V)
    (h : match op with | .write | .commit | .reopen => False | _ => True) :
    (step c s op).1.tree.log = s.tree.log := by
  rw [(step_tree_metered c s op).1]
  split <;> first | exact h.elim | rfl

/-- `Write()` replays the block cache in first-write order; tombstones become removals -/
theorem commit_log_first_write_order (s : St K V) :
    (s.commit c).tree.log = s.tree.log ++ s.cache.map (toTreeOp c) ++ [.save] := commit_log c s

/-- a committed session lands in the block cache in first-write order, behind the keys
    the block already wrote -/
theorem csess_first_write_order (s s' : St K V) (o : List (K × V)) (ho : s.sess = some o)
    (hn : (akeys o).Nodup) (h : s.csess = some s') :
    akeys s'.cache = akeys s.cache ++ (akeys o).filter (fun k => decide (k ∉ akeys s.cache)) := by
  simp only [St.csess, ho, Option.some.injEq] at h
  subst h
  exact akeys_foldl_upsert o s.cache hn

/-! ## 6. Gas metering -/

theorem gas_monotone (s : St K V) (op : Op K V)
    (h : match op with | .newState _ | .reopen => False | _ => True) :
    s.gas.consumed ≤ (step c s op).1.gas.consumed := by
  cases op with
  | newState | reopen => exact h.elim
  | set | del => exact (step_accessed c s _ (.inr rfl)).mono
  | get | has | iter | iterAll | getv | gas => exact (step_accessed c s _ (.inl rfl)).mono
  | csess => rw [step_csess]; cases s.sess <;> exact Int.le_refl _
  | _ => exact Int.le_refl _

/-- once `consumed ≥ limit` the metered block cache refuses (no session open): writes fail and
    change nothing, a `Get` fails with the gas error and changes nothing (before the fix it fell
    through to the committed tree), `Exists` still answers for the view, free of charge, and an
    iteration lists nothing -/
theorem gas_refusal (s : St K V) (hm : s.metered = true) (hx : s.gas.consumed ≥ s.gas.limit)
    (hs : s.sess = none) (k : K) (v : V) :
    (v ≠ c.tomb → s.set c k v = (s, .errGas)) ∧ s.del c k = s ∧ s.get c k = (s, .errGas) ∧
    s.has c k = (s, (view c s k).isSome) ∧
    (∀ lo hi asc, s.iter c lo hi asc = (s, [])) ∧
    (∀ lo hi asc, s.iterAll c lo hi asc = (s, [])) := by
  have hb : ∀ k, s.sess.bind (alookup k) = none := fun k => by rw [hs]; rfl
  have hl : ∀ ks : List K, ks.foldl (iterStep c) (s, []) = (s, []) := fun ks => by
    rw [iter_foldl_exhausted c s _ _ hm hx]
    simp [listedSess, hb]
  refine ⟨fun hv => ?_, ?_, ?_, ?_, fun _ _ _ => hl _, fun _ _ _ => hl _⟩
  · rw [set_exact, if_neg hv, if_pos ⟨hm, hx, hs⟩]
  · rw [del_exact, if_pos ⟨hm, hx, hs⟩]
  · rw [get_exact, if_pos ⟨hm, hx, hb k⟩]
  · rw [has_exact, if_neg (fun h => Int.not_lt.mpr hx h.2.2), addGas_zero]

/-- with a session open the refusal concerns only the keys the session does not hold: what the
    transaction wrote itself stays readable -/
theorem gas_refusal_in_session (s : St K V) (hm : s.metered = true)
    (hx : s.gas.consumed ≥ s.gas.limit) (k : K) :
    ((s.sess.bind (alookup k)).isSome = true → s.get c k = (s, .val (view c s k))) ∧
    (s.sess.bind (alookup k) = none → s.get c k = (s, .errGas)) ∧
    s.has c k = (s, (view c s k).isSome) := by
  refine ⟨?_, ?_, ?_⟩
  · intro h
    rw [get_returns_view_when_served c s k (Or.inr (Or.inr h)), readCost_sess c s k h, addGas_zero]
  · intro h
    rw [get_exact, if_pos ⟨hm, hx, h⟩]
  · rw [has_exact, if_neg (fun h => Int.not_lt.mpr hx h.2.2), addGas_zero]

/-! ## Non-vacuity: the hypotheses are met by concrete non-trivial states -/

def exCfg : Cfg Nat Nat := { tomb := 0, vlen := fun _ => 1, lt := fun a b => decide (a < b) }
def exState : St Nat Nat := (run exCfg (St.new (Tree.empty ⟨1, 0, 0⟩))
  [.set 1 10, .set 2 20, .commit, .begin, .del 1, .set 3 30]).1

example : exState.metered = false ∧ exState.sess.isSome ∧ exState.tree.WF ∧
    view exCfg exState 1 = none ∧ view exCfg exState 3 = some 30 ∧
    baseView exCfg exState 1 = some 10 ∧ exState.tree.version = 1 := by
  unfold Tree.WF
  decide

/-- a metered state below its limit: block cache over a committed tree -/
def exMetered : St Nat Nat := (run exCfg (St.new (Tree.empty ⟨1, 0, 0⟩))
  [.set 1 10, .set 2 20, .commit, .newState (some 1000), .set 3 30, .del 2]).1

example : exMetered.metered = true ∧ exMetered.gas.consumed = 270 ∧ exMetered.gas.limit = 1000 ∧
    ¬ Refused exMetered 1 ∧
    (exMetered.get exCfg 1).2 = .val (some 10) ∧ (exMetered.get exCfg 2).2 = .val none ∧
    (exMetered.get exCfg 3).2 = .val (some 30) ∧ (exMetered.get exCfg 3).1.gas.consumed = 292 ∧
    (exMetered.has exCfg 2).2 = false ∧ (exMetered.has exCfg 3).2 = true ∧
    exMetered.tree.get 2 = some 20 ∧
    (exMetered.iter exCfg none none true).2 = [(1, some 10)] ∧
    exMetered.gas.consumed + iterCost exCfg exMetered (exMetered.tree.rangeKeys exCfg none none true)
      ≤ exMetered.gas.limit := by
  decide

/-- the same block with a limit it has used up: the delete of key 2 was refused, every `Get`
    fails instead of showing the tree, `Exists` still answers for the view -/
def exFull : St Nat Nat := (run exCfg (St.new (Tree.empty ⟨1, 0, 0⟩))
  [.set 1 10, .set 2 20, .commit, .newState (some 100), .set 3 30, .del 2]).1

example : exFull.metered = true ∧ exFull.gas.consumed = 220 ∧ exFull.gas.limit = 100 ∧
    exFull.sess = none ∧ Refused exFull 1 ∧ Refused exFull 3 ∧ WriteRefused exFull ∧
    (exFull.get exCfg 1).2 = .errGas ∧ view exCfg exFull 1 = some 10 ∧
    (exFull.get exCfg 3).2 = .errGas ∧ view exCfg exFull 3 = some 30 ∧
    exFull.tree.get 3 = none ∧
    (exFull.has exCfg 1).2 = true ∧ (exFull.has exCfg 3).2 = true ∧ (exFull.has exCfg 4).2 = false ∧
    (exFull.set exCfg 5 50).2 = .errGas ∧ view exCfg (exFull.del exCfg 1) 1 = some 10 ∧
    (exFull.iter exCfg none none true).2 = [] := by
  decide

/-- … and with a session opened over it: the session's own writes stay readable, iteration lists
    the tree keys the session answers and misses the others -/
def exFullSess : St Nat Nat := (run exCfg exFull [.begin, .set 1 11, .set 5 50]).1

example : exFullSess.metered = true ∧ exFullSess.gas.consumed ≥ exFullSess.gas.limit ∧
    (exFullSess.get exCfg 1).2 = .val (some 11) ∧ (exFullSess.get exCfg 5).2 = .val (some 50) ∧
    (exFullSess.get exCfg 2).2 = .errGas ∧ view exCfg exFullSess 2 = some 20 ∧
    (exFullSess.has exCfg 2).2 = true ∧
    (exFullSess.iter exCfg none none true).2 = [(1, some 11)] ∧
    exFullSess.tree.rangeKeys exCfg none none true = [1, 2] := by
  decide

/-- pending keys are iterated: key 1 is in the tree (and deleted in the session), key 2 only in
    the block cache, key 3 only in the session; `IterateRange` lists nothing, `IterateRangeAll` the two pending keys -/
def exPending : St Nat Nat := (run exCfg (St.new (Tree.empty ⟨1, 0, 0⟩))
  [.set 1 10, .commit, .set 2 20, .begin, .set 3 30, .del 1]).1

example : exPending.metered = false ∧
    akeys exPending.tree.working = [1] ∧ akeys exPending.cache = [2] ∧
    exPending.sess.map akeys = some [3, 1] ∧
    exPending.tree.rangeKeys exCfg none none true = [1] ∧
    exPending.iterKeys exCfg none none true = [1, 2, 3] ∧
    (exPending.iter exCfg none none true).2 = [] ∧
    (exPending.iterAll exCfg none none true).2 = [(2, some 20), (3, some 30)] ∧
    (exPending.iterAll exCfg none none false).2 = [(3, some 30), (2, some 20)] ∧
    (exPending.iterAll exCfg (some 3) none true).2 = [(3, some 30)] ∧
    (exPending.iterAll exCfg none (some 3) true).2 = [(2, some 20)] ∧
    view exCfg exPending 1 = none ∧ view exCfg exPending 2 = some 20 ∧
    view exCfg exPending 3 = some 30 := by
  decide

/-- the same under a meter with gas left -/
def exPendingMetered : St Nat Nat := (run exCfg (St.new (Tree.empty ⟨1, 0, 0⟩))
  [.set 1 10, .commit, .newState (some 1000), .set 2 20, .begin, .set 3 30]).1

example : exPendingMetered.metered = true ∧
    (exPendingMetered.iter exCfg none none true).2 = [(1, some 10)] ∧
    (exPendingMetered.iterAll exCfg none none true).2 = [(1, some 10), (2, some 20), (3, some 30)] ∧
    exPendingMetered.gas.consumed +
      iterCost exCfg exPendingMetered (exPendingMetered.iterKeys exCfg none none true)
        ≤ exPendingMetered.gas.limit := by
  decide

/-- the byte order of the examples is a strict total order -/
example : StrictTotal exCfg.lt :=
  ⟨fun a => decide_eq_false (Nat.lt_irrefl a),
   fun _ _ _ h1 h2 => decide_eq_true (Nat.lt_trans (of_decide_eq_true h1) (of_decide_eq_true h2)),
   fun _ _ h => (Nat.lt_or_gt_of_ne h).imp decide_eq_true decide_eq_true⟩

/-- with the gas used up and a session open (`exFullSess`): both iterations list only what the
    session answers; `IterateRangeAll` also the key 5 that only the session holds -/
example : (exFullSess.iter exCfg none none true).2 = [(1, some 11)] ∧
    (exFullSess.iterAll exCfg none none true).2 = [(1, some 11), (5, some 50)] ∧
    exFullSess.iterKeys exCfg none none true = [1, 2, 3, 5] ∧
    (exFull.iterAll exCfg none none true).2 = [] ∧
    (exMetered.iterAll exCfg none none true).2 = [(1, some 10), (3, some 30)] := by
  decide +kernel

/-- nothing pending: the two iterations agree (hypotheses of `iterAll_eq_iter_when_nothing_pending`) -/
def exClean : St Nat Nat := (run exCfg (St.new (Tree.empty ⟨1, 0, 0⟩))
  [.set 2 20, .set 1 10, .commit, .newState (some 1000)]).1

example : exClean.cache = [] ∧ exClean.sess = none ∧ (akeys exClean.tree.working).Nodup ∧
    (exClean.iterAll exCfg none none true).2 = [(1, some 10), (2, some 20)] ∧
    (exClean.iter exCfg none none true).2 = [(1, some 10), (2, some 20)] := by
  decide

end OLP.Props.C09
