/-
  C15 — vote counting and the two thresholds, tied to the source by translation (T2b).

  `Tracker.GetVotes` (a loop over the vote slots: translated as a left fold), `Tracker.Finalized`
  and `Tracker.Failed` are translated WHOLE from /repo's working tree; the model's `countVotes`,
  `Tracker.finalized` and `Tracker.failedV` are proved to be these functions. A changed
  comparison (`>=` for `>`), a changed threshold, a vote value counted for the wrong side or a
  slot skipped by the loop changes the generated definition and breaks a theorem here.
-/
import OLP.Gen.Funcs
import OLP.Eth.Tracker

namespace OLP.Props.C15
open OLP.Eth
open OLP.Gen

theorem foldl_pair_count {f : Int × Int → Int → Int × Int}
    (hf : ∀ a x, f a x = (a.1 + (if x = 1 then 1 else 0), a.2 + (if x = 2 then 1 else 0)))
    (vs : List Nat) (a : Int × Int) :
    List.foldl f a (vs.map Int.ofNat) = (a.1 + (countVotes 1 vs : Int), a.2 + (countVotes 2 vs : Int)) := by
  induction vs generalizing a with
  | nil => simp [countVotes]
  | cons v vs ih =>
    simp only [List.map_cons, List.foldl_cons, ih, hf, countVotes]
    by_cases e1 : v = 1 <;> by_cases e2 : v = 2 <;> simp [e1, e2] <;> omega

theorem getVotes_is_count (vs : List Nat) :
    Funcs.trackerGetVotes (vs.map Int.ofNat) = ((countVotes 1 vs : Int), (countVotes 2 vs : Int)) := by
  unfold Funcs.trackerGetVotes
  dsimp only
  rw [foldl_pair_count]
  · simp
  · intro a x
    rcases a with ⟨y, n⟩
    by_cases h1 : x = 1 <;> by_cases h2 : x = 2 <;> simp [h1, h2] <;> omega

/-- the source's comparison `votes ≥ l * 2 / 3 + 1` (truncated division) is the model's threshold test -/
theorem source_threshold (t : Tracker) (k : Nat) :
    decide ((k : Int) ≥ Int.tdiv ((t.witnesses.length : Int) * 2) 3 + 1) = decide (t.threshold ≤ k) := by
  unfold Tracker.threshold
  rw [Int.tdiv_eq_ediv_of_nonneg (by omega), decide_eq_decide]
  omega

/-- the source's `Finalized` (whole function: the vote loop, the threshold, the comparison) is the
    model's -/
theorem finalized_is_source (t : Tracker) :
    t.finalized = Funcs.trackerFinalized t.witnesses.length (t.votes.map Int.ofNat) := by
  unfold Funcs.trackerFinalized
  simp only [getVotes_is_count]
  exact (source_threshold t _).symm

theorem failed_is_source (t : Tracker) :
    t.failedV = Funcs.trackerFailed t.witnesses.length (t.votes.map Int.ofNat) := by
  unfold Funcs.trackerFailed
  simp only [getVotes_is_count]
  exact (source_threshold t _).symm

/-- both verdicts at once are impossible in the source's own terms: yes and no votes are counted
    over the same slots, and two thresholds of more than two thirds do not fit into the slots -/
theorem source_not_both (t : Tracker) (hl : t.votes.length = t.witnesses.length) :
    ¬ (Funcs.trackerFinalized t.witnesses.length (t.votes.map Int.ofNat) = true ∧
       Funcs.trackerFailed t.witnesses.length (t.votes.map Int.ofNat) = true) := by
  rw [← finalized_is_source, ← failed_is_source]
  exact not_finalized_and_failed t hl

end OLP.Props.C15
