import OLP.Gen.Arith
import OLP.Gov.Model

/-!
# C14 — arithmetic leaves tied to the source by translation (T2)

The two integer comparisons of `ResultSoFar` (inside `if totalPower > 0`), regenerated from /repo's
working tree, are the model's `passCond` / `failCond` for a positive counted power.
-/

namespace OLP.Props.C14

open OLP.Gov

theorem pass_condition_is_source (yes all giveup pass : Int) (h : all - giveup > 0) :
    passCond yes all giveup pass ↔ OLP.Gen.Arith.govPassed yes pass (all - giveup) = true := by
  unfold passCond OLP.Gen.Arith.govPassed
  rw [if_pos h]; simp

theorem fail_condition_is_source (no all giveup pass : Int) (h : all - giveup > 0) :
    failCond no all giveup pass ↔ OLP.Gen.Arith.govFailed (all - giveup) no pass = true := by
  unfold failCond OLP.Gen.Arith.govFailed
  rw [if_pos h]; simp

end OLP.Props.C14
