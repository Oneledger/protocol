/-
  C19 — Allegations: verdicts follow votes, frozen stays frozen, penalties bounded.

  "A validator is declared guilty or innocent only when the yes or no votes of distinct currently
  active validators cross the configured share, each active validator counting at most once per
  allegation; a guilty validator is frozen, loses exactly the configured percentage of its stake of
  which at most the penalty goes to the bounty program, drops out of the validator set, and can
  neither stake, unstake nor withdraw until it is released after the configured release time.
  Accounts that are not active validators cannot open or vote on allegations."

  Theorems are over the model `OLP.Alleg` (a port of the Go code as written, tied to it by the
  `alleg` correspondence engine).  Eight deviations this check found in the code were repaired
  (7eb2406, 73dca0f, 6709f41, 1d3139c, 8e5280a, df2e1ab, 92417eb, d2f2af2); the clauses they concerned are
  proved at full strength now and their former counterexamples are kept as regression examples,
  the harness replays the same scenarios on the implementation
  (harness/apph/alleg_script.go, corpus/C19).

  Vocabulary defined in `OLP/Alleg/Lemmas.lean`: `TallyRuns`, `byzRec`, `ByzSince`, `NotRelease`,
  `TimeFrom`, `VotesNodup`, `OnePerAccused`, `Exact`, and for the examples `tallyWith_core`,
  `beginBlock_of_sorted`.

  Float assumption (`Exact F`): only the penalty is still computed in `big.Float`; it is a
  parameter of the model and `penalty_exact_and_bounty_le_penalty` assumes it equals the exact
  rounding.  The thresholds are integer arithmetic in the code and in the model.
-/
import OLP.Alleg.Lemmas

namespace OLP.Props.C19
open OLP OLP.Alleg

/-! ## sample world for the non-vacuity and regression examples -/

/-- options: vote share 50 %, allegation share 50 %, penalty 30 %, bounty 50 %, release after 1 day,
    missed-votes window 3 blocks / 2 votes -/
def o50 : Opts := ⟨2, 3, 30, 100, 50, 100, 1, 50, 100, 50, 100⟩

def prev4 : List (Addr × ValRec) := [("a0", ⟨"s0", 10⟩), ("a1", ⟨"s1", 10⟩), ("a2", ⟨"s2", 10⟩), ("a3", ⟨"s3", 15⟩)]

/-- four active validators, one open request `r1` by `a0` against `a3` with the given votes -/
def sampleState (votes : List Vote) : State :=
  { State.empty with
    reqs := [("r1", ⟨"a0", "a3", 5, 1, votes⟩)], tracker := ["r1"],
    vstat := [("a0", ⟨true, 2⟩), ("a1", ⟨true, 2⟩), ("a2", ⟨true, 2⟩), ("a3", ⟨true, 2⟩)],
    total := [("a3", 15)], vd := [(("a3", "s3"), 15)], de := [("s3", 15)], db := [("s3", 4)] }

def env4 (h t : Int) : Env := ⟨h, t, 4, o50, prev4, prev4⟩

/-! ## 1. verdict iff threshold, over the votes of currently active validators -/

/-- the decision of the tally loop: with `required = (active·vote% + dec − 1) / dec` and the yes / no
    counts taken over the votes of addresses whose status record is active at the tally,
    guilty ⇔ yes/required > alleg%, innocent ⇔ ¬guilty ∧ no/required > 1 − alleg%, else no verdict
    (integer arithmetic, no float assumption) -/
theorem verdict_iff_threshold (env : Env) (vs : List (Addr × VStat)) (ar : Request) :
    let o := env.opts
    let required := requiredVotes env.active o
    let yes := countChoice 1 (activeVotes vs ar)
    let no := countChoice 2 (activeVotes vs ar)
    (verdictOf env vs ar = .guilty ↔ yes * o.allegDec > o.allegPct * required) ∧
    (verdictOf env vs ar = .innocent ↔
        ¬ (yes * o.allegDec > o.allegPct * required) ∧ no * o.allegDec > (o.allegDec - o.allegPct) * required) ∧
    (verdictOf env vs ar = .none ↔
        ¬ (yes * o.allegDec > o.allegPct * required) ∧ ¬ (no * o.allegDec > (o.allegDec - o.allegPct) * required)) := by
  unfold verdictOf
  dsimp only
  split
  · simp [*]
  · split <;> simp [*]

theorem required_is_ceiling (active : Int) (o : Opts) (hd : 0 < o.voteDec) (hp : 0 ≤ o.votePct) (ha : 0 < active) :
    let r := requiredVotes active o
    o.voteDec * (r - 1) < active * o.votePct ∧ active * o.votePct ≤ o.voteDec * r := by
  have hx : 0 ≤ active * o.votePct := Int.mul_nonneg (Int.le_of_lt ha) hp
  simp only [requiredVotes]
  rw [Int.tdiv_eq_ediv_of_nonneg (by omega), Int.mul_sub, Int.mul_one]
  have := ediv_bounds (active * o.votePct + o.voteDec - 1) hd
  rw [Int.mul_add, Int.mul_one] at this
  omega

/-- the verdict depends on the votes of CURRENTLY active validators only (6709f41): votes of
    addresses whose status record is not active at the tally can be added or removed at will -/
theorem votes_are_of_currently_active (env : Env) (vs : List (Addr × VStat)) (ar ar' : Request)
    (h : activeVotes vs ar = activeVotes vs ar') : verdictOf env vs ar = verdictOf env vs ar' := by
  unfold verdictOf
  simp only [h]

theorem verdict_from_active_votes_alone (env : Env) (vs : List (Addr × VStat)) (ar : Request) :
    verdictOf env vs ar = verdictOf env vs { ar with votes := activeVotes vs ar } :=
  votes_are_of_currently_active env vs _ _ (activeVotes_idem vs ar).symm

/-- regression for 6709f41: `a0` voted yes and then left the active set
    (3 active, required 2); with one more yes vote only one currently active validator has voted
    yes, which is not more than 50 % of 2 — no verdict; with `a0` still active it is guilty -/
example :
    let ar : Request := ⟨"a0", "a3", 5, 1, [⟨"a0", 1⟩, ⟨"a1", 1⟩]⟩
    let env : Env := ⟨6, 600, 3, o50, prev4, prev4⟩
    verdictOf env [("a0", ⟨false, 5⟩), ("a1", ⟨true, 2⟩), ("a2", ⟨true, 2⟩), ("a3", ⟨true, 2⟩)] ar = .none ∧
    verdictOf env (sampleState []).vstat ar = .guilty := by decide

/-- regression for 1d3139c: share 80/100, five required:
    one no vote is exactly 20 %, not more — no verdict; two no votes acquit -/
example :
    let o : Opts := { o50 with allegPct := 80, votePct := 100 }
    let env : Env := ⟨6, 600, 5, o, prev4, prev4⟩
    let vs : List (Addr × VStat) := [("a0", ⟨true, 2⟩), ("a1", ⟨true, 2⟩), ("a2", ⟨true, 2⟩)]
    requiredVotes 5 o = 5 ∧
    verdictOf env vs ⟨"a0", "a3", 5, 1, [⟨"a1", 2⟩]⟩ = .none ∧
    verdictOf env vs ⟨"a0", "a3", 5, 1, [⟨"a1", 2⟩, ⟨"a2", 2⟩]⟩ = .innocent := by decide

/-- at the block end the verdict is what happens to the request: a guilty verdict writes the
    byzantine-fault record of this block for the accused; an innocent verdict (or a guilty one
    against an address with a validator record) removes the request; no verdict leaves it as it was.
    The status records are those the election pass of the same block end left. -/
theorem tally_follows_verdict (F : FloatOps) (env : Env) (st : State) (id : ReqId) (ar : Request)
    (hrun : TallyRuns env) (hid : id ∈ st.tracker) (har : alookup id (cleanTracker st).reqs = some ar) :
    (verdictOf env st.vstat ar = .guilty → alookup ar.accused (tally F env st).susp = some (byzRec env)) ∧
    (verdictOf env st.vstat ar = .none → alookup id (tally F env st).reqs = some ar) ∧
    (verdictOf env st.vstat ar = .innocent ∨ (verdictOf env st.vstat ar = .guilty ∧ (alookup ar.accused env.prev).isSome) →
        alookup id (tally F env st).reqs = none) := by
  have h := tallyWith_done F env hrun st.tracker st.tracker st
  have hid := mem_sortIds.mpr hid
  exact ⟨h.conv id ar hid har, fun hv => (h.reqs id ar har).trans (if_neg (·.2.ne_none hv)),
    fun hv => (h.reqs id ar har).trans (if_pos ⟨hid, hv⟩)⟩

/-- … and ONLY then: the tally changes the suspicious-validator record of an address only through
    a guilty verdict on a tracked request against it -/
theorem guilty_only_by_verdict (F : FloatOps) (env : Env) (st : State) (a : Addr)
    (h : alookup a (tally F env st).susp ≠ alookup a st.susp) :
    TallyRuns env ∧ ∃ id ar, id ∈ st.tracker ∧ alookup id (cleanTracker st).reqs = some ar ∧ ar.accused = a ∧
      verdictOf env st.vstat ar = .guilty := by
  by_cases hrun : TallyRuns env
  · obtain ⟨-, id, ar, hid, r⟩ := ((tallyWith_done F env hrun st.tracker st.tracker st).susp a).resolve_left h
    exact ⟨hrun, id, ar, mem_sortIds.mp hid, r⟩
  · rw [tally, tallyWith_skipped F env _ _ st hrun] at h; exact absurd rfl h

/-- without active validators (or with an option group without decimals) nothing is decided -/
theorem no_active_no_verdict (F : FloatOps) (env : Env) (st : State) (h : ¬ TallyRuns env) : tally F env st = st :=
  tallyWith_skipped F env _ _ st h

/-- the tracker keys are a set in every reachable state (it is a Go map) -/
theorem tracker_is_a_set (ops : List Op) : (run State.empty ops).tracker.Nodup :=
  run_trackerNodup State.empty ops List.nodup_nil

theorem one_open_request_per_address (ops : List Op) : OnePerAccused (run State.empty ops) :=
  run_onePerAccused State.empty ops fun _ _ _ _ ha => nomatch ha

/-- every tracked request keeps its place until its own votes decide it: in every reachable state
    the cleanup step of the tally (`CleanTracker`) changes nothing.  Full strength since d2f2af2:
    the duplicate check of PerformAllegation (`IterateRequests`, now `IterateRangeAll`) sees the
    requests opened earlier in the same block, so no two open requests are ever against one
    address (`one_open_request_per_address`), which is all `CleanTracker` looks for (it walks the
    tracker record, not store keys). -/
theorem cleanup_keeps_requests (ops : List Op) : cleanTracker (run State.empty ops) = run State.empty ops :=
  cleanTrackerWith_noop (tracker_is_a_set ops) (one_open_request_per_address ops)

/-- a second allegation against an address that already has an open request is refused, also
    inside the block in which the first was opened, and changes nothing -/
theorem second_allegation_refused (st : State) (h : Int) (rep acc : Addr) (id : ReqId) (bh : Int) (sig fee : Bool)
    (j : ReqId) (b : Request) (hb : alookup j st.reqs = some b) (hacc : b.accused = acc) :
    (txAllege st h rep acc id bh sig fee).1 ≠ .ok ∧ (txAllege st h rep acc id bh sig fee).2 = st := by
  rcases withAdmission_cases st sig fee (runAllege st h rep acc id bh) with ⟨hok, _⟩ | hr
  · exact absurd hacc (requestExists_false (runAllege_ok hok).2.2.2.2.2.1 hb)
  · exact hr

/-- regression for d2f2af2: with `r1` against `a3` open (opened in this very
    block or earlier), a second allegation against `a3` is refused as existing -/
example : (txAllege (sampleState []) 6 "a1" "a3" "r2" 5 true true).1 = .exists := by decide

/-- in a reachable state the cleanup step is the identity, so the request is the stored one -/
theorem tally_follows_verdict_reachable (F : FloatOps) (env : Env) (ops : List Op) (id : ReqId) (ar : Request)
    (hrun : TallyRuns env) (hid : id ∈ (run State.empty ops).tracker) (har : alookup id (run State.empty ops).reqs = some ar) :
    let st := run State.empty ops
    (verdictOf env st.vstat ar = .guilty → alookup ar.accused (tally F env st).susp = some (byzRec env)) ∧
    (verdictOf env st.vstat ar = .none → alookup id (tally F env st).reqs = some ar) ∧
    (verdictOf env st.vstat ar = .innocent ∨ (verdictOf env st.vstat ar = .guilty ∧ (alookup ar.accused env.prev).isSome) →
        alookup id (tally F env st).reqs = none) :=
  tally_follows_verdict F env _ id ar hrun hid (by rw [cleanup_keeps_requests ops]; exact har)

/-- regression for 8e5280a: three yes votes of the four active validators
    under the EMPTY request id convict like under any other id -/
example :
    let st : State := { sampleState [] with
      reqs := [("", ⟨"a0", "a3", 5, 1, [⟨"a0", 1⟩, ⟨"a1", 1⟩, ⟨"a2", 1⟩]⟩)], tracker := [""] }
    alookup "" (tally exactOps (env4 6 600) st).reqs = none ∧
    alookup "a3" (tally exactOps (env4 6 600) st).susp = some (byzRec (env4 6 600)) := by
  simp only [tally]
  rw [tallyWith_core _ _ _ _ _ (by decide) (by decide)]
  decide +kernel

example : -- a world in which the tally runs, with votes for each of the three verdicts
    (sampleState [⟨"a0", 1⟩, ⟨"a1", 1⟩]).tracker.Nodup ∧ TallyRuns (env4 6 600) ∧
    verdictOf (env4 6 600) (sampleState []).vstat ⟨"a0", "a3", 5, 1, [⟨"a0", 1⟩, ⟨"a1", 1⟩]⟩ = .guilty ∧
    verdictOf (env4 6 600) (sampleState []).vstat ⟨"a0", "a3", 5, 1, [⟨"a0", 1⟩, ⟨"a1", 2⟩]⟩ = .none ∧
    verdictOf (env4 6 600) (sampleState []).vstat ⟨"a0", "a3", 5, 1, [⟨"a1", 2⟩, ⟨"a2", 2⟩]⟩ = .innocent := by
  unfold TallyRuns
  decide

/-! ## 2. one vote per validator -/

/-- in every state reachable from one without double votes (the empty state in particular), no
    request holds two votes of one address — for every history of operations -/
theorem one_vote_per_validator (st : State) (ops : List Op) (h : VotesNodup st) : VotesNodup (run st ops) :=
  run_votesNodup st ops h

theorem one_vote_per_validator_from_genesis (ops : List Op) : VotesNodup (run State.empty ops) :=
  run_votesNodup State.empty ops fun _ hp => nomatch hp

theorem second_vote_rejected (st : State) (id : ReqId) (ar : Request) (voter : Addr) (c : Int) (sig fee : Bool)
    (har : alookup id st.reqs = some ar) (hvoted : voter ∈ ar.votes.map (·.addr)) :
    (txVote st id voter c sig fee).1 ≠ .ok ∧ (txVote st id voter c sig fee).2 = st := by
  rcases withAdmission_cases st sig fee (runVote st id voter c) with ⟨hok, _⟩ | hr
  · obtain ⟨_, _, ar', har', _, _, hv, _⟩ := runVote_ok hok
    cases har.symm.trans har'
    exact absurd hvoted hv
  · exact hr

/-- so each voter adds at most one to the two counts of the tally -/
theorem counts_bounded_by_voters (ar : Request) :
    countChoice 1 ar.votes + countChoice 2 ar.votes ≤ (ar.votes.length : Int) := counts_le_voters ar.votes

example : VotesNodup (sampleState [⟨"a0", 1⟩, ⟨"a1", 2⟩]) ∧
    (txVote (sampleState [⟨"a0", 1⟩, ⟨"a1", 2⟩]) "r1" "a1" 1 true true).1 = .dupVote := by
  constructor
  · intro p hp; simp [sampleState, State.empty] at hp; subst hp; decide
  · decide

/-! ## 3. only active validators open or vote -/

theorem only_active_can_allege_or_vote (st st' : State) :
    (∀ h rep acc id bh sig fee, txAllege st h rep acc id bh sig fee = (.ok, st') →
        isActive st rep = true ∧ sig = true ∧ fee = true) ∧
    (∀ id voter c sig fee, txVote st id voter c sig fee = (.ok, st') →
        isActive st voter = true ∧ isFrozen st voter = false ∧ sig = true ∧ fee = true) := by
  constructor
  · intro h rep acc id bh sig fee hok
    obtain ⟨hr, hs, hf⟩ := withAdmission_ok hok
    exact ⟨(runAllege_ok hr).2.2.1, hs, hf⟩
  · intro id voter c sig fee hok
    obtain ⟨hr, hs, hf⟩ := withAdmission_ok hok
    obtain ⟨hnf, hact, _⟩ := runVote_ok hr
    exact ⟨hact, hnf, hs, hf⟩

theorem rejected_allege_or_vote_is_noop (st : State) :
    (∀ h rep acc id bh sig fee, (txAllege st h rep acc id bh sig fee).1 ≠ .ok → (txAllege st h rep acc id bh sig fee).2 = st) ∧
    (∀ id voter c sig fee, (txVote st id voter c sig fee).1 ≠ .ok → (txVote st id voter c sig fee).2 = st) :=
  ⟨fun h rep acc id bh sig fee => withAdmission_refused st sig fee (runAllege st h rep acc id bh),
   fun id voter c sig fee => withAdmission_refused st sig fee (runVote st id voter c)⟩

example : -- an active validator opens and votes; an address without an active status record cannot
    (txAllege (sampleState []) 6 "a1" "a2" "r2" 5 true true).1 = .ok ∧
    (txAllege (sampleState []) 6 "x9" "a2" "r2" 5 true true).1 = .nonActive ∧
    (txVote (sampleState []) "r1" "x9" 1 true true).1 = .nonActive := by decide

/-! ## 4. guilty ⇒ frozen, until released -/

/-- a guilty verdict freezes the accused, and a frozen validator stays frozen through every
    history that contains no RELEASE of it (allegations, votes, staking operations, BeginBlock
    freeze checks, elections, further tallies) -/
theorem guilty_frozen_until_release (F : FloatOps) (env : Env) (st : State) (id : ReqId) (ar : Request)
    (hrun : TallyRuns env) (hid : id ∈ st.tracker) (har : alookup id (cleanTracker st).reqs = some ar)
    (hv : verdictOf env st.vstat ar = .guilty) (ops : List Op) (hnr : ∀ op, op ∈ ops → NotRelease ar.accused op) :
    isFrozen (tally F env st) ar.accused = true ∧ isFrozen (run (tally F env st) ops) ar.accused = true := by
  have h1 := isFrozen_iff.mpr ⟨_, (tally_follows_verdict F env st id ar hrun hid har).1 hv, rfl⟩
  exact ⟨h1, run_frozen_mono _ ops ar.accused hnr h1⟩

example : -- a conviction at height 6
    isFrozen (tally exactOps (env4 6 600) (sampleState [⟨"a0", 1⟩, ⟨"a1", 1⟩])) "a3" = true := by
  simp only [tally]
  rw [tallyWith_core _ _ _ _ _ (by decide) (by decide)]
  decide

/-! ## 5. frozen ⇒ no stake, unstake, withdraw -/

/-- the three staking handlers refuse a transaction that names a frozen validator, and change
    nothing -/
theorem frozen_cannot_stake_unstake_withdraw (st : State) (val : Addr) (hf : isFrozen st val = true)
    (vals : List (Addr × ValRec)) (stakeAddr : Addr) (amt : Int) :
    runStake st val stakeAddr amt = (.frozen, st) ∧ runUnstake st val stakeAddr amt = (.frozen, st) ∧
    runWithdraw st vals val stakeAddr amt = (.frozen, st) ∧
    (∀ kind, stakingGuard st vals kind val stakeAddr = .frozen) := by
  refine ⟨?_, ?_, ?_, ?_⟩
  · unfold runStake; simp [hf]
  · unfold runUnstake; simp [hf]
  · unfold runWithdraw; simp [hf]
  · intro kind; unfold stakingGuard; simp [hf]

/-- … and (df2e1ab, 92417eb) the money side: while validator `v` whose record names the stake
    account `s` is frozen, NO withdraw from `s` succeeds, whatever validator address the message
    names (`vals` = the validator records `Validators.Iterate` finds) -/
theorem frozen_owner_cannot_withdraw (st : State) (vals : List (Addr × ValRec)) (v s : Addr) (r : ValRec)
    (hm : (v, r) ∈ vals) (hs : r.stakeAddr = s) (hf : isFrozen st v = true) (named : Addr) (amt : Int) :
    runWithdraw st vals named s amt = (.frozen, st) ∧ stakingGuard st vals "withdraw" named s = .frozen := by
  unfold runWithdraw stakingGuard
  rw [frozenOwner_of_mem hm hs hf]
  cases isFrozen st named <;> exact ⟨rfl, rfl⟩

/-- the two clauses together: from the guilty verdict on, through every history without a RELEASE of
    the convicted validator, STAKE and UNSTAKE naming it and every WITHDRAW from its stake account
    are refused -/
theorem guilty_cannot_stake_until_release (F : FloatOps) (env : Env) (st : State) (id : ReqId) (ar : Request)
    (hrun : TallyRuns env) (hid : id ∈ st.tracker) (har : alookup id (cleanTracker st).reqs = some ar)
    (hv : verdictOf env st.vstat ar = .guilty) (ops : List Op) (hnr : ∀ op, op ∈ ops → NotRelease ar.accused op)
    (vals : List (Addr × ValRec)) (r : ValRec) (hm : (ar.accused, r) ∈ vals) (named stakeAddr : Addr) (amt : Int) :
    let s := run (tally F env st) ops
    runStake s ar.accused stakeAddr amt = (.frozen, s) ∧ runUnstake s ar.accused stakeAddr amt = (.frozen, s) ∧
    runWithdraw s vals named r.stakeAddr amt = (.frozen, s) := by
  have hf := (guilty_frozen_until_release F env st id ar hrun hid har hv ops hnr).2
  obtain ⟨h1, h2, _, _⟩ := frozen_cannot_stake_unstake_withdraw _ ar.accused hf vals stakeAddr amt
  exact ⟨h1, h2, (frozen_owner_cannot_withdraw _ vals ar.accused r.stakeAddr r hm rfl hf named amt).1⟩

/-- regression for df2e1ab: the stake account `s3` of the
    frozen `a3` names the non-validator `x9`: refused; once `a3` is released it withdraws -/
example :
    let st : State := { sampleState [] with susp := [("a3", ⟨2, 6, 600, 0, none⟩)] }
    let st' : State := { sampleState [] with susp := [("a3", ⟨2, 6, 600, 9, some 90000⟩)] }
    runWithdraw st prev4 "x9" "s3" 4 = (.frozen, st) ∧ runWithdraw st prev4 "a3" "s3" 4 = (.frozen, st) ∧
    (runWithdraw st' prev4 "x9" "s3" 4).1 = .ok ∧ getI (runWithdraw st' prev4 "x9" "s3" 4).2.db "s3" = 0 := by decide +kernel

/-! ## 6. the penalty -/

/-- a guilty verdict against a validator with stake `s`, charged to `sa` — the stake address of its
    current record (ebb3d1d), else of the previous block's:
    * the penalty `P` is `s·base%` rounded to the nearest integer (half up), `0 ≤ P ≤ s`;
    * when the two delegation records of the stake account cover `P` (they equal the stake in
      every state the staking handlers produce: C11) all three records fall by exactly `P`, the
      bounty address gains `⌊P·10¹⁸·bounty%⌋ ≤ P·10¹⁸`, and the power update of `P` is scheduled
      for the next block;
    * otherwise the debit is refused as a whole (7abde80): no stake record, no bounty and no
      scheduled update changes.
    `Exact F`: the `big.Float` expression equals the exact rounding (stake·base% < 2^53). -/
theorem penalty_exact_and_bounty_le_penalty (F : FloatOps) (hF : Exact F) (env : Env) (st : State)
    (del : List ReqId) (id : ReqId) (ar : Request) (v : ValRec)
    (har : alookup id st.reqs = some ar) (hv : verdictOf env st.vstat ar = .guilty)
    (hp : alookup ar.accused env.prev = some v)
    (hbd : 0 < env.opts.penBaseDec) (hb0 : 0 ≤ env.opts.penBasePct) (hb1 : env.opts.penBasePct ≤ env.opts.penBaseDec)
    (hcd : 0 < env.opts.bountyDec) (hc0 : 0 ≤ env.opts.bountyPct) (hc1 : env.opts.bountyPct ≤ env.opts.bountyDec)
    (hs : 0 ≤ getI st.total ar.accused) :
    let s := getI st.total ar.accused
    let sa := slashAddr env ar.accused v
    let P := (2 * s * env.opts.penBasePct + env.opts.penBaseDec) / (2 * env.opts.penBaseDec)
    let st' := (tallyOne F env (st, del) id).1
    (2 * env.opts.penBaseDec * P ≤ 2 * s * env.opts.penBasePct + env.opts.penBaseDec ∧
      2 * s * env.opts.penBasePct + env.opts.penBaseDec < 2 * env.opts.penBaseDec * (P + 1)) ∧
    (0 ≤ P ∧ P ≤ s) ∧
    (0 ≤ st'.bounty - st.bounty ∧ st'.bounty - st.bounty ≤ P * e18) ∧
    (P ≤ getI st.vd (ar.accused, sa) → P ≤ getI st.de sa →
        getI st'.total ar.accused = s - P ∧
        getI st'.vd (ar.accused, sa) = getI st.vd (ar.accused, sa) - P ∧
        getI st'.de sa = getI st.de sa - P ∧
        st'.bounty = st.bounty + P * e18 * env.opts.bountyPct / env.opts.bountyDec ∧
        alookup (env.height, ar.accused) st'.delayed = some P) ∧
    (¬ (P ≤ getI st.vd (ar.accused, sa) ∧ P ≤ getI st.de sa) →
        st'.total = st.total ∧ st'.vd = st.vd ∧ st'.de = st.de ∧ st'.bounty = st.bounty ∧ st'.delayed = st.delayed) := by
  intro s sa P st'
  have hP : P = F.penalty s env.opts := by rw [hF.penalty]; rfl
  have hbounds : 0 ≤ P ∧ P ≤ s := penalty_bounds s env.opts.penBasePct env.opts.penBaseDec hbd hs hb0 hb1
  have hbty := bounty_bounds P env.opts.bountyPct env.opts.bountyDec hcd hbounds.1 hc0 hc1
  have hst : st' = _ := congrArg Prod.fst (tallyOne_guilty_rec har hv hp rfl rfl hP)
  refine ⟨ediv_bounds _ (Int.mul_pos (by decide) hbd), hbounds, ?_, fun h2 h3 => ?_, fun hno => ?_⟩
  · rw [hst]; split
    · show 0 ≤ st.bounty + _ - st.bounty ∧ st.bounty + _ - st.bounty ≤ _
      rw [Int.add_comm, Int.add_sub_cancel]; exact hbty
    · show 0 ≤ st.bounty - st.bounty ∧ st.bounty - st.bounty ≤ _
      rw [Int.sub_self]; exact ⟨Int.le_refl 0, Int.mul_nonneg hbounds.1 (by decide)⟩
  · rw [hst, if_pos ⟨hbounds.2, h2, h3⟩]
    exact ⟨getI_upsert_self _ _ _, getI_upsert_self _ _ _, getI_upsert_self _ _ _, rfl, alookup_upsert_self _ _ _⟩
  · rw [hst, if_neg fun h => hno h.2]
    exact ⟨rfl, rfl, rfl, rfl, rfl⟩

example : -- stake 15, penalty 30 % = 4.5, rounded half up to 5; bounty 50 % of 5·10¹⁸
    let r := (tallyOne exactOps (env4 6 600) (sampleState [⟨"a0", 1⟩, ⟨"a1", 1⟩], []) "r1").1
    getI r.total "a3" = 10 ∧ getI r.vd ("a3", "s3") = 10 ∧ getI r.de "s3" = 10 ∧
    r.bounty = 2500000000000000000 ∧ alookup (6, "a3") r.delayed = some 5 := by decide +kernel

example : -- the stake address changed in the block of the verdict (current record names `t3`, which holds the stake)
    let env : Env := { env4 6 600 with cur := [("a3", ⟨"t3", 15⟩)] }
    let st : State := { sampleState [⟨"a0", 1⟩, ⟨"a1", 1⟩] with vd := [(("a3", "t3"), 15)], de := [("t3", 15)] }
    let r := (tallyOne exactOps env (st, []) "r1").1
    getI r.total "a3" = 10 ∧ getI r.vd ("a3", "t3") = 10 ∧ getI r.de "t3" = 10 ∧ alookup (6, "a3") r.delayed = some 5 := by decide

/-! ## 7. release only after the release time -/

/-- `HandleRelease` succeeds on a byzantine-fault record only strictly after
    `FrozenAt + ValidatorReleaseTime` days -/
theorem release_only_after_time (st st' : State) (days : Int) (a : Addr) (h now t0 : Int) (sig fee : Bool)
    (hb : ByzSince st a t0) (hok : txRelease st days a h now sig fee = (.ok, st')) :
    now > t0 + 86400 * days :=
  handleRelease_ok_time hb (withAdmission_ok hok).1

/-- over histories (full strength since 73dca0f: the BeginBlock freeze check skips addresses that
    are already frozen, so it cannot replace the byzantine-fault record any more): a validator
    convicted at time `t0` is released only after `t0 + days`, whatever happens in between —
    allegations, votes, staking operations, missed block votes, elections, further convictions
    (block times do not run backwards: `TimeFrom`) -/
theorem guilty_released_only_after_time (st : State) (a : Addr) (t0 : Int) (ops : List Op)
    (hb : ByzSince st a t0)
    (hops : ∀ op, op ∈ ops → NotRelease a op ∧ TimeFrom t0 op)
    (st' : State) (days h now : Int) (sig fee : Bool)
    (hok : txRelease (run st ops) days a h now sig fee = (.ok, st')) :
    now > t0 + 86400 * days :=
  release_only_after_time (run st ops) st' days a h now t0 sig fee (run_byzSince st ops a t0 hops hb) hok

/-- a guilty verdict establishes the premise: the record it writes is a frozen byzantine-fault
    record of the verdict's block time -/
theorem guilty_verdict_starts_the_clock (F : FloatOps) (env : Env) (st : State) (id : ReqId) (ar : Request)
    (hrun : TallyRuns env) (hid : id ∈ st.tracker) (har : alookup id (cleanTracker st).reqs = some ar)
    (hv : verdictOf env st.vstat ar = .guilty) : ByzSince (tally F env st) ar.accused env.time :=
  ⟨byzRec env, (tally_follows_verdict F env st id ar hrun hid har).1 hv, rfl, rfl, Int.le_refl _⟩

/-- regression for 73dca0f: `a3` found guilty at time 600 (release
    time one day) misses votes; the BeginBlock of the next block leaves its record alone and a
    RELEASE two seconds after the verdict is refused -/
example :
    let st : State := { sampleState [] with susp := [("a3", ⟨2, 6, 600, 0, none⟩)] }
    let st1 := step st (.beginBlock o50 7 601 [("a3", 1)] prev4)
    st1 = st ∧ (txRelease st1 1 "a3" 8 602 true true).1 = .tooEarly := by
  simp only [step]
  rw [beginBlock_of_sorted _ _ _ _ _ _ (by decide)]
  decide

example : -- a release after the day has passed succeeds, one second earlier it does not
    let st : State := { sampleState [] with susp := [("a3", ⟨2, 6, 600, 0, none⟩)] }
    (txRelease st 1 "a3" 9 87000 true true).1 = .tooEarly ∧ (txRelease st 1 "a3" 9 87001 true true).1 = .ok := by decide

/-! ## 8. the tally does not depend on the map order -/

/-- `ExecuteAllegationTracker` and `CleanTracker` range over Go maps; both sort the keys first, so
    the result is the same for every order in which the runtime produces them (any two
    permutations of the tracker keys) -/
theorem tally_order_independent (F : FloatOps) (env : Env) (st : State) (c₁ c₂ t₁ t₂ : List ReqId)
    (hc₁ : c₁.Perm st.tracker) (hc₂ : c₂.Perm st.tracker) (ht₁ : t₁.Perm st.tracker) (ht₂ : t₂.Perm st.tracker) :
    tallyWith F env c₁ t₁ st = tallyWith F env c₂ t₂ st :=
  tallyWith_perm F env (hc₁.trans hc₂.symm) (ht₁.trans ht₂.symm) st

example : ["r2", "r1"].Perm ["r1", "r2"] := by decide

/-! ## 9. a frozen validator drops out of the validator set -/

/-- a validator that is frozen when a block begins is not elected at that block's end, at every
    height (full strength since 7eb2406: the frozen records are loaded before the early return
    of the missed-votes check), and once popped its status record says inactive -/
theorem guilty_dropped_from_set (minSelf top h : Int) (pop : List (Addr × Int))
    (suspAfterBegin : List (Addr × Susp)) (vstat : List (Addr × VStat)) (a : Addr) (s : Susp)
    (hl : alookup a suspAfterBegin = some s) (hf : isFrozenRec s = true) :
    let r := elect minSelf top h (malOf suspAfterBegin) pop vstat
    a ∉ r.elected ∧ (a ∈ pop.map (·.1) → ∃ vs, alookup a r.vstat = some vs ∧ vs.active = false) :=
  -- the `∃ vs, …` is `HasAt r.vstat a (·.active = false)` written out, which is how `electFold_mal` says it
  (electFold_mal minSelf top h _ a (mem_frozenSet hl hf) pop ⟨vstat, 0, []⟩ List.not_mem_nil).imp_right (· ∘ .inl)

/-- regression for 7eb2406: `a3` frozen at height 3 is skipped at
    height 4 although the missed-votes window is 5 blocks -/
example :
    let susp : List (Addr × Susp) := [("a3", ⟨2, 3, 300, 0, none⟩)]
    let r := elect 5 4 4 (malOf susp) [("a3", 15), ("a0", 10), ("a1", 10), ("a2", 10)] (sampleState []).vstat
    r.elected = ["a0", "a1", "a2"] ∧ r.cnt = 3 ∧ alookup "a3" r.vstat = some ⟨false, 4⟩ := by decide +kernel

end OLP.Props.C19
