/-
  C09 — obligation over the REGENERATED fact tables (tie T3): the functions of storage/ that
  OLP/KV/Model.lean ports statement by statement are unchanged since the port was validated
  (the behavioural tie is the exhaustive kv correspondence that runs on every check).
-/
import OLP.Shell.Expect

namespace OLP.Props.C09.Facts
open OLP.Expect

theorem store_stack_source_pinned :
    pinnedOf OLP.Gen.pinned (pinnedStore.map (fun r => r.fn)) = pinnedStore := by decide +kernel

end OLP.Props.C09.Facts
