import OLP.Gen.Funcs
import OLP.Ledger.Model
import OLP.Stake.Basic

/-!
# C02 — amount and coin arithmetic, tied to the source by translation (T2b)

`balance.Amount.Plus / Minus / IsZero / Equals / LessThan / CheckInRange` and `balance.Coin.Plus /
Minus / DivideInt64 / MultiplyInt64` are translated WHOLE from /repo's working tree. The ledger
model's two primitives are these functions: a debit fails exactly when `Coin.Minus` reports an
error (the difference is negative) and stores the difference otherwise; a credit stores
`Coin.Plus`, unconditionally. The three spellings of Go's `Int64()` that the models use
(`Ledger.wrap64`, `Stake.int64Of`, the generated `Funcs.wrap64`) are one function.
-/

namespace OLP.Props.C02

open OLP.Gen

/-- `Coin.Minus`: the difference, and an error exactly when it is negative — never a clamp -/
theorem coinMinus_spec (c v : Int) :
    Funcs.coinMinus c false v = (c - v, decide (c - v < 0)) := by
  unfold Funcs.coinMinus
  by_cases h : c - v < 0 <;> simp [h]

/-- a nil amount counts as zero in `Coin.Minus` -/
theorem coinMinus_nil (c v : Int) :
    Funcs.coinMinus c true v = (0 - v, decide (0 - v < 0)) := by
  unfold Funcs.coinMinus
  by_cases h : (0 : Int) < v <;> simp [h]

theorem coinPlus_spec (c v : Int) (n : Bool) : Funcs.coinPlus c n v = c + v := by
  simp [Funcs.coinPlus]

theorem amountMinus_spec (a v : Int) :
    Funcs.amountMinus a v = (a - v, decide (a - v < 0)) := by
  unfold Funcs.amountMinus
  by_cases h : a - v < 0 <;> simp [h]

theorem amountPlus_spec (a v : Int) : Funcs.amountPlus a v = a + v := by
  simp [Funcs.amountPlus]

theorem amount_predicates (a v : Int) :
    Funcs.amountIsZero a = decide (a = 0) ∧
    Funcs.amountEquals a v = decide (a = v) ∧
    Funcs.amountLessThan a v = decide (a < v) := by
  refine ⟨rfl, ?_, ?_⟩
  · unfold Funcs.amountEquals; by_cases h : a = v <;> simp [h]
  · unfold Funcs.amountLessThan; by_cases h : a < v <;> simp [h]

theorem minusFrom_is_source (l : Ledger.L) (a : Ledger.Acc) (c : Int) :
    Ledger.minusFrom l a c =
      (match Funcs.coinMinus (Ledger.bal l a) false c with
       | (_, true) => .error .insufficient
       | (r, false) => .ok (Ledger.setBal l a r)) := by
  rw [coinMinus_spec]
  unfold Ledger.minusFrom
  by_cases h : Ledger.bal l a - c < 0 <;> simp [h]

theorem addTo_is_source (l : Ledger.L) (a : Ledger.Acc) (c : Int) :
    Ledger.addTo l a c = Ledger.setBal l a (Funcs.coinPlus (Ledger.bal l a) false c) := by
  rw [coinPlus_spec]; rfl

/-- `DivideInt64` / `MultiplyInt64` on a present amount: Euclidean quotient, exact product -/
theorem coin_scale_spec (c k : Int) :
    Funcs.coinMultiplyInt64 c false k = c * k ∧ Funcs.coinDivideInt64 c false k = c / k := by
  simp [Funcs.coinMultiplyInt64, Funcs.coinDivideInt64]

/-- `CheckInRange`: below `min` is refused always, above `max` only when `max` is not the
    int64 sentinel -/
theorem checkInRange_spec (a lo hi : Int) :
    Funcs.amountCheckInRange a lo hi =
      if a < lo then (false, true)
      else if Funcs.wrap64 hi ≠ 9223372036854775807 ∧ hi < a then (false, true)
      else (true, false) := by
  -- the source tests `x - y < 0` where the statement says `x < y`
  have sub_neg : ∀ x y : Int, x - y < 0 ↔ x < y := fun _ _ => ⟨Int.lt_of_sub_neg, Int.sub_neg_of_lt⟩
  simp only [Funcs.amountCheckInRange, sub_neg, decide_eq_true_eq]
  by_cases h1 : a < lo
  · rw [if_pos h1, if_pos h1]
  · rw [if_neg h1, if_neg h1]
    by_cases h2 : Funcs.wrap64 hi ≠ 9223372036854775807 <;> simp [h2]

/-- the two coin comparisons every "enough balance" test goes through: plain order on the amounts
    when both are present -/
theorem coin_comparisons_spec (c v : Int) :
    Funcs.coinLessThan c false v false = decide (c < v) ∧
    Funcs.coinLessThanEqual c false v false = decide (c ≤ v) := by
  unfold Funcs.coinLessThan Funcs.coinLessThanEqual
  constructor
  · by_cases h : c < v <;> simp [h]
  · by_cases h : c ≤ v <;> simp [h]

/-- a quirk of the source worth knowing (and harmless where the callers build their coins from
    store records, which are never nil): when EITHER amount is nil the LEFT one counts as zero -/
theorem coin_comparison_nil_quirk (c v : Int) :
    Funcs.coinLessThan c false v true = decide (0 < v) := by
  unfold Funcs.coinLessThan
  by_cases h : (0 : Int) < v <;> simp [h]

theorem ledger_wrap64_is_source (x : Int) : Ledger.wrap64 x = Funcs.wrap64 x := by
  unfold Ledger.wrap64 Funcs.wrap64
  simp only
  split <;> omega

theorem stake_int64Of_is_source (x : Int) : Stake.int64Of x = Funcs.wrap64 x :=
  Stake.int64Of_eq x

/-- `Coin.IsValid` (the switch of the source) for a present amount of a named currency is the
    model's validity test: the amount is not negative; a nil amount or a nameless currency is
    never valid -/
theorem isValid_is_source (c : Int) :
    Ledger.isValid c = Funcs.coinIsValid c false false ∧
    (∀ n, Funcs.coinIsValid c true n = false) ∧ (∀ a, Funcs.coinIsValid c a true = false) := by
  refine ⟨?_, ?_, ?_⟩
  · unfold Ledger.isValid Funcs.coinIsValid
    by_cases h : c ≥ 0 <;> simp [h]
  · intro n; simp [Funcs.coinIsValid]
  · intro a; cases a <;> simp [Funcs.coinIsValid]

/-- `Amount.ToCoinWithBase` of the ledger model is the source's `NewCoinFromInt` of `Int64()` of the
    value: the wrap-around comes first, then the multiplication by 10^decimals -/
theorem toCoinWithBase_is_source (value : Int) (decimals : Nat) :
    Ledger.toCoinWithBase value decimals = Funcs.newCoinFromInt (Funcs.wrap64 value) decimals := by
  unfold Ledger.toCoinWithBase Funcs.newCoinFromInt Funcs.currencyBase
  rw [ledger_wrap64_is_source]
  simp

theorem stake_coinOf_is_source (a : Int) :
    Stake.coinOf a = Funcs.newCoinFromInt (Funcs.wrap64 a) 18 := by
  unfold Stake.coinOf Funcs.newCoinFromInt Funcs.currencyBase Stake.oltBase
  rw [stake_int64Of_is_source]
  have h : (10 : Int) ^ Int.toNat 18 = 1000000000000000000 := by decide
  simp only [h]

example : Funcs.coinMinus 5 false 7 = (-2, true) := by decide
example : Funcs.coinMinus 5 false (-7) = (12, false) := by decide   -- a negative coin adds
example : Funcs.wrap64 9223372036854775808 = -9223372036854775808 := by decide

end OLP.Props.C02
