import OLP.Gen.Funcs
import OLP.Gov.Model
import OLP.Base.Lists

/-!
# C14 — the share of the escrow a recipient class gets, tied to the source by translation (T2b)

`getPercentageCoin`'s amount (`totalFunds.MultiplyInt64(p).DivideInt64(1000000)`) is translated
together with `Coin.MultiplyInt64` / `Coin.DivideInt64` (whole functions): the model's `pct` is that.
-/

namespace OLP.Props.C14

open OLP.Gov
open OLP.Gen

theorem pct_is_source (total p10k : Int) : pct total p10k = Funcs.govPercentageAmount total p10k := by
  simp [pct, Funcs.govPercentageAmount, Funcs.coinMultiplyInt64, Funcs.coinDivideInt64]

/-- a share never exceeds the escrow when the percentage is at most 100 % (1000000 units) -/
theorem source_share_le_total (total p : Int) (ht : 0 ≤ total) (hp0 : 0 ≤ p) (hp : p ≤ 1000000) :
    0 ≤ Funcs.govPercentageAmount total p ∧ Funcs.govPercentageAmount total p ≤ total := by
  rw [← pct_is_source]
  exact mul_ediv_bounds ht hp0 hp (by decide)

example : Funcs.govPercentageAmount 1000 180000 = 180 := by decide

end OLP.Props.C14
