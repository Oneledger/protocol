/-
  C03 — obligation over the REGENERATED fact tables (tie T3): who `Signers()` names for every
  message type. Classification (by reading every run* / ProcessFee): the field debited by the
  handler and its fee step is the first signer for every kind; validator operations (STAKE,
  UNSTAKE, WITHDRAW, PROPOSAL_VOTE) are signed by stake account AND validator key.
-/
import OLP.Props.SourceFacts

namespace OLP.Props.C03.Facts
open OLP.Expect

theorem signers_as_classified : OLP.Gen.signerRows = signerRows := by rfl

/-- the coin / balance-store / fee-step / transfer functions the ledger model ports are unchanged -/
theorem ledger_leaves_source_pinned :
    OLP.Expect.pinnedOf OLP.Gen.pinned (pinnedLedger.map (fun r => r.fn)) = pinnedLedger :=
  Source.ledger_leaves_source_pinned

end OLP.Props.C03.Facts
