/-
  C20 — Domain names: exclusive ownership, owner-only changes, paid transfers, exact expiry.

  Property theorems only (helper lemmas: OLP/Ons/Lemmas.lean).  All statements are about the
  executable model `OLP.Ons` (OLP/Ons/Model.lean), a port of action/ons/*.go which the `ons`
  correspondence engine compares with the real handlers on every DeliverTx of every generated
  history (decoded pre-state + operation -> result class + post-state).  The vocabulary of the
  statements (`rootOf`, `RegInv` and its executable form `invB`, `Auth`) is the last section of the model file.

  All clauses are at full strength: the three former known findings were repaired in /repo
  (KF-C20-3: f3370a9 `blocksFor`; KF-C20-1/2: 487c936, sub-name iterations visit keys written
  earlier in the same block).  Their former counterexamples are kept as regression examples with
  the repaired outcome; their witnesses are the regression scenarios corpus/C20/reg_*.hist.  What
  remains as a hypothesis is only the chain start: `RegInv` of the genesis registry (an empty
  registry has it; a genesis file listing sub-names with another owner / expiry than their parent
  is trusted input).
-/
import OLP.Ons.Lemmas

namespace OLP.Props.C20
open OLP OLP.Ons

/-! ## fixtures for the non-vacuity examples and counterexamples
    (base price 1000, 10 per block, first-level domain "ol"; the same numbers as corpus/C20/*.hist) -/

def opts : Opts := ⟨1000, 10, ["ol"]⟩

def envAt (h : Int) (payer : Addr) : Env :=
  { height := h, version := h - 1, opts := opts, feePrice := 3, fee := .used 2, payer := payer,
    sigValid := true, minFee := 1, olt := "OLT", currencies := ["OLT", "VT"] }

def genesis : St :=
  { St.empty with bals := [(("aa", "OLT"), 100000), (("bb", "OLT"), 100000), (("cc", "OLT"), 100000), (("bb", "VT"), 500)] }

def foo : Name := ["foo", "ol"]
def xfoo : Name := ["x", "foo", "ol"]

/-- aa registers foo.ol for 50 blocks, puts it on sale for 200, creates x.foo.ol (each in its own block) -/
def setup : List Ev :=
  [ .tx (envAt 1 "aa") (.create "aa" "" foo "" true 1500 "OLT"), .commit,
    .tx (envAt 2 "aa") (.sale "aa" foo 200 "OLT" false), .commit,
    .tx (envAt 3 "aa") (.create "aa" "cc" xfoo "" true 1001 "OLT"), .commit ]

def sOnSale : St := run genesis setup

/-! ## 0. Only validated transactions execute (DeliverTx runs `Validate` first) -/

/-- a transaction that executes was signed, validly, by the key whose address is its signer field,
    offers at least the minimum fee price, pays for the name in the chain currency (create, sell,
    purchase, renew) and — except for send — names a well-formed domain -/
theorem executed_tx_is_validated (env : Env) (s s' : St) (tx : Tx) (h : step env s tx = (.ok, s')) :
    env.payer = tx.signer ∧ env.sigValid = true ∧ env.minFee ≤ env.feePrice ∧
    (∀ c, tx.payCur = some c → c = env.olt) ∧
    ((∀ f a c, tx ≠ .send f tx.name a c) → validName tx.name = true) :=
  validate_ok (step_ok h).1

example : (step (envAt 4 "bb") sOnSale (.update "aa" "bb" foo true "" true)).1 = .fail .vSigner ∧
    (step { envAt 4 "aa" with sigValid := false } sOnSale (.update "aa" "bb" foo true "" true)).1 = .fail .vSignature ∧
    (step (envAt 5 "bb") sOnSale (.purchase "bb" "bb" foo 350 "VT")).1 = .fail .vBadAmount ∧
    (step (envAt 5 "bb") sOnSale (.create "bb" "" ["no_good", "ol"] "" true 1010 "OLT")).1 = .fail .vBadName := by decide +kernel
/-- send may use another registered currency -/
example : (step (envAt 5 "bb") sOnSale (.send "bb" xfoo 70 "VT")).1 = .ok ∧
    bal (step (envAt 5 "bb") sOnSale (.send "bb" xfoo 70 "VT")).2.bals ("cc", "VT") = 70 := by decide +kernel

/-- hence every change of a record carries a valid signature of the transaction's signer field -/
theorem changes_need_valid_signature (env : Env) (s : St) (tx : Tx) (n : Name)
    (hch : alookup n (step env s tx).2.recs ≠ alookup n s.recs) : env.payer = tx.signer ∧ env.sigValid = true := by
  by_cases hok : (step env s tx).1 = .ok
  · obtain ⟨hp, hs, _⟩ := validate_ok (step_ok (step_ok_intro hok)).1
    exact ⟨hp, hs⟩
  · rw [step_fail hok] at hch
    exact absurd rfl hch

/-! ## 1. A name has at most one owner -/

/-- the registry never holds two records for one name, whatever the history -/
theorem at_most_one_owner (s0 : St) (h0 : (akeys s0.recs).Nodup) (evs : List Ev) :
    (akeys (run s0 evs).recs).Nodup :=
  run_induct (P := fun s => (akeys s.recs).Nodup) nodup_step evs h0

example : (akeys (run genesis setup).recs).Nodup ∧ (run genesis setup).recs.length = 2 :=
  ⟨at_most_one_owner genesis (by decide +kernel) setup, by decide +kernel⟩

/-- a successful create found the name absent and touched no other record: an existing name
    (expired or not) is never handed out a second time by create -/
theorem create_needs_absent_name (env : Env) (s s' : St) (o b : Addr) (n : Name) (u : String) (uo : Bool)
    (p : Int) (c : Cur) (h : step env s (.create o b n u uo p c) = (.ok, s')) :
    alookup n s.recs = none ∧ (∃ d, alookup n s'.recs = some d ∧ d.owner = o) ∧
    ∀ k, k ≠ n → alookup k s'.recs = alookup k s.recs := by
  obtain ⟨_, s1, h1, hfr, _⟩ := step_ok h
  obtain ⟨e, habs, hrecs, _⟩ := runCreate_ok h1
  rw [hfr, hrecs, alookup_upsert_self]
  exact ⟨habs, ⟨_, rfl, rfl⟩, fun k hk => alookup_upsert_ne _ _ _ _ hk⟩

/-- (the hypothesis `step env s tx = (.ok, s')` of the theorems below is what a successful DeliverTx gives) -/
example : ∃ s', step (envAt 4 "bb") sOnSale (.create "bb" "" ["bar", "ol"] "" true 1010 "OLT") = (.ok, s') :=
  ⟨_, step_ok_intro (by decide +kernel)⟩
example : (step (envAt 4 "bb") sOnSale (.create "bb" "" foo "" true 1010 "OLT")).1 = .fail .exists_ := by decide +kernel

/-- the start of every chain satisfies the hypotheses (empty registry, any balances) -/
theorem genesis_inv (s0 : St) (h : s0.recs = []) : RegInv s0 ∧ (akeys s0.recs).Nodup :=
  ⟨inv_of_recs_nil h, by rw [h]; exact List.nodup_nil⟩

/-- in every reachable state — any history of transactions and block commits, any number of
    transactions per block — a sub-name has the owner and the expiry height of its parent (full
    strength since 487c936: purchase deletes, and renew moves, *every* visible sub-name) -/
theorem subs_follow_parent (s0 : St) (h0 : RegInv s0) (evs : List Ev) : RegInv (run s0 evs) :=
  run_induct (P := RegInv) inv_step evs h0

/-- spelled out from a chain start: a sub-name has a parent record with the same owner and the
    same expiry height (it has one owner, and it expires with its parent) -/
theorem sub_expires_with_parent (s0 : St) (h0 : s0.recs = []) (evs : List Ev)
    (n : Name) (d : Domain) (hn : alookup n (run s0 evs).recs = some d) (h3 : 3 ≤ n.length) :
    ∃ p, alookup (parentOf n) (run s0 evs).recs = some p ∧ p.owner = d.owner ∧ p.expire = d.expire :=
  (subs_follow_parent s0 (genesis_inv s0 h0).1 evs n d hn).2 h3

/-- block boundaries do not matter to the registry any more -/
theorem commits_are_invisible (s : St) : (run s [.commit]).recs = s.recs := rfl

example : invB sOnSale = true ∧ sOnSale.recs.length = 2 := by decide +kernel
example : RegInv sOnSale := subs_follow_parent genesis (genesis_inv genesis rfl).1 setup

/-- regression for KF-C20-1 (witness = corpus/C20/reg_sub_created_in_block_of_purchase.hist): aa
    creates x.foo.ol and, in the same block, bb buys foo.ol -/
def kf1 : List Ev :=
  [ .tx (envAt 1 "aa") (.create "aa" "" foo "" true 1500 "OLT"), .commit,
    .tx (envAt 2 "aa") (.sale "aa" foo 200 "OLT" false), .commit,
    .tx (envAt 3 "aa") (.create "aa" "" xfoo "" true 1001 "OLT"),
    .tx (envAt 3 "bb") (.purchase "bb" "bb" foo 300 "OLT"), .commit ]

/-- the purchase deletes the sub-name created earlier in the same block (it used to survive,
    still owned by aa); aa can no longer touch it, and bb may create it afresh -/
theorem pending_sub_deleted_by_purchase :
    (alookup foo (run genesis kf1).recs).map (·.owner) = some "bb" ∧
    alookup xfoo (run genesis kf1).recs = none ∧ invB (run genesis kf1) = true ∧
    (step (envAt 4 "aa") (run genesis kf1) (.update "aa" "aa" xfoo true "" true)).1 = .fail .notFound ∧
    (step (envAt 4 "aa") (run genesis kf1) (.create "aa" "" xfoo "" true 1001 "OLT")).1 = .fail .parentNotOwned ∧
    (step (envAt 4 "bb") (run genesis kf1) (.create "bb" "" xfoo "" true 1001 "OLT")).1 = .ok := by decide +kernel

/-- regression for KF-C20-2 (witness = corpus/C20/reg_sub_created_in_block_of_renewal.hist): aa
    creates x.foo.ol and, in the same block, renews foo.ol for 3 blocks -/
def kf2 : List Ev :=
  [ .tx (envAt 1 "aa") (.create "aa" "" foo "" true 1500 "OLT"), .commit,
    .tx (envAt 2 "aa") (.create "aa" "" xfoo "" true 1001 "OLT"),
    .tx (envAt 2 "aa") (.renew "aa" foo 30 "OLT"), .commit ]

/-- parent and sub-name now both expire at 53 (the sub-name used to stay at 50) -/
theorem pending_sub_follows_renewal :
    (alookup foo (run genesis kf2).recs).map (·.expire) = some 53 ∧
    (alookup xfoo (run genesis kf2).recs).map (·.expire) = some 53 := by decide +kernel

/-! ## 2. Records change only through the owner, or through a purchase -/

theorem failed_tx_changes_nothing (env : Env) (s : St) (tx : Tx) (h : (step env s tx).1 ≠ .ok) :
    (step env s tx).2 = s := step_fail h

example : (step (envAt 4 "bb") sOnSale (.update "bb" "bb" foo true "" true)).1 = .fail .notOwner := by decide +kernel

/-- every record that a transaction creates, modifies or deletes — for every state, environment
    and transaction — is covered by one of the four entitlements of `Auth`: signed by the recorded
    owner of the record, signed by the recorded owner of a name above it, first registration of an
    absent non-sub name, or purchase of the name (or the name above it) that is on sale or expired -/
theorem changes_need_owner_or_purchase (env : Env) (s : St) (tx : Tx) (n : Name)
    (hch : alookup n (step env s tx).2.recs ≠ alookup n s.recs) : Auth env s tx n := by
  rcases step_cases env s tx with h | ⟨s1, h1, hfr⟩
  · rw [h] at hch; exact absurd rfl hch
  rw [hfr] at hch
  -- in each case: who is entitled, then that a record outside the entitlement is not touched
  cases tx with
  | create o b n' u uo p c =>
    obtain ⟨e, habs, hrecs, hexp, _⟩ := runCreate_ok h1
    have hk : n = n' := Decidable.by_contra fun hk => hch (by rw [hrecs, alookup_upsert_ne _ _ _ _ hk])
    subst hk
    by_cases hsub : isSub n = true
    · rw [if_pos hsub] at hexp
      obtain ⟨par, hpar, hpo, _⟩ := hexp
      exact .ownerAbove (parentOf n) par (isSubOf_parent (isSub_length hsub)) hpar hpo
    · exact .registration b u uo p c habs (by simpa using hsub) rfl
  | update o b n' a u uo =>
    obtain ⟨d, hd, hrecs, hown, _⟩ := runUpdate_ok h1
    refine .of_owner hd hown (Decidable.by_contra fun hno => hch ?_)
    rw [not_or] at hno
    rw [hrecs, alookup_upsert_ne _ _ _ _ hno.1]
    split
    · simp [alookup_mapSel, visSub, hno.2]
    · rfl
  | sale o n' p cu c =>
    obtain ⟨d, hd, hrecs, hown, _⟩ := runSale_ok h1
    refine .of_owner hd hown (Or.inl (Decidable.by_contra fun hk => hch ?_))
    rw [hrecs, alookup_upsert_ne _ _ _ _ hk]
  | purchase b a n' o c =>
    obtain ⟨d, q, hd, hrecs, hsub, hfs, _⟩ := runPurchase_ok h1
    refine .purchase b a n' o c d rfl (Decidable.by_contra fun hno => hch ?_) hsub hd hfs
    rw [not_or] at hno
    rw [hrecs, alookup_upsert_ne _ _ _ _ (Ne.symm hno.1), alookup_eraseSel]
    exact if_neg hno.2
  | send f n' amt c =>
    rw [(runSend_ok h1).1] at hch; exact absurd rfl hch
  | renew o n' p c =>
    obtain ⟨d, q, hd, hrecs, hown, _⟩ := runRenew_ok h1
    refine .of_owner hd hown (Decidable.by_contra fun hno => hch ?_)
    rw [not_or] at hno
    simp [hrecs, alookup_mapSel_upsert, visSub, hno]
  | deleteSub o n' =>
    obtain ⟨par, hpar, hrecs, hown, _⟩ := runDeleteSub_ok h1
    by_cases hsub : isSub n' = true
    · rw [if_pos hsub] at hrecs hpar
      have hk : n = n' := Decidable.by_contra fun hk => hch (by rw [hrecs.2, alookup_aerase_ne _ _ _ hk])
      subst hk
      exact .ownerAbove (parentOf n) par (isSubOf_parent (isSub_length hsub)) hpar hown
    · rw [if_neg hsub] at hrecs hpar
      refine .of_owner hpar hown (Or.inr (Decidable.by_contra fun hno => hch ?_))
      rw [hrecs, alookup_eraseSel]
      exact if_neg hno

example : alookup foo (step (envAt 4 "aa") sOnSale (.update "aa" "cc" foo true "" true)).2.recs ≠ alookup foo sOnSale.recs := by
  decide +kernel
/-- the stranger's attempts change nothing at all -/
example : (step (envAt 4 "bb") sOnSale (.deleteSub "bb" foo)).2.recs = sOnSale.recs ∧
    (step (envAt 4 "bb") sOnSale (.renew "bb" foo 30 "OLT")).2.recs = sOnSale.recs ∧
    (step (envAt 4 "bb") sOnSale (.sale "bb" foo 200 "OLT" true)).2.recs = sOnSale.recs ∧
    (step (envAt 4 "bb") sOnSale (.create "bb" "" ["y", "foo", "ol"] "" true 1001 "OLT")).2.recs = sOnSale.recs := by decide +kernel

/-- every change of a record is signed by the *current owner of the name* (for a sub-name: of its
    parent), or is a first registration, or a purchase of the (root) name that is on sale or
    expired.  `RegInv s` holds in every reachable state (`subs_follow_parent`). -/
theorem changes_need_root_owner (env : Env) (s : St) (hi : RegInv s) (tx : Tx) (n : Name)
    (hch : alookup n (step env s tx).2.recs ≠ alookup n s.recs) :
    (∃ p, alookup (rootOf n) s.recs = some p ∧ p.owner = tx.signer) ∨
    (alookup n s.recs = none ∧ isSub n = false ∧ ∃ b u uo p c, tx = .create tx.signer b n u uo p c) ∨
    (∃ b a o c d, tx = .purchase b a (rootOf n) o c ∧ alookup (rootOf n) s.recs = some d ∧
      (d.onSale = true ∨ d.expire < env.version)) := by
  cases changes_need_owner_or_purchase env s tx n hch with
  | ownRecord d hd hown =>
    obtain ⟨p, hp, hpo, _⟩ := hi.root hd
    exact Or.inl ⟨p, hp, hpo.trans hown⟩
  | ownerAbove r d hsub hr hown =>
    obtain ⟨p, hp, hpo, _⟩ := hi.root hr
    rw [← rootOf_of_isSubOf hsub (validName_length (hi r d hr).1)] at hp
    exact Or.inl ⟨p, hp, hpo.trans hown⟩
  | registration b u uo p c habs hsub htx => exact Or.inr (Or.inl ⟨habs, hsub, b, u, uo, p, c, htx⟩)
  | purchase b a r o c d htx hrn hsub hr hfs =>
    rw [(rootOf_eq_iff (length_two_of_valid_not_sub (hi r d hr).1 hsub)).mpr hrn]
    exact Or.inr (Or.inr ⟨b, a, o, c, d, htx, hr, hfs⟩)

/-- the same, unconditionally, for every state reached from a chain start by any history -/
theorem changes_need_root_owner_reachable (s0 : St) (h0 : s0.recs = []) (evs : List Ev)
    (env : Env) (tx : Tx) (n : Name)
    (hch : alookup n (step env (run s0 evs) tx).2.recs ≠ alookup n (run s0 evs).recs) :
    (∃ p, alookup (rootOf n) (run s0 evs).recs = some p ∧ p.owner = tx.signer) ∨
    (alookup n (run s0 evs).recs = none ∧ isSub n = false ∧ ∃ b u uo p c, tx = .create tx.signer b n u uo p c) ∨
    (∃ b a o c d, tx = .purchase b a (rootOf n) o c ∧ alookup (rootOf n) (run s0 evs).recs = some d ∧
      (d.onSale = true ∨ d.expire < env.version)) :=
  changes_need_root_owner env _ (subs_follow_parent s0 (genesis_inv s0 h0).1 evs) tx n hch

example : RegInv sOnSale ∧ alookup xfoo (step (envAt 5 "aa") sOnSale (.deleteSub "aa" foo)).2.recs ≠ alookup xfoo sOnSale.recs :=
  ⟨inv_of_invB (by decide +kernel), by decide +kernel⟩

/-- regression for the consequence of KF-C20-1: after `kf1` there is no stale sub-name left for the
    previous owner to change — every record's owner of authority is bb -/
example : (run genesis kf1).recs.map (fun p => (p.1, p.2.owner)) = [(foo, "bb")] := by decide +kernel

/-- DOMAIN_SEND is a payment to the name's beneficiary in any registered currency `c`: the registry
    is untouched, the sender (who signed) pays amount (+ fee in the chain currency), the beneficiary
    (not the owner) receives the amount -/
theorem send_pays_beneficiary_keeps_registry (env : Env) (s s' : St) (f : Addr) (n : Name) (amt : Int) (c : Cur)
    (h : step env s (.send f n amt c) = (.ok, s')) :
    s'.recs = s.recs ∧ env.payer = f ∧ ∃ d g, alookup n s.recs = some d ∧ env.fee = .used g ∧ 0 ≤ amt ∧
      d.active = true ∧ env.version < d.expire ∧
      s'.pool = s.pool + env.feePrice * g ∧
      ∀ x : Acct, bal s'.bals x = bal s.bals x - (if x = (f, c) then amt else 0) + (if x = (d.benef, c) then amt else 0)
                             - (if x = (env.payer, env.olt) then env.feePrice * g else 0) := by
  obtain ⟨hv, s1, h1, hfr, g, hg, hfd, hfp⟩ := step_ok h
  obtain ⟨hrecs, hpool, d, b1, hd, hamt, _, hact, _, hdb, hb⟩ := runSend_ok h1
  refine ⟨by rw [hfr, hrecs], (validate_ok hv).1, d, g, hd, hg, hamt, ?_, ?_, by rw [hfp, hpool], fun x => ?_⟩
  · simp [activeAt] at hact; exact hact.1
  · simp [activeAt] at hact; exact hact.2
  · rw [bal_debit hfd x, hb, bal_credit, bal_debit hdb x]

example : (step (envAt 5 "bb") sOnSale (.send "bb" xfoo 70 "OLT")).1 = .ok ∧ bal (step (envAt 5 "bb") sOnSale (.send "bb" xfoo 70 "OLT")).2.bals ("cc", "OLT") = 100070 ∧
    bal (step (envAt 5 "bb") sOnSale (.send "bb" xfoo 70 "OLT")).2.bals ("aa", "OLT") = bal sOnSale.bals ("aa", "OLT") := by decide +kernel

/-! ## 3. A purchase pays the previous owner the asking price, or the base price for an expired name -/

/-- only a name that is on sale or expired can be bought; the buyer becomes the owner, the sale
    flag is cleared, and every sub-name of the bought name is deleted -/
theorem purchase_needs_sale_or_expiry (env : Env) (s s' : St) (b a : Addr) (n : Name) (o : Int) (c : Cur)
    (h : step env s (.purchase b a n o c) = (.ok, s')) :
    ∃ d d', alookup n s.recs = some d ∧ (d.onSale = true ∨ d.expire < env.version) ∧ isSub n = false ∧
      alookup n s'.recs = some d' ∧ d'.owner = b ∧ d'.onSale = false ∧ d'.salePrice = none ∧ d'.benef = a ∧
      ∀ k, isSubOf k n = true → alookup k s'.recs = none := by
  obtain ⟨_, s1, h1, hfr, _⟩ := step_ok h
  obtain ⟨d, x, hd, hrecs, hsub, hfs, _⟩ := runPurchase_ok h1
  refine ⟨d, resetAfterSale d b a x env.version, hd, hfs, hsub, by rw [hfr, hrecs, alookup_upsert_self], rfl, rfl, rfl, rfl,
    fun k hk => ?_⟩
  rw [hfr, hrecs, alookup_upsert_ne _ _ _ _ (ne_of_isSubOf hk), alookup_eraseSel]
  exact if_pos hk

/-- a name on sale (and not expired): the buyer signed, pays in the chain currency, the offer covers
    the asking price, exactly the asking price goes to the previous owner, the buyer pays the whole
    offer (+ fee), the remainder goes to the fee pool.  Stated for every balance record `x`, so
    aliasing (owner buys own name) is covered; no other balance moves. -/
theorem purchase_pays_owner_at_least_price (env : Env) (s s' : St) (b a : Addr) (n : Name) (o : Int) (c : Cur) (d : Domain)
    (h : step env s (.purchase b a n o c) = (.ok, s')) (hd : alookup n s.recs = some d)
    (hsale : d.onSale = true) (hlive : env.version ≤ d.expire) :
    c = env.olt ∧ env.payer = b ∧ env.sigValid = true ∧
    ∃ price g, d.salePrice = some price ∧ price ≤ o ∧ env.fee = .used g ∧
      s'.pool = s.pool + (o - price) + env.feePrice * g ∧
      ∀ x : Acct, bal s'.bals x = bal s.bals x + (if x = (d.owner, env.olt) then price else 0)
                             - (if x = (b, env.olt) then o else 0) - (if x = (b, env.olt) then env.feePrice * g else 0) := by
  obtain ⟨hv, s1, h1, _, g, hg, hfd, hfp⟩ := step_ok h
  obtain ⟨(hpay : env.payer = b), hsig, _, hc, _⟩ := validate_ok hv
  cases hc c rfl
  obtain ⟨d0, _, hd0, _, _, _, _, hbr⟩ := runPurchase_ok h1
  cases hd.symm.trans hd0
  rw [if_pos ⟨hlive, hsale⟩] at hbr
  obtain ⟨price, b0, hsp, hle, hdb0, hdb2, hpool, _⟩ := hbr
  refine ⟨rfl, hpay, hsig, price, g, hsp, hle, hg, by rw [hfp, hpool], fun x => ?_⟩
  rw [bal_debit hfd x, bal_debit hdb2 x, bal_credit, bal_debit hdb0 x, hpay]
  by_cases hx : x = (b, env.olt) <;> simp [hx] <;> omega

example : (step (envAt 5 "bb") sOnSale (.purchase "bb" "bb" foo 350 "OLT")).1 = .ok ∧
    bal (step (envAt 5 "bb") sOnSale (.purchase "bb" "bb" foo 350 "OLT")).2.bals ("aa", "OLT") = bal sOnSale.bals ("aa", "OLT") + 200 ∧ bal (step (envAt 5 "bb") sOnSale (.purchase "bb" "bb" foo 350 "OLT")).2.bals ("bb", "OLT") = 100000 - 350 - 6 := by decide +kernel
example : (step (envAt 5 "bb") sOnSale (.purchase "bb" "bb" foo 199 "OLT")).1 = .fail .offerTooLow := by decide +kernel

/-- an expired name (on sale or not): the buyer signed, pays in the chain currency, the offer
    covers the base price, the whole offer goes to the fee pool, nobody else is paid -/
theorem expired_purchase_pays_base (env : Env) (s s' : St) (b a : Addr) (n : Name) (o : Int) (c : Cur) (d : Domain)
    (h : step env s (.purchase b a n o c) = (.ok, s')) (hd : alookup n s.recs = some d)
    (hexp : d.expire < env.version) :
    c = env.olt ∧ env.payer = b ∧ env.opts.base ≤ o ∧ ∃ g, env.fee = .used g ∧ s'.pool = s.pool + o + env.feePrice * g ∧
      ∀ x : Acct, bal s'.bals x = bal s.bals x - (if x = (b, env.olt) then o else 0)
                             - (if x = (b, env.olt) then env.feePrice * g else 0) := by
  obtain ⟨hv, s1, h1, _, g, hg, hfd, hfp⟩ := step_ok h
  obtain ⟨(hpay : env.payer = b), _, _, hc, _⟩ := validate_ok hv
  cases hc c rfl
  obtain ⟨d0, _, hd0, _, _, _, _, hbr⟩ := runPurchase_ok h1
  cases hd.symm.trans hd0
  rw [if_neg fun hl => Int.not_le.mpr hexp hl.1] at hbr
  obtain ⟨hbase, hdb, hpool, _⟩ := hbr
  refine ⟨rfl, hpay, hbase, g, hg, by rw [hfp, hpool], fun x => ?_⟩
  rw [bal_debit hfd x, bal_debit hdb x, hpay]

/-- foo.ol (expiry 50) seen from block 60: anybody may take it for at least the base price -/
example : (step (envAt 60 "cc") sOnSale (.purchase "cc" "" foo 1040 "OLT")).1 = .ok ∧
    (alookup foo (step (envAt 60 "cc") sOnSale (.purchase "cc" "" foo 1040 "OLT")).2.recs).map (·.owner) = some "cc" ∧ bal (step (envAt 60 "cc") sOnSale (.purchase "cc" "" foo 1040 "OLT")).2.bals ("aa", "OLT") = bal sOnSale.bals ("aa", "OLT") := by decide +kernel
example : (step (envAt 60 "cc") sOnSale (.purchase "cc" "" foo 999 "OLT")).1 = .fail .priceTooLow := by decide +kernel
/-- neither on sale nor expired: not for sale at any price -/
example : (step (envAt 2 "bb") (run genesis (setup.take 2)) (.purchase "bb" "" foo 999999 "OLT")).1 = .fail .notForSale := by decide +kernel

/-! ## 3b. Sale status: listed only by the owner, cleared by every change of ownership -/

/-- for every state and transaction: if an existing record's sale flag, asking price or owner
    differs afterwards, the transaction was either a sell / cancel of that name whose signer field is
    the recorded owner (owner unchanged), or a purchase of that name — and after a purchase (on-sale
    and expired branch alike) the record is off sale, has no asking price and belongs to the buyer -/
theorem sale_state_changes_need_owner_or_purchase (env : Env) (s : St) (tx : Tx) (n : Name) (d d' : Domain)
    (hd : alookup n s.recs = some d) (hd' : alookup n (step env s tx).2.recs = some d')
    (hne : d'.onSale ≠ d.onSale ∨ d'.salePrice ≠ d.salePrice ∨ d'.owner ≠ d.owner) :
    (∃ p cu c, tx = .sale d.owner n p cu c ∧ d'.owner = d.owner) ∨
    (∃ b a o c, tx = .purchase b a n o c ∧ d'.owner = b ∧ d'.onSale = false ∧ d'.salePrice = none) := by
  -- a record that agrees with `d` in the three fields is not `d'`
  have keep : ∀ x : Domain, x.onSale = d.onSale → x.salePrice = d.salePrice → x.owner = d.owner → some x ≠ some d' :=
    fun x h1 h2 h3 e => by cases e; exact hne.elim (· h1) (·.elim (· h2) (· h3))
  have same : alookup n s.recs ≠ some d' := hd ▸ keep d rfl rfl rfl
  rcases step_cases env s tx with h | ⟨s1, h1, hfr⟩
  · rw [h] at hd'; exact absurd hd' same
  rw [hfr] at hd'
  cases tx with
  | create o b n' u uo p c =>
    obtain ⟨e, habs, hrecs, _⟩ := runCreate_ok h1
    rw [hrecs, alookup_upsert] at hd'
    split at hd'
    · rw [‹n = n'›, habs] at hd; cases hd
    · exact absurd hd' same
  | update o b n' a u uo =>
    obtain ⟨x, hx, hrecs, _⟩ := runUpdate_ok h1
    rw [hrecs, alookup_upsert] at hd'
    split at hd'
    · subst ‹n = n'›; cases hd.symm.trans hx
      exact absurd hd' (keep _ rfl rfl rfl)
    · split at hd'
      · rw [alookup_mapSel] at hd'
        split at hd'
        · rw [hd] at hd'; exact absurd hd' (keep _ rfl rfl rfl)
        · exact absurd hd' same
      · exact absurd hd' same
  | sale o n' p cu c =>
    obtain ⟨x, hx, hrecs, hown, _⟩ := runSale_ok h1
    rw [hrecs, alookup_upsert] at hd'
    split at hd'
    · subst ‹n = n'›; cases hd.symm.trans hx; cases hd'
      exact Or.inl ⟨p, cu, c, by rw [hown], by cases c <;> rfl⟩
    · exact absurd hd' same
  | purchase b a n' o c =>
    obtain ⟨x, q, _, hrecs, _⟩ := runPurchase_ok h1
    rw [hrecs, alookup_upsert] at hd'
    split at hd'
    · subst ‹n = n'›; cases hd'
      exact Or.inr ⟨b, a, o, c, rfl, rfl, rfl, rfl⟩
    · rw [alookup_eraseSel] at hd'
      split at hd'
      · cases hd'
      · exact absurd hd' same
  | send f n' amt c =>
    rw [(runSend_ok h1).1] at hd'; exact absurd hd' same
  | renew o n' p c =>
    obtain ⟨x, q, hx, hrecs, _⟩ := runRenew_ok h1
    rw [hrecs, alookup_mapSel_upsert] at hd'
    split at hd'
    · subst ‹n = n'›; cases hd.symm.trans hx
      exact absurd hd' (keep _ rfl rfl rfl)
    · split at hd'
      · rw [hd] at hd'; exact absurd hd' (keep _ rfl rfl rfl)
      · exact absurd hd' same
  | deleteSub o n' =>
    obtain ⟨par, _, hrecs, _⟩ := runDeleteSub_ok h1
    split at hrecs
    · rw [hrecs.2, alookup_aerase] at hd'
      split at hd'
      · cases hd'
      · exact absurd hd' same
    · rw [hrecs, alookup_eraseSel] at hd'
      split at hd'
      · cases hd'
      · exact absurd hd' same

/-- in particular a listing never survives a change of ownership -/
theorem ownership_change_clears_sale (env : Env) (s : St) (tx : Tx) (n : Name) (d d' : Domain)
    (hd : alookup n s.recs = some d) (hd' : alookup n (step env s tx).2.recs = some d') (ho : d'.owner ≠ d.owner) :
    d'.onSale = false ∧ d'.salePrice = none ∧ ∃ b a o c, tx = .purchase b a n o c ∧ d'.owner = b := by
  rcases sale_state_changes_need_owner_or_purchase env s tx n d d' hd hd' (Or.inr (Or.inr ho)) with ⟨_, _, _, _, h⟩ | ⟨b, a, o, c, htx, hb, h1, h2⟩
  · exact absurd h ho
  · exact ⟨h1, h2, b, a, o, c, htx, hb⟩

theorem created_record_is_off_sale (env : Env) (s s' : St) (o b : Addr) (n : Name) (u : String) (uo : Bool) (p : Int)
    (c : Cur) (h : step env s (.create o b n u uo p c) = (.ok, s')) :
    ∃ d, alookup n s'.recs = some d ∧ d.onSale = false ∧ d.salePrice = none := by
  obtain ⟨_, s1, h1, hfr, _⟩ := step_ok h
  obtain ⟨d, hrecs, hd⟩ := runCreate_offSale h1
  rw [hfr, hrecs, alookup_upsert_self]
  exact ⟨d, rfl, hd⟩

/-- the scenario of corpus/C20/reg_listing_expires_then_bought.hist: foo.ol (asking 200) expires
    while listed, cc buys it as an expired name, bb then offers the old asking price -/
def listedExpired : St := (step (envAt 60 "cc") sOnSale (.purchase "cc" "" foo 1040 "OLT")).2

example : (alookup foo sOnSale.recs).map (fun d => (d.onSale, d.salePrice, d.owner)) = some (true, some 200, "aa") ∧
    (alookup foo listedExpired.recs).map (fun d => (d.onSale, d.salePrice, d.owner)) = some (false, none, "cc") ∧
    (step (envAt 61 "bb") listedExpired (.purchase "bb" "bb" foo 200 "OLT")).1 = .fail .notForSale := by decide +kernel

/-! ## 4. Expiry is set / extended by exactly the blocks the payment buys -/

def InInt64 (x : Int) : Prop := minInt64 ≤ x ∧ x ≤ maxInt64

/-
  Full strength since /repo f3370a9 (KF-C20-3 repaired): the block count goes through `blocksFor`,
  which refuses ("Buying price too high", no state change) a quotient that — added to the height it
  extends — does not fit an int64.  So a transaction either executes with the exact expiry below,
  or is refused; nothing wraps (`overlong_payment_is_refused`).
-/

theorem expiry_exact_create (env : Env) (s s' : St) (o b : Addr) (n : Name) (u : String) (uo : Bool) (p : Int) (c : Cur)
    (h : step env s (.create o b n u uo p c) = (.ok, s')) (hns : isSub n = false) :
    ∃ d, alookup n s'.recs = some d ∧
      d.expire = env.version + (p - env.opts.base) / env.opts.perBlock ∧ env.opts.base < p ∧ InInt64 d.expire := by
  obtain ⟨_, s1, h1, hfr, _⟩ := step_ok h
  obtain ⟨e, _, hrecs, hexp, _, _, hp, _⟩ := runCreate_ok h1
  rw [if_neg (by simp [hns])] at hexp
  obtain ⟨_, q, hq, he⟩ := hexp
  obtain ⟨rfl, _, hq⟩ := blocksFor_some hq
  subst he
  rw [hfr, hrecs, alookup_upsert_self]
  exact ⟨_, rfl, rfl, hp, hq⟩

example : (step (envAt 7 "bb") genesis (.create "bb" "" foo "" true 1059 "OLT")).1 = .ok ∧
    (alookup foo (step (envAt 7 "bb") genesis (.create "bb" "" foo "" true 1059 "OLT")).2.recs).map (·.expire) = some (6 + 5) := by decide +kernel

/-- a sub-name is created with its parent's expiry height, whatever is paid above the base price,
    and only by the parent's owner -/
theorem sub_created_with_parent_expiry (env : Env) (s s' : St) (o b : Addr) (n : Name) (u : String) (uo : Bool) (p : Int) (c : Cur)
    (h : step env s (.create o b n u uo p c) = (.ok, s')) (hsub : isSub n = true) :
    ∃ d par, alookup n s'.recs = some d ∧ alookup (parentOf n) s.recs = some par ∧ par.owner = o ∧
      d.owner = o ∧ d.expire = par.expire := by
  obtain ⟨_, s1, h1, hfr, _⟩ := step_ok h
  obtain ⟨e, _, hrecs, hexp, _⟩ := runCreate_ok h1
  rw [if_pos hsub] at hexp
  obtain ⟨par, hpar, hpo, hpe⟩ := hexp
  rw [hfr, hrecs, alookup_upsert_self]
  exact ⟨_, par, rfl, hpar, hpo, rfl, hpe⟩

example : (alookup xfoo sOnSale.recs).map (·.expire) = some 50 ∧ (alookup foo sOnSale.recs).map (·.expire) = some 50 := by decide +kernel

/-- renew: expiry += price / perBlock exactly, only by the owner, only before expiry; every
    sub-name moves with it (also one created earlier in the same block) -/
theorem expiry_exact_renew (env : Env) (s s' : St) (o : Addr) (n : Name) (p : Int) (c : Cur)
    (h : step env s (.renew o n p c) = (.ok, s')) :
    ∃ d d', alookup n s.recs = some d ∧ d.owner = o ∧ env.version ≤ d.expire ∧ alookup n s'.recs = some d' ∧
      d'.owner = o ∧ d'.expire = d.expire + p / env.opts.perBlock ∧ InInt64 d'.expire ∧
      ∀ k dk, isSubOf k n = true → alookup k s'.recs = some dk → dk.expire = d'.expire := by
  obtain ⟨_, s1, h1, hfr, _⟩ := step_ok h
  obtain ⟨d, q, hd, hrecs, hown, _, hq, hexp, _⟩ := runRenew_ok h1
  obtain ⟨rfl, _, hq⟩ := blocksFor_some hq
  simp only [hfr, hrecs, alookup_mapSel_upsert]
  refine ⟨d, _, hd, hown, by simpa [expiredAt] using hexp, if_pos trivial, hown, rfl, hq, fun k dk hk hdk => ?_⟩
  rw [if_neg (ne_of_isSubOf hk), if_pos (show visSub n k = true from hk)] at hdk
  obtain ⟨_, _, rfl⟩ := Option.map_eq_some_iff.mp hdk
  rfl

example : (step (envAt 9 "aa") sOnSale (.renew "aa" foo 45 "OLT")).1 = .ok ∧
    (alookup foo (step (envAt 9 "aa") sOnSale (.renew "aa" foo 45 "OLT")).2.recs).map (·.expire) = some 54 ∧
    (alookup xfoo (step (envAt 9 "aa") sOnSale (.renew "aa" foo 45 "OLT")).2.recs).map (·.expire) = some 54 := by decide +kernel
example : (step (envAt 60 "aa") sOnSale (.renew "aa" foo 45 "OLT")).1 = .fail .expired := by decide +kernel

theorem expiry_exact_purchase_on_sale (env : Env) (s s' : St) (b a : Addr) (n : Name) (o : Int) (c : Cur) (d : Domain)
    (price : Int) (h : step env s (.purchase b a n o c) = (.ok, s')) (hd : alookup n s.recs = some d)
    (hsale : d.onSale = true) (hlive : env.version ≤ d.expire) (hp : d.salePrice = some price) :
    ∃ d', alookup n s'.recs = some d' ∧ d'.expire = d.expire + (o - price) / env.opts.perBlock ∧ InInt64 d'.expire := by
  obtain ⟨_, s1, h1, hfr, _⟩ := step_ok h
  obtain ⟨d0, q, hd0, hrecs, _, _, _, hbr⟩ := runPurchase_ok h1
  cases hd.symm.trans hd0
  rw [if_pos ⟨hlive, hsale⟩] at hbr
  obtain ⟨price', b0, hsp, _, _, _, _, hq⟩ := hbr
  cases hp.symm.trans hsp
  obtain ⟨rfl, _, hq⟩ := blocksFor_some hq
  rw [hfr, hrecs, alookup_upsert_self]
  refine ⟨_, rfl, ?_⟩
  rw [resetAfterSale_expire, Int.max_eq_left hlive]
  exact ⟨rfl, hq⟩

example : (step (envAt 5 "bb") sOnSale (.purchase "bb" "bb" foo 350 "OLT")).1 = .ok ∧
    (alookup foo (step (envAt 5 "bb") sOnSale (.purchase "bb" "bb" foo 350 "OLT")).2.recs).map (·.expire) = some (50 + 15) := by decide +kernel

theorem expiry_exact_purchase_expired (env : Env) (s s' : St) (b a : Addr) (n : Name) (o : Int) (c : Cur) (d : Domain)
    (h : step env s (.purchase b a n o c) = (.ok, s')) (hd : alookup n s.recs = some d)
    (hexp : d.expire < env.version) :
    ∃ d', alookup n s'.recs = some d' ∧ d'.expire = env.version + (o - env.opts.base) / env.opts.perBlock ∧ InInt64 d'.expire := by
  obtain ⟨_, s1, h1, hfr, _⟩ := step_ok h
  obtain ⟨d0, q, hd0, hrecs, _, _, _, hbr⟩ := runPurchase_ok h1
  cases hd.symm.trans hd0
  rw [if_neg fun hl => Int.not_le.mpr hexp hl.1] at hbr
  obtain ⟨rfl, _, hq⟩ := blocksFor_some hbr.2.2.2
  rw [hfr, hrecs, alookup_upsert_self]
  refine ⟨_, rfl, ?_⟩
  rw [resetAfterSale_expire, Int.max_eq_right (Int.le_of_lt hexp)]
  exact ⟨rfl, hq⟩

example : (step (envAt 60 "cc") sOnSale (.purchase "cc" "" foo 1040 "OLT")).1 = .ok ∧
    (alookup foo (step (envAt 60 "cc") sOnSale (.purchase "cc" "" foo 1040 "OLT")).2.recs).map (·.expire) = some (59 + 4) := by decide +kernel

/-- every expiry height the handlers write is an int64 reached without wrapping: in every state
    reached by any transaction, a record whose expiry changed carries an in-range value — shown
    above per kind; conversely a payment that would buy more is refused and changes nothing.
    Regression for KF-C20-3 (witness = corpus/C20/reg_expiry_would_wrap_int64.hist): with
    perBlockFees = 1 a payment of 10^19 above the base price used to be registered with expiry
    −8446744073709551616 -/
theorem overlong_payment_is_refused :
    let env : Env := { envAt 1 "aa" with opts := ⟨1000, 1, ["ol"]⟩ }
    let s : St := { St.empty with bals := [(("aa", "OLT"), 20000000000000000000000)] }
    (step env s (.create "aa" "" foo "" true 10000000000000001000 "OLT")).1 = .fail .priceTooHigh ∧
    (step env s (.create "aa" "" foo "" true 10000000000000001000 "OLT")).2.recs = [] ∧
    bal (step env s (.create "aa" "" foo "" true 10000000000000001000 "OLT")).2.bals ("aa", "OLT") = 20000000000000000000000 ∧
    (step env s (.create "aa" "" foo "" true 9223372036854776806 "OLT")).1 = .ok ∧
    (step env s (.create "aa" "" foo "" true 9223372036854776807 "OLT")).1 = .ok ∧
    (step env s (.create "aa" "" foo "" true 9223372036854776808 "OLT")).1 = .fail .priceTooHigh := by decide +kernel

end OLP.Props.C20
