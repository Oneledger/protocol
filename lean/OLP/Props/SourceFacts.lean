/-
  Obligations over the REGENERATED fact tables (tie T3) that several properties share: the
  functions the hand-written models port statement by statement are unchanged since the port was
  validated. Each is proved here once; `OLP/Props/CxxFacts.lean` cites it under the property's name.

  Throughout the `…Facts` files: where both sides of an obligation are literal tables the proof is
  `rfl` (the two lists are compared as they stand); where one side is computed from the generated
  table the proof is `decide +kernel` (string comparison is evaluated by the kernel only: in the
  elaborator it costs twice as much again).
-/
import OLP.Shell.Expect

namespace OLP.Props.Source
open OLP.Expect

/-- the ABCI entry points the shell model ports (C05–C08) -/
theorem entry_points_source_pinned :
    pinnedOf OLP.Gen.pinned (pinnedShell.map (fun r => r.fn)) = pinnedShell := by decide +kernel

/-- the coin / balance-store / fee-step / transfer functions the ledger model ports (C02, C03) -/
theorem ledger_leaves_source_pinned :
    pinnedOf OLP.Gen.pinned (pinnedLedger.map (fun r => r.fn)) = pinnedLedger := by decide +kernel

end OLP.Props.Source
