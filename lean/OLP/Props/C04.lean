/-
  C04 — Only authentically signed, untampered transactions are admitted or executed.

  Statements are about the executable models `OLP.Sig` (OLP/Sig/Model.lean: `action.ValidateBasic`,
  the key handlers of data/keys, `RawTx.RawBytes()`, the OLVM `validateSigner`) and `OLP.Shell`
  (`txChecker` / `txDeliverer`), which the `sigm` and `shell` engines compare with the real code and
  the `sig` engine monitors on the whole application.

  `B64Spec` (section 2: what is asked of the `[]byte` text encoding) is defined in OLP/Sig/Lemmas.lean.

  Cryptography is a parameter: `verify`, `addrOf`, `Prims`, `EthLib` are arbitrary functions.
  Nothing here assumes unforgeability; `tamper_rejected` states it as an explicit hypothesis.
-/
import OLP.Sig.Lemmas
import OLP.Shell.Tx

namespace OLP.Props.C04
open OLP OLP.Sig

/-! ## 1. `ValidateBasic`: accepted iff one matching, verifying signature per required signer, in order -/

section VB
variable {PK S A M : Type} [DecidableEq A]
variable (verify : PK → M → S → Bool) (addrOf : PK → Option A) (data : M)

theorem validateBasic_iff (signers : List A) (sigs : List (Sig PK S)) :
    validateBasic verify addrOf data signers sigs = .ok ↔
      sigs.length = signers.length ∧
      ∀ i (hi : i < signers.length) (hj : i < sigs.length),
        addrOf sigs[i].signer = some signers[i] ∧ verify sigs[i].signer data sigs[i].signed = true := by
  by_cases h : sigs.length = signers.length
  · rw [validateBasic_eq_vbLoop h, vbLoop_ok_iff h, and_iff_right h]
  · simp [validateBasic, h]

/-- the index panic of the loop is unreachable behind the length check -/
theorem validateBasic_never_panics (signers : List A) (sigs : List (Sig PK S)) :
    validateBasic verify addrOf data signers sigs ≠ .panic := by
  by_cases h : sigs.length = signers.length
  · exact validateBasic_eq_vbLoop h ▸ vbLoop_ne_panic h
  · simp [validateBasic, h]

theorem signature_count_mismatch_rejected (signers : List A) (sigs : List (Sig PK S))
    (h : sigs.length ≠ signers.length) :
    validateBasic verify addrOf data signers sigs = .unmatch :=
  if_pos h

/-- includes an unusable key, `addrOf = none` -/
theorem substituted_signer_rejected (signers : List A) (sigs : List (Sig PK S))
    (i : Nat) (hi : i < signers.length) (hj : i < sigs.length)
    (h : addrOf sigs[i].signer ≠ some signers[i]) :
    validateBasic verify addrOf data signers sigs ≠ .ok :=
  fun hok => h (((validateBasic_iff ..).mp hok).2 i hi hj).1

/-- covers signing with another key, signing other bytes, and altering the signature bytes -/
theorem unverified_signature_rejected (signers : List A) (sigs : List (Sig PK S))
    (i : Nat) (hj : i < sigs.length) (h : verify sigs[i].signer data sigs[i].signed = false) :
    validateBasic verify addrOf data signers sigs ≠ .ok := by
  intro hok
  obtain ⟨hl, hall⟩ := (validateBasic_iff ..).mp hok
  exact Bool.false_ne_true (h ▸ (hall i (hl ▸ hj) hj).2)

/-- changing the required signers (dropping, adding, reordering, substituting) without new
    signatures is rejected -/
theorem accepted_signatures_fix_signers (signers signers' : List A) (sigs : List (Sig PK S))
    (h : validateBasic verify addrOf data signers sigs = .ok)
    (h' : validateBasic verify addrOf data signers' sigs = .ok) : signers' = signers := by
  have a := (validateBasic_iff ..).mp h
  have b := (validateBasic_iff ..).mp h'
  apply List.ext_getElem (b.1.symm.trans a.1)
  intro i h1 h2
  exact Option.some.inj ((b.2 i h1 (b.1 ▸ h1)).1.symm.trans (a.2 i h2 (a.1 ▸ h2)).1)

theorem reordered_signatures_rejected (signers : List A) (sigs sigs' : List (Sig PK S))
    (h : validateBasic verify addrOf data signers sigs = .ok)
    (i j : Nat) (hi : i < signers.length) (hj : j < signers.length)
    (hi' : i < sigs'.length) (hj' : j < sigs.length)
    (hmoved : sigs'[i] = sigs[j]) (hdiff : signers[i] ≠ signers[j]) :
    validateBasic verify addrOf data signers sigs' ≠ .ok := by
  intro h'
  have a := ((validateBasic_iff ..).mp h).2 j hj hj'
  have b := ((validateBasic_iff ..).mp h').2 i hi hi'
  rw [hmoved, a.1] at b
  exact hdiff (Option.some.inj b.1).symm

end VB

/-! ### non-vacuity: a two-signer transaction (keys 1, 2 with addresses 10, 20; "signature" = key + data) -/

def exVerify : Nat → Nat → Nat → Bool := fun pk d s => s == pk + d
def exAddr : Nat → Option Nat := fun pk => if pk = 0 then none else some (pk * 10)

example : validateBasic exVerify exAddr 5 [10, 20] [⟨1, 6⟩, ⟨2, 7⟩] = .ok := by decide
example : validateBasic exVerify exAddr 5 [10, 20] [⟨2, 7⟩, ⟨1, 6⟩] = .unmatch := by decide  -- reordered
example : validateBasic exVerify exAddr 5 [10, 20] [⟨1, 6⟩] = .unmatch := by decide  -- dropped
example : validateBasic exVerify exAddr 5 [10, 20] [⟨1, 6⟩, ⟨3, 8⟩] = .unmatch := by decide  -- substituted
example : validateBasic exVerify exAddr 6 [10, 20] [⟨1, 6⟩, ⟨2, 7⟩] = .badSig := by decide  -- other bytes
example : validateBasic exVerify exAddr 5 [10, 20] [⟨1, 6⟩, ⟨2, 9⟩] = .badSig := by decide  -- second sig altered
example : validateBasic exVerify exAddr 5 [10, 0] [⟨1, 6⟩, ⟨0, 5⟩] = .badKey := by decide  -- unusable key

/-! ## 2. The signed bytes determine type, payload, fee and memo -/

theorem unser_ser (t : RawTx) : unser (ser t) = some t := unserWith_serWith base64_spec t

theorem serWith_injective {b64 : Bytes → List Char} {unb64 : List Char → Option Bytes}
    (hs : B64Spec b64 unb64) {t₁ t₂ : RawTx} (h : serWith b64 t₁ = serWith b64 t₂) : t₁ = t₂ := by
  have h1 := unserWith_serWith hs t₁
  rw [h, unserWith_serWith hs t₂] at h1
  exact (Option.some.inj h1).symm

/-- `RawTx.RawBytes()` is injective on parsed values (type, payload bytes incl. nil vs empty,
    fee currency / price / gas and memo over all valid Unicode strings, all integers) -/
theorem ser_injective {t₁ t₂ : RawTx} (h : ser t₁ = ser t₂) : t₁ = t₂ :=
  serWith_injective base64_spec h

theorem serBytes_injective {t₁ t₂ : RawTx} (h : serBytes t₁ = serBytes t₂) : t₁ = t₂ := by
  unfold serBytes String.toUTF8 at h
  exact ser_injective (String.ofList_injective (String.toByteArray_inj.mp h))

theorem mutation_changes_signed_bytes {t t' : RawTx} (h : t' ≠ t) : serBytes t' ≠ serBytes t :=
  fun e => h (serBytes_injective e)

section Tamper
variable {PK S A : Type} [DecidableEq A]
variable (verify : PK → ByteArray → S → Bool) (addrOf : PK → Option A)

theorem tamper_needs_fresh_signatures (t t' : RawTx) (hne : t' ≠ t)
    (signers : List A) (sigs : List (Sig PK S))
    (h : validateBasic verify addrOf (serBytes t') signers sigs = .ok) :
    serBytes t' ≠ serBytes t ∧ sigs.length = signers.length ∧
    ∀ i (hi : i < signers.length) (hj : i < sigs.length),
      addrOf sigs[i].signer = some signers[i] ∧
      verify sigs[i].signer (serBytes t') sigs[i].signed = true :=
  ⟨mutation_changes_signed_bytes hne, (validateBasic_iff ..).mp h⟩

/-- `signedBy pk m`: the owner of `pk` produced a signature over `m`.  IF every verifying
    signature was produced by the key's owner (unforgeability — a hypothesis, not a claim) and
    the owners of the keys with a required signer's address signed nothing but `t`, THEN no
    `t' ≠ t` is accepted for these signers, with whatever signature bytes -/
theorem tamper_rejected (signedBy : PK → ByteArray → Prop)
    (hunf : ∀ pk m s, verify pk m s = true → signedBy pk m)
    (t t' : RawTx) (hne : t' ≠ t) (signers : List A) (hreq : signers ≠ [])
    (honly : ∀ pk a m, addrOf pk = some a → a ∈ signers → signedBy pk m → m = serBytes t)
    (sigs : List (Sig PK S)) :
    validateBasic verify addrOf (serBytes t') signers sigs ≠ .ok := by
  intro h
  obtain ⟨hb, hl, hall⟩ := tamper_needs_fresh_signatures verify addrOf t t' hne signers sigs h
  have hp := List.length_pos_iff.mpr hreq
  have h0 := hall 0 hp (hl ▸ hp)
  exact hb (honly _ _ _ h0.1 (List.getElem_mem hp) (hunf _ _ _ h0.2))

end Tamper

/-! ### non-vacuity: single-field mutants of one transaction all have different signed text -/

def exTx : RawTx :=
  { type := 1, data := some [123, 125], currency := "OLT".toList, value := 10000000000, gas := 400000,
    memo := "m<1>\"\n".toList }

example : ser { exTx with memo := "m<1>\"\nx".toList } ≠ ser exTx :=
  fun e => absurd (ser_injective e) (by decide +kernel)
example : ser { exTx with gas := 400001 } ≠ ser exTx :=
  fun e => absurd (ser_injective e) (by decide)
example : ser { exTx with data := none } ≠ ser { exTx with data := some [] } :=
  fun e => absurd (ser_injective e) (by decide)
example : escStr "a<\"\n".toList = "\"a\\u003c\\\"\\n\"".toList := by decide +kernel
example : base64 [1, 2, 3, 4, 255] = "AQIDBP8=".toList := by decide +kernel

/-! ## 3. The key handlers: every accepted signature passed a cryptographic verification

  Without side condition since /repo d272d58 ("BTCEC public keys verify signatures and have an
  address"): before it `PublicKeyBTCEC.VerifyBytes` returned true and `Address()` nil, and an
  EXPIRE_VOTES naming the empty address was executed with any bytes as signature.  That input is
  a regression example below and scenario corpus/C04/kf1_btcec_empty_signer.ops. -/

section Keys
variable {M S : Type}

/-- for all four algorithms: the key has a handler (known algorithm, right size / parseable
    point) whose address is the signer, and the signature passed the library verification -/
theorem authentic (p : Prims M S) (data : M) (signers : List Bytes) (sigs : List (Sig PubKey S)) :
    validateBasicK p data signers sigs = .ok ↔
      sigs.length = signers.length ∧
      ∀ i (hi : i < signers.length) (hj : i < sigs.length),
        keyAddr p sigs[i].signer = some signers[i] ∧
        p.sigVerify sigs[i].signer data sigs[i].signed = true :=
  validateBasic_iff ..

theorem no_acceptance_without_verification (p : Prims M S) (data : M) (signers : List Bytes)
    (sigs : List (Sig PubKey S)) (i : Nat) (hj : i < sigs.length)
    (h : p.sigVerify sigs[i].signer data sigs[i].signed = false) :
    validateBasicK p data signers sigs ≠ .ok :=
  unverified_signature_rejected (keyVerify p) (keyAddr p) data signers sigs i hj h

theorem handler_needs_wellformed_key (p : Prims M S) (pk : PubKey) (a : Bytes)
    (h : keyAddr p pk = some a) :
    a = p.hashAddr pk ∧
    ((pk.alg = .ed25519 ∧ pk.data.length = ED25519_PUB_SIZE) ∨
     (pk.alg = .secp256k1 ∧ pk.data.length = SECP256K1_PUB_SIZE) ∨
     (pk.alg = .ethsecp ∧ p.parses pk = true) ∨
     (pk.alg = .btcec ∧ pk.data.length = SECP256K1_PUB_SIZE ∧ p.parses pk = true)) := by
  unfold keyAddr at h
  cases hk : pk.alg <;> simp [hk] at h <;> simp [h]

/-- ASSUMPTION on the library verification, stated where it is used: a signature that verifies
    for `m` under a key does not verify for any other message under the same key.  (A digest
    based scheme that looked at the first 32 bytes of the message only — the BTCEC handler before
    /repo b2b7e17 — violates it.)  This is not provable here (`sigVerify` is a parameter); it is
    VALIDATED per algorithm on every run by the `sigm` monitor
    `accepted-signature-survives-message-change:<alg>:<position class>`: every accepted
    (key, message, signature) is offered again with the message changed inside the first 32
    bytes, at and after byte 32, in the last byte, with one byte appended and one dropped.
    It is the consequence of the two hypotheses of `tamper_rejected` (unforgeability + the owner
    signed one message only) that concerns one fixed signature. -/
def MessageBinding (p : Prims M S) : Prop :=
  ∀ pk m m' s, p.sigVerify pk m s = true → p.sigVerify pk m' s = true → m' = m

theorem accepted_signatures_bind_message (p : Prims M S) (hb : MessageBinding p) (data data' : M)
    (signers : List Bytes) (hreq : signers ≠ []) (sigs : List (Sig PubKey S))
    (h : validateBasicK p data signers sigs = .ok) (h' : validateBasicK p data' signers sigs = .ok) :
    data' = data := by
  have a := (authentic ..).mp h
  have b := (authentic ..).mp h'
  have hp := List.length_pos_iff.mpr hreq
  exact hb _ _ _ _ (a.2 0 hp (a.1 ▸ hp)).2 (b.2 0 hp (a.1 ▸ hp)).2

theorem accepted_signatures_bind_transaction {S : Type} (p : Prims ByteArray S) (hb : MessageBinding p)
    (t t' : RawTx) (signers : List Bytes) (hreq : signers ≠ []) (sigs : List (Sig PubKey S))
    (h : validateBasicK p (serBytes t) signers sigs = .ok)
    (h' : validateBasicK p (serBytes t') signers sigs = .ok) : t' = t :=
  serBytes_injective (accepted_signatures_bind_message p hb _ _ signers hreq sigs h h')

theorem unusable_key_rejected (p : Prims M S) (data : M) (s : Bytes) (ss : List Bytes)
    (g : Sig PubKey S) (gs : List (Sig PubKey S)) (hl : gs.length = ss.length)
    (h : keyAddr p g.signer = none) :
    validateBasicK p data (s :: ss) (g :: gs) = .badKey := by
  simp [validateBasicK, validateBasic, vbLoop, hl, h]

end Keys

def exPrims : Prims Nat Nat :=
  { parses := fun _ => true, hashAddr := fun pk => pk.data, sigVerify := fun _ _ _ => false }
def exPrimsOK : Prims Nat Nat :=
  { parses := fun _ => true, hashAddr := fun pk => pk.data, sigVerify := fun pk m s => s == m + pk.data.length }

/-- `exPrimsOK` binds messages; a scheme reading only `m % 100` (the "first 32 bytes") does not -/
example : MessageBinding exPrimsOK := by
  intro pk m m' s h h'
  simp only [exPrimsOK, beq_iff_eq] at h h'
  omega
/-- a BTCEC key of the one accepted length -/
def bk : Bytes := List.replicate 33 2
def exPrimsPrefix : Prims Nat Nat :=
  { parses := fun _ => true, hashAddr := fun pk => pk.data, sigVerify := fun _ m s => s == m % 100 }
example : ¬ MessageBinding exPrimsPrefix :=
  fun h => absurd (h ⟨.btcec, []⟩ 7 107 7 rfl rfl) (by decide)
example : validateBasicK exPrimsPrefix 7 [bk] [⟨⟨.btcec, bk⟩, 7⟩] = .ok ∧
    validateBasicK exPrimsPrefix 107 [bk] [⟨⟨.btcec, bk⟩, 7⟩] = .ok := by decide

/-- regression: the empty address with a BTCEC key and junk -/
example : validateBasicK exPrims 7 [[]] [⟨⟨.btcec, bk⟩, 0⟩] = .unmatch := by decide
example : validateBasicK exPrims 7 [bk] [⟨⟨.btcec, bk⟩, 0⟩] = .badSig := by decide
example : validateBasicK exPrimsOK 7 [bk] [⟨⟨.btcec, bk⟩, 40⟩] = .ok := by decide
example : validateBasicK exPrimsOK 7 [bk] [⟨⟨.btcec, bk⟩, 39⟩] = .badSig := by decide
/-- a BTCEC key in another spelling (65 bytes: the uncompressed point) has no handler, although the
    library parses it and the signature would verify -/
example : validateBasicK exPrimsOK 7 [List.replicate 65 4] [⟨⟨.btcec, List.replicate 65 4⟩, 72⟩] = .badKey := by decide
example : validateBasicK exPrims 7 [[9]] [⟨⟨.ed25519, [9]⟩, 0⟩] = .badKey := by decide

/-! ## 4. Admission: CheckTx / DeliverTx run nothing of a transaction whose signatures do not validate -/

section Shell
open OLP.KV OLP.Shell
variable {K V C E T H D : Type} [DecidableEq K] [DecidableEq V] [DecidableEq C] [DecidableEq H]
variable (cfg : Cfg K V) (hs : Handlers K V C E T H D) (e : E)

/-- what the extracted table `validateRows` says of the registered kinds (its rows are checked in
    OLP/Props/C04Facts.lean; that a row means this premise for its handler is trusted):
    `handler.Validate` fails whenever the signature predicate `sigOK` of the kind's class does
    not hold, whatever the state -/
def ValidatesSignatures (sigOK : T → Bool) : Prop :=
  ∀ tx, sigOK tx = false → ∀ s m, ((hs.validate tx).run cfg s m e).1 = none

omit [DecidableEq H] in
/-- a `Validate` of the extracted shape — signature check first, the rest only afterwards -/
theorem guarded_validate_validates (sigOK : T → Bool) (rest : T → Prog K V C E Unit)
    (hshape : ∀ tx, hs.validate tx = if sigOK tx then rest tx else .fail) :
    ValidatesSignatures cfg hs e sigOK := by
  intro tx hbad s m
  rw [hshape tx, hbad]
  rfl

theorem checkTx_admits_only_validated (sigOK : T → Bool) (hv : ValidatesSignatures cfg hs e sigOK)
    (n : Node K V C T H D) (tx : T) (h : (checkTx cfg hs e n tx).2 = true) : sigOK tx = true :=
  Bool.of_not_eq_false fun hok =>
    Bool.false_ne_true ((checkTx_validate_fails cfg hs e n tx (hv tx hok)).symm.trans h)

/-- "executes": returns success for a transaction that is not an indexed replay -/
theorem deliverTx_executes_only_validated (sigOK : T → Bool) (hv : ValidatesSignatures cfg hs e sigOK)
    (n : Node K V C T H D) (tx : T) (hmiss : lookupIdx n.idx (hs.hash tx) = none)
    (h : (deliverTx cfg hs e n tx).2.ok = true) : sigOK tx = true :=
  Bool.of_not_eq_false fun hok =>
    Bool.false_ne_true ((deliverTx_validate_fails cfg hs e n tx (hv tx hok) hmiss).symm.trans h)

/-- for a transaction delivered directly in a block; the response is a failure unless it is the
    cached response of an already indexed transaction (in which case nothing ran at all) -/
theorem invalid_signature_delivery_without_effect (sigOK : T → Bool)
    (hv : ValidatesSignatures cfg hs e sigOK) (n : Node K V C T H D) (tx : T)
    (hbad : sigOK tx = false) :
    let r := deliverTx cfg hs e n tx
    r.1.tree = n.tree ∧ r.1.dlv.cache = n.dlv.cache ∧ r.1.chk = n.chk ∧ r.1.idx = n.idx ∧
    r.1.height = n.height ∧
    (lookupIdx n.idx (hs.hash tx) = none → r.2.ok = false ∧ r.1.dlv.sess = none) ∧
    (∀ c, lookupIdx n.idx (hs.hash tx) = some c → r = (n, c)) := by
  intro r
  cases hidx : lookupIdx n.idx (hs.hash tx) with
  | some c =>
    have hr : r = (n, c) := deliverTx_hit cfg hs e hidx
    rw [hr]
    exact ⟨rfl, rfl, rfl, rfl, rfl, (fun h => by cases h), (fun c' h => by cases h; rfl)⟩
  | none =>
    have hfail : r.2.ok = false := deliverTx_validate_fails cfg hs e n tx (hv tx hbad) hidx
    have hr : r = deliverCore cfg hs e n tx := deliverTx_miss cfg hs e hidx
    have f := deliverCore_frame cfg hs e n tx
    rw [hr] at hfail ⊢
    exact ⟨f.tree, f.cache hfail, f.chk, f.idx, f.height, (fun _ => ⟨hfail, f.sess⟩), (fun c h => by cases h)⟩

end Shell

/-! ### what an admitted transaction of a `basic` kind carries -/

section Admit
variable {PK S A M : Type} [DecidableEq A]
variable (verify : PK → M → S → Bool) (addrOf : PK → Option A) (enc : RawTx → M)
variable (signersOf : RawTx → Option (List A)) (olvm : SignedTx PK S → Bool)

/-- class `basic` is every registered native kind (C04Facts) -/
theorem sigAdmit_basic_iff (tx : SignedTx PK S) :
    sigAdmit .basic verify addrOf enc signersOf olvm tx = true ↔
      ∃ signers, signersOf tx.raw = some signers ∧ tx.sigs.length = signers.length ∧
        ∀ i (hi : i < signers.length) (hj : i < tx.sigs.length),
          addrOf tx.sigs[i].signer = some signers[i] ∧
          verify tx.sigs[i].signer (enc tx.raw) tx.sigs[i].signed = true := by
  unfold sigAdmit
  cases h : signersOf tx.raw with
  | none => simp
  | some sg =>
    simp only [decide_eq_true_eq, Option.some.injEq, exists_eq_left']
    exact validateBasic_iff ..

theorem sigAdmit_rejectAll (tx : SignedTx PK S) :
    sigAdmit .rejectAll verify addrOf enc signersOf olvm tx = false := rfl

end Admit

/-! ## 5. OLVM transactions: EIP-155 sender recovery and a canonical envelope

  The Ethereum signature covers (nonce, to, value, data, chain id) of the payload and (gas, price)
  of the fee — the view `eth`.  Everything else of the envelope is fixed by equality checks:
  `from` = recovered sender, payload chain id = the one encoded in the signature, payload `type`
  = 0 and `accessList` = nil, memo = the canonical decimal nonce, the public key of the signature
  entry has the address `from` (fixes /repo d9b5b70, e1e2119; before them the access list, the
  type field, leading zeros of the memo and the public key could be altered after signing, and
  a signature of the wrong length or a missing chain id made the handler panic and the node
  close itself — scenarios corpus/C04/kf2_*.ops, kf3_*.ops, now refused).
  Full strength: `olvm_accepted_iff`, `olvm_envelope_determined`, `olvm_covered`,
  `olvm_never_panics`.  WHAT REMAINS outside these statements, exactly:
  (a) cryptography — `lib.sender` is a parameter (signature malleability is go-ethereum's
      business: `Sender` enforces low-s);
  (b) the public key enters through its address only (`olvm_signer_key_through_address`).
  The payload JSON cannot be re-spelled after signing either: since /repo f332fc0 only the
  encoding `Marshal` produces is accepted (`olvm_payload_bytes_determined`). -/

section Olvm
variable {A E S PK : Type} [DecidableEq A]
variable (lib : EthLib A E S) (addrOf : PK → Option A)

theorem olvm_memo_canonical (memo : List Char) (n : Nat) (h : memoIsNonce memo n = true) :
    memo = natDigits n :=
  (memoIsNonce_iff.mp h).1

theorem olvm_canonical_memo_accepted (n : Nat) (h : n < 2 ^ 64) : memoIsNonce (natDigits n) n = true :=
  memoIsNonce_iff.mpr ⟨rfl, h⟩

theorem olvm_memo_pins_nonce (memo : List Char) (n m : Nat)
    (hn : memoIsNonce memo n = true) (hm : memoIsNonce memo m = true) : n = m := by
  have a := olvm_memo_canonical memo n hn
  have b := olvm_memo_canonical memo m hm
  rw [← digitsVal_natDigits n, ← a, b, digitsVal_natDigits]

theorem olvm_accepted_iff (v : OlvmView A E) (memo : List Char) (sigs : List (Sig PK S)) :
    olvmSig lib addrOf v memo sigs = .ok ↔
      ∃ g, sigs = [g] ∧ lib.sigLen g.signed = 65 ∧ v.chainID = some (lib.chainOf g.signed) ∧
        lib.sender v.eth g.signed = some v.sender ∧ addrOf g.signer = some v.sender ∧
        v.extra = ⟨0, false⟩ ∧ memoIsNonce memo v.nonce = true := by
  match sigs with
  | [] | _ :: _ :: _ => simp [olvmSig]
  | [g] => simp [olvmSig_singleton]

/-- the → direction without the key and the envelope fields -/
theorem olvm_sender_recovered (v : OlvmView A E) (memo : List Char) (sigs : List (Sig PK S))
    (h : olvmSig lib addrOf v memo sigs = .ok) :
    ∃ g, sigs = [g] ∧ lib.sigLen g.signed = 65 ∧ v.chainID = some (lib.chainOf g.signed) ∧
      lib.sender v.eth g.signed = some v.sender ∧ memoIsNonce memo v.nonce = true := by
  obtain ⟨g, a, b, c, d, _, _, f⟩ := (olvm_accepted_iff ..).mp h
  exact ⟨g, a, b, c, d, f⟩

/-- FULL STATEMENT for everything outside the Ethereum view: the signature bytes, the Ethereum
    view and the nonce determine the whole accepted envelope, so after signing nothing of it can
    be changed -/
theorem olvm_envelope_determined (v v' : OlvmView A E) (memo memo' : List Char) (g g' : Sig PK S)
    (h : olvmSig lib addrOf v memo [g] = .ok) (h' : olvmSig lib addrOf v' memo' [g'] = .ok)
    (hsig : g'.signed = g.signed) (heth : v'.eth = v.eth) (hn : v'.nonce = v.nonce) :
    v' = v ∧ memo' = memo ∧ addrOf g'.signer = addrOf g.signer := by
  obtain ⟨_, ⟨rfl⟩, _, c1, s1, a1, e1, m1⟩ := (olvm_accepted_iff ..).mp h
  obtain ⟨_, ⟨rfl⟩, _, c2, s2, a2, e2, m2⟩ := (olvm_accepted_iff ..).mp h'
  rw [hsig] at c2 s2
  rw [heth, s1] at s2
  have hs : v.sender = v'.sender := Option.some.inj s2
  refine ⟨?_, ?_, ?_⟩
  · cases v; cases v'
    simp only at hn heth hs c1 c2 e1 e2
    simp [hn, heth, hs, c1, c2, e1, e2]
  · rw [olvm_memo_canonical memo _ m1, olvm_memo_canonical memo' _ m2, hn]
  · rw [a1, a2, hs]

/-- FULL STATEMENT for the Ethereum view (nonce, to, value, data, gas, price): a changed view is
    accepted only with a signature from which the sender is recovered over the CHANGED view -/
theorem olvm_covered (v : OlvmView A E) (eth' : E) (memo : List Char) (g : Sig PK S)
    (h : olvmSig lib addrOf { v with eth := eth' } memo [g] = .ok) :
    lib.sender eth' g.signed = some v.sender := by
  obtain ⟨_, ⟨rfl⟩, _, _, hr, _⟩ := (olvm_accepted_iff ..).mp h
  exact hr

theorem olvm_never_panics (v : OlvmView A E) (memo : List Char) (sigs : List (Sig PK S)) :
    olvmSig lib addrOf v memo sigs ≠ .panic := by
  match sigs with
  | [] | _ :: _ :: _ => nofun
  | [g] => rw [olvmSig_singleton]; split <;> nofun

/-- regressions of the repaired defects, in general form -/
theorem olvm_malformed_signature_rejected (v : OlvmView A E) (memo : List Char) (g : Sig PK S)
    (h : lib.sigLen g.signed ≠ 65) : olvmSig lib addrOf v memo [g] = .reject := by
  rw [olvmSig_singleton, if_neg fun c => h c.1]

theorem olvm_missing_chainid_rejected (v : OlvmView A E) (memo : List Char) (sigs : List (Sig PK S))
    (hc : v.chainID = none) : olvmSig lib addrOf v memo sigs = .reject := by
  match sigs with
  | [] | _ :: _ :: _ => rfl
  | [g] => rw [olvmSig_singleton, hc, if_neg fun c => nomatch c.2.1]

theorem olvm_foreign_envelope_rejected (v : OlvmView A E) (memo : List Char) (sigs : List (Sig PK S))
    (h : v.extra ≠ ⟨0, false⟩) : olvmSig lib addrOf v memo sigs ≠ .ok := by
  intro hok
  obtain ⟨_, _, _, _, _, _, e, _⟩ := (olvm_accepted_iff ..).mp hok
  exact h e

theorem olvm_foreign_signer_key_rejected (v : OlvmView A E) (memo : List Char) (g : Sig PK S)
    (h : addrOf g.signer ≠ some v.sender) : olvmSig lib addrOf v memo [g] ≠ .ok := by
  rw [olvmSig_singleton, if_neg fun c => h c.2.2.2.1]
  nofun

/-- remainder (b): the named public key enters through its address only -/
theorem olvm_signer_key_through_address {PK' : Type} (addrOf' : PK' → Option A) (v : OlvmView A E)
    (memo : List Char) (g : Sig PK S) (pk' : PK') (h : addrOf' pk' = addrOf g.signer) :
    olvmSig lib addrOf' v memo [(⟨pk', g.signed⟩ : Sig PK' S)] = olvmSig lib addrOf v memo [g] := by
  rw [olvmSig_singleton, olvmSig_singleton, h]

theorem olvmValidate_ok_iff {B : Type} [DecidableEq B] (decode : B → Option (OlvmView A E))
    (encode : OlvmView A E → B) (d : B) (memo : List Char) (sigs : List (Sig PK S)) :
    olvmValidate lib addrOf decode encode d memo sigs = .ok ↔
      ∃ v, decode d = some v ∧ encode v = d ∧ olvmSig lib addrOf v memo sigs = .ok := by
  unfold olvmValidate
  cases h : decode d with
  | none => simp
  | some v =>
    by_cases he : encode v = d <;> simp [he]

/-- FULL STATEMENT for the payload bytes (`decode` = json.Unmarshal tolerates spacing, key order
    and unknown keys): with `olvm_envelope_determined`, the signature bytes, the Ethereum view and
    the nonce determine the accepted payload byte for byte -/
theorem olvm_payload_bytes_determined {B : Type} [DecidableEq B] (decode : B → Option (OlvmView A E))
    (encode : OlvmView A E → B) (d d' : B) (memo memo' : List Char) (sigs sigs' : List (Sig PK S))
    (h : olvmValidate lib addrOf decode encode d memo sigs = .ok)
    (h' : olvmValidate lib addrOf decode encode d' memo' sigs' = .ok)
    (hv : decode d' = decode d) : d' = d := by
  obtain ⟨v, hd, he, _⟩ := (olvmValidate_ok_iff ..).mp h
  obtain ⟨v', hd', he', _⟩ := (olvmValidate_ok_iff ..).mp h'
  rw [hv, hd] at hd'
  cases hd'
  rw [← he, ← he']

theorem olvmValidate_never_panics {B : Type} [DecidableEq B] (decode : B → Option (OlvmView A E))
    (encode : OlvmView A E → B) (d : B) (memo : List Char) (sigs : List (Sig PK S)) :
    olvmValidate lib addrOf decode encode d memo sigs ≠ .panic := by
  unfold olvmValidate
  split
  · nofun
  · split
    · nofun
    · exact olvm_never_panics lib addrOf _ memo sigs

end Olvm

/-- toy library: the "signature" is (length, chain id, sender, eth view it was made over);
    a public key is its own address -/
def exLib : EthLib Nat Nat (Nat × Int × Nat × Nat) :=
  { sigLen := fun s => s.1, chainOf := fun s => s.2.1,
    sender := fun eth s => if s.2.2.2 = eth then some s.2.2.1 else none }
def exKeyAddr : Nat → Option Nat := fun pk => if pk = 0 then none else some pk
def exView : OlvmView Nat Nat := { nonce := 12, sender := 7, chainID := some 1, eth := 99, extra := ⟨0, false⟩ }
def exSig : Sig Nat (Nat × Int × Nat × Nat) := ⟨7, (65, 1, 7, 99)⟩
abbrev memo12 : List Char := natDigits 12

example : olvmSig exLib exKeyAddr exView memo12 [exSig] = .ok :=
  (olvm_accepted_iff exLib exKeyAddr exView memo12 [exSig]).mpr
    ⟨exSig, rfl, rfl, rfl, rfl, rfl, rfl, olvm_canonical_memo_accepted 12 (by decide)⟩
-- regressions: inputs accepted before the fixes, every one refused now
example : olvmSig exLib exKeyAddr { exView with extra := ⟨0, true⟩ } memo12 [exSig] ≠ .ok :=
  olvm_foreign_envelope_rejected _ _ _ _ _ (by decide)
example : olvmSig exLib exKeyAddr { exView with extra := ⟨2, false⟩ } memo12 [exSig] ≠ .ok :=
  olvm_foreign_envelope_rejected _ _ _ _ _ (by decide)
example : olvmSig exLib exKeyAddr exView memo12 [(⟨8, exSig.signed⟩ : Sig Nat _)] ≠ .ok :=
  olvm_foreign_signer_key_rejected _ _ _ _ _ (by decide)
example : memoIsNonce "012".toList 12 = false := by
  rw [memoIsNonce, natDigits_ge (by decide), natDigits_lt (by decide)]
  decide
example : olvmSig exLib exKeyAddr exView memo12 [(⟨7, (64, 1, 7, 99)⟩ : Sig Nat (Nat × Int × Nat × Nat))] = .reject :=
  olvm_malformed_signature_rejected _ _ _ _ _ (by decide)
example : olvmSig exLib exKeyAddr { exView with chainID := none } memo12 [exSig] = .reject :=
  olvm_missing_chainid_rejected _ _ _ _ _ rfl
example : olvmSig exLib exKeyAddr { exView with eth := 98 } memo12 [exSig] = .reject := by decide
example : olvmSig exLib exKeyAddr { exView with sender := 8 } memo12 [exSig] = .reject := by decide
example : olvmSig exLib exKeyAddr { exView with chainID := some 2 } memo12 [exSig] = .reject := by decide
example : olvmSig exLib exKeyAddr exView memo12 [exSig, exSig] = .reject := by decide
-- payload bytes as numbers: 5 is the canonical encoding of `exView`, 6 another spelling of it
example : olvmValidate exLib exKeyAddr (fun d => if d = 5 ∨ d = 6 then some exView else none) (fun _ => 5)
    6 memo12 [exSig] = .reject := by decide
example : olvmValidate exLib exKeyAddr (fun d => if d = 5 ∨ d = 6 then some exView else none) (fun _ => 5)
    5 memo12 [exSig] = .ok :=
  (olvmValidate_ok_iff ..).mpr ⟨exView, rfl, rfl,
    (olvm_accepted_iff exLib exKeyAddr exView memo12 [exSig]).mpr
      ⟨exSig, rfl, rfl, rfl, rfl, rfl, rfl, olvm_canonical_memo_accepted 12 (by decide)⟩⟩

end OLP.Props.C04
