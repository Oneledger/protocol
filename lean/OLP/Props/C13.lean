/-
  C13 — Block rewards stay within the pulled amount and the yearly schedule.

  Property theorems (helpers: OLP/Rewards/Lemmas.lean, OLP/Rewards/CalcLemmas.lean).  All
  statements are about the executable model OLP/Rewards/Model.lean, which the `rewards`
  correspondence engine compares with the real application on every run.

  Part I   the split between validators, delegators and the proposer (clause 1), the bookkeeping of
           the consumed amount, the validator chunks / matured balance and the reward withdrawal
           (clause 3).
  Part II  the reward calculator: the per-block amount stays within what was left of the reward
           year when the calculation cycle began, the burnout rate is capped by the pool (clause 2),
           and the amount does not depend on when a node was restarted (clause 4).

  Every clause is proved at full strength.  Three genuine defects found by this slice were
  repaired in /repo and the model follows the repaired code: d8159a7 (int64 guard of the reward
  withdrawal, formerly KF-C13-4), 729d203 (the calculator cache is valid for its own cycle only,
  formerly KF-C13-2/3 and the stale amount of KF-C13-1) and 2606b58 (the forecast is at least one
  calculation cycle, formerly the over-distribution of KF-C13-1).  The former counterexamples are
  kept as regression examples (`stall_regression_example`, `slow_cycle_regression_example`, and
  the necessity example `wrapped_withdraw_raises_matured`); the harness replays their shape on the
  implementation in every run.

  The hypothesis predicates and the small history vocabularies the statements use are defined in
  `OLP.Props.C13Defs` (below, same file), each vocabulary with the lemma the proofs use it through,
  so that `#audit_ns OLP.Props.C13` lists the property theorems only.
-/
import OLP.Rewards.Lemmas
import OLP.Rewards.CalcLemmas

namespace OLP.Props.C13Defs
open OLP.Rewards

/-! ## hypotheses (decidable predicates on the consensus inputs of a block) -/

/-- Tendermint's last-commit info: one entry per validator, non-negative voting power -/
def VotesOK (votes : List Vote) : Prop :=
  (votes.map (·.addr)).Nodup ∧ ∀ v ∈ votes, 0 ≤ v.power

/-- C12's invariant as far as the split needs it: active delegations are non-negative and covered
    by the balance of the delegation pool -/
def ActiveOK (D : Int) (active : List (Addr × Int)) : Prop :=
  (∀ p ∈ active, 0 ≤ p.2) ∧ sumSnd active ≤ D

instance (votes : List Vote) : Decidable (VotesOK votes) := by unfold VotesOK; infer_instance
instance (D : Int) (active : List (Addr × Int)) : Decidable (ActiveOK D active) := by
  unfold ActiveOK; infer_instance

/-! ## the reward records -/

def ChunksNonneg (cs : Chunks) : Prop := ∀ p ∈ cs, 0 ≤ p.2
def BalsNonneg (b : Bals) : Prop := ∀ p ∈ b, 0 ≤ p.2

/-- histories of one validator's reward records: maturity credits and withdrawal transactions -/
inductive WOp where
  | mature (x : Int)
  | withdraw (curOK : Bool) (stake : Option Addr) (signer : Addr) (value charge : Int)

def wstep (w : WSt) : WOp → WSt
  | .mature x => { w with matured := w.matured + x }
  | .withdraw curOK stake signer value charge =>
    match withdrawTx w curOK stake signer value charge with
    | .ok w' => w'
    | .error _ => w

def maturedTotal : List WOp → Int
  | [] => 0
  | .mature x :: t => x + maturedTotal t
  | _ :: t => maturedTotal t

theorem wstep_spec (w : WSt) (op : WOp) (t : List WOp) (hm : ∀ x, op = .mature x → 0 ≤ x)
    (h0 : 0 ≤ w.matured) :
    0 ≤ (wstep w op).matured ∧
    (wstep w op).matured + (wstep w op).withdrawn + maturedTotal t =
      w.matured + w.withdrawn + maturedTotal (op :: t) := by
  cases op with
  | mature x =>
    simp only [wstep, maturedTotal]
    exact ⟨Int.add_nonneg h0 (hm x rfl), by omega⟩
  | withdraw curOK stake signer value charge =>
    simp only [wstep, maturedTotal]
    cases hw : withdrawTx w curOK stake signer value charge with
    | error _ => exact ⟨h0, rfl⟩
    | ok w' =>
      obtain ⟨_, w1, hr, rfl⟩ := withdrawTx_ok hw
      obtain ⟨_, rfl⟩ := runWithdraw_ok w w1 stake signer value hr
      simp only []
      omega

/-! ## vocabulary of the calculator theorems -/

def CacheWF (o : Opts) (c : Cache) : Prop := c.burnedout = true → c.amount = o.burnout

/-- a node that is restarted before every block: the calculator as a pure function of the
    persisted records and the block store -/
def allTrue (rs : List Bool) : List Bool := rs.map (fun _ => true)

/-- the states before each block of a run -/
def calcStates (e : Env) (use : Int → Int → Int) (pool : Int → Int) : CS → Int → List Bool → List CS
  | _, _, [] => []
  | s, h, r :: rs => s :: calcStates e use pool (calcStep e use pool s h r).1 (h + 1) rs

/-- what the split does with a pulled amount: it consumes between nothing and all of it
    (`consumed_le_pulled`, `credits_nonneg` of Part I) -/
def UseOK (use : Int → Int → Int) : Prop := ∀ k a, 0 ≤ a → 0 ≤ use k a ∧ use k a ≤ a

def WithinSupply (o : Opts) (years : List Year) : Prop :=
  ∀ (y : Nat) (yr : Year) (supply : Int), years[y]? = some yr → o.shares[y]? = some supply →
    yr.dist ≤ supply

/-- a clean start within supply: every year is settled -/
theorem supInv_of_clean {e : Env} {k : Int} {years : List Year}
    (hclean : ∀ yr ∈ years, yr.till = yr.dist) (hsup : WithinSupply e.o years) : SupInv e k years :=
  fun y yr hy => Or.inl ⟨hclean yr (List.mem_of_getElem? hy), fun supply => hsup y yr supply hy⟩

/-- the concrete environment of the regression examples: cycle 2, close window 10 s, one reward
    year of 1 000 000 closing at t = 1000, exact integer quotient -/
def cexEnv (tm : Int → Int) : Env :=
  ⟨⟨1, 10, 2, 10, [1000000], 1⟩, tm, fun _ => 1000, fun a b => a / b⟩

/-- block times of regression example 1: blocks 1,2 one second apart, then a stall of 599 s (more
    than half of what is left of the year), then one block per second -/
def cexStall (h : Int) : Int := if h ≤ 2 then h - 1 else 597 + h

/-- block times of regression example 2: a stall of 899 s that ends 100 s before the close -/
def cexSlow (h : Int) : Int := if h ≤ 2 then h - 1 else 897 + h

theorem calcStates_getElem? {e : Env} {use : Int → Int → Int} {pool : Int → Int}
    {rs : List Bool} {s : CS} {k : Int} {j : Nat} {sj : CS}
    (h : (calcStates e use pool s k rs)[j]? = some sj) :
    j < rs.length ∧ sj = (calcRun e use pool s k (rs.take j)).1 := by
  induction rs generalizing s k j with
  | nil => cases h
  | cons r rs ih =>
    cases j with
    | zero => exact ⟨Nat.zero_lt_succ _, (Option.some.inj h).symm⟩
    | succ j =>
      obtain ⟨h1, h2⟩ := ih h
      exact ⟨Nat.succ_lt_succ h1, h2⟩

end OLP.Props.C13Defs

namespace OLP.Props.C13
open OLP.Rewards OLP.Props.C13Defs

/-! # Part I — split, records, withdrawal -/

/-! ## 1. credits ≤ consumed ≤ pulled -/

/-- the amount handed to `ConsumeRewards` never exceeds the pulled amount: for every pulled amount
    T ≥ 0, every voting pattern (absent signers, unknown validators, any powers ≥ 0), every
    delegation pool balance (zero included) -/
theorem consumed_le_pulled (T D : Int) (votes : List Vote) (proposer : Addr)
    (active : List (Addr × Int)) (sp : Split)
    (hT : 0 ≤ T) (hD : 0 ≤ D) (hv : VotesOK votes)
    (h : split T D votes proposer active = some sp) : sp.consumed ≤ T := by
  have hV := sumPower_nonneg hv.2
  have hP : 0 ≤ sumPower votes + D := Int.add_nonneg hV hD
  obtain ⟨dr, comm, pr, hdr, h1, h2, h3, hpr, hcm, _, hvals, hc⟩ :=
    split_spec hT hD hV h
  have hb := valCredits_sum_le (T := T) (D := D) (proposer := proposer) hv.1
    (fun v hm => powerMap_of_mem hv.1 hm) hv.2 hT hP (hcm ▸ Int.sub_nonneg_of_le h2) hP (hpr ▸ h1)
  rw [← hvals, hpr, hcm] at hb
  -- the pool's share and the validators' shares of `T` are floor shares by `D` and the powers
  have hA := sum_mul_ediv_le T (sumPower votes + D) (D :: votes.map Vote.pw) hT hP
    (by rw [List.sum_cons, Int.add_comm]; exact Int.le_refl _)
  have hC := sum_mul_ediv_le (comm - pr) (sumPower votes + D) (votes.map Vote.pw)
    (Int.sub_nonneg_of_le h2) hP (Int.le_add_of_nonneg_right hD)
  rw [List.map_cons, List.sum_cons, ← hdr] at hA
  have : (if proposer ∈ votes.map (·.addr) then pr else 0) ≤ pr := by split <;> omega
  omega

/-- what is actually credited (validator chunks + delegator reward balances; the proposer's share
    is part of its validator credit) never exceeds what is recorded as consumed -/
theorem credited_le_consumed (T D : Int) (votes : List Vote) (proposer : Addr)
    (active : List (Addr × Int)) (sp : Split)
    (hT : 0 ≤ T) (hD : 0 ≤ D) (hv : VotesOK votes) (ha : ActiveOK D active)
    (h : split T D votes proposer active = some sp) :
    sumSnd sp.vals + sumSnd sp.resp.credits ≤ sp.consumed := by
  obtain ⟨dr, comm, pr, _, h1, h2, h3, _, _, hcr, _, hc⟩ :=
    split_spec hT hD (sumPower_nonneg hv.2) h
  rw [hc, hcr, Int.add_comm]
  apply Int.add_le_add_right
  split
  · rename_i hD0
    rw [sumSnd_map_floor]
    exact sum_floor_shares_le (dr - comm) D (active.map (fun p : Addr × Int => p.2))
      (Int.sub_nonneg_of_le h3) hD0 ha.2
  · exact Int.sub_nonneg_of_le h3

/-- clause 1 of the property -/
theorem credited_le_pulled (T D : Int) (votes : List Vote) (proposer : Addr)
    (active : List (Addr × Int)) (sp : Split)
    (hT : 0 ≤ T) (hD : 0 ≤ D) (hv : VotesOK votes) (ha : ActiveOK D active)
    (h : split T D votes proposer active = some sp) :
    sumSnd sp.vals + sumSnd sp.resp.credits ≤ T := by
  have h1 := credited_le_consumed T D votes proposer active sp hT hD hv ha h
  have h2 := consumed_le_pulled T D votes proposer active sp hT hD hv h
  omega

/-- the premise `ActiveOK` is needed: were the pool balance below the active delegations (C12
    broken), the delegators' credits would exceed the pulled amount -/
theorem pool_below_active_breaks_bound :
    ∃ sp, split 1000 (10 * base18) [⟨"v", 10, true, true⟩] "v"
        [("a", 100 * base18), ("b", 100 * base18)] = some sp ∧
      ¬ (sumSnd sp.vals + sumSnd sp.resp.credits ≤ 1000) := by
  exact ⟨⟨⟨375, 25, 100, [("a", 3750), ("b", 3750)], true⟩, [("v", 575)], 950⟩, by decide, by decide⟩

theorem credits_nonneg (T D : Int) (votes : List Vote) (proposer : Addr)
    (active : List (Addr × Int)) (sp : Split)
    (hT : 0 ≤ T) (hD : 0 ≤ D) (hv : VotesOK votes) (ha : ∀ p ∈ active, 0 ≤ p.2)
    (h : split T D votes proposer active = some sp) :
    (∀ p ∈ sp.vals, 0 ≤ p.2) ∧ (∀ p ∈ sp.resp.credits, 0 ≤ p.2) := by
  have hV := sumPower_nonneg hv.2
  have hP : 0 ≤ sumPower votes + D := Int.add_nonneg hV hD
  obtain ⟨dr, comm, pr, _, h1, h2, h3, hpr, hcm, hcr, hvals, _⟩ :=
    split_spec hT hD hV h
  constructor
  · rw [hvals]
    exact valCredits_nonneg hT hP hP (hcm ▸ Int.sub_nonneg_of_le h2) (hpr ▸ h1) hv.2
  · rw [hcr]
    intro p hp
    split at hp
    · obtain ⟨q, hq, rfl⟩ := List.mem_map.1 hp
      exact Int.ediv_nonneg (Int.mul_nonneg (Int.sub_nonneg_of_le h3) (ha q hq)) hD
    · cases hp

/-- only validators that signed the last block (and have a validator record) are credited — in
    particular an absent proposer gets nothing -/
theorem absent_not_credited (T D : Int) (votes : List Vote) (proposer : Addr)
    (active : List (Addr × Int)) (sp : Split)
    (h : split T D votes proposer active = some sp) :
    ∀ p ∈ sp.vals, ∃ v ∈ votes, v.addr = p.1 ∧ v.signed = true ∧ v.known = true := by
  rw [(split_some h).2.1]
  exact valCredits_mem

/-- the split divides by zero only when the total power is zero -/
theorem split_total (T D : Int) (votes : List Vote) (proposer : Addr) (active : List (Addr × Int))
    (hP : sumPower votes + D ≠ 0) : (split T D votes proposer active).isSome = true := by
  unfold split
  simp only []
  rw [if_neg (fun h => hP h.1)]
  rfl

/-- the model reproduces the aliasing of `totalPower` / `totValPower`: the validators' commission
    is divided by validator + delegation power, which pays less than the un-aliased reading -/
theorem aliasing_lowers_commission :
    ∃ sp sp', split 1000000 (30 * base18) [⟨"v", 10, true, true⟩] "v" [("a", 30 * base18)] = some sp ∧
      splitUnaliased 1000000 (30 * base18) [⟨"v", 10, true, true⟩] "v" [("a", 30 * base18)] = some sp' ∧
      sumSnd sp.vals < sumSnd sp'.vals ∧ sp.resp = sp'.resp := by
  exact ⟨⟨⟨562500, 37500, 150000, [("a", 562500)], true⟩, [("v", 325000)], 887500⟩,
    ⟨⟨562500, 37500, 150000, [("a", 562500)], true⟩, [("v", 437500)], 1000000⟩,
    by decide, by decide, by decide, rfl⟩

/-! ## 2. the consumed amount is what `tdist` / `ydist` record -/

theorem consumed_eq_recorded (e : Env) (s s' : St) (b : BlockIn) (T : Int) (sp : Split)
    (h : blockRewards e s b = .done s' T sp) :
    s'.tdist = s.tdist + sp.consumed ∧
    (s'.cache.burnedout = true → s'.ydist = some (getYears e s.ydist)) ∧
    (s'.cache.burnedout = false → ∃ (y : Nat) (yr : Year), s'.cache.year = (y : Int) ∧
        (getYears e s.ydist)[y]? = some yr ∧
        s'.ydist = some ((getYears e s.ydist).set y
          ⟨yr.close, yr.dist + sp.consumed,
            if lastInCycle e.o b.h then yr.dist + sp.consumed else yr.till⟩)) := by
  obtain ⟨c, ys, td, _, _, hcons, rfl⟩ := blockRewards_done h
  obtain ⟨h1, h2, h3⟩ := consumeRewards_some hcons
  refine ⟨h1, fun hb => by rw [h2 hb], fun hb => ?_⟩
  obtain ⟨y, yr, hy, hyr, hys⟩ := h3 hb
  refine ⟨y, yr, hy, hyr, ?_⟩
  rw [hys, addYearDist, hyr]

theorem block_split_of_pulled (e : Env) (s s' : St) (b : BlockIn) (T : Int) (sp : Split)
    (h : blockRewards e s b = .done s' T sp) :
    split T b.D b.votes b.proposer b.active = some sp ∧
    s'.delegTotal = s.delegTotal + sumSnd sp.resp.credits := by
  obtain ⟨c, ys, td, _, hsp, _, rfl⟩ := blockRewards_done h
  exact ⟨hsp, rfl⟩

/-! ## 3. chunks, maturity, withdrawal -/

theorem block_keeps_nonneg (e : Env) (s s' : St) (b : BlockIn) (T : Int) (sp : Split)
    (hT : 0 ≤ T) (hD : 0 ≤ b.D) (hv : VotesOK b.votes) (ha : ∀ p ∈ b.active, 0 ≤ p.2)
    (hc : ChunksNonneg s.chunks) (hm : BalsNonneg s.matured)
    (h : blockRewards e s b = .done s' T sp) :
    ChunksNonneg s'.chunks ∧ BalsNonneg s'.matured := by
  obtain ⟨c, ys, td, _, hsp, _, rfl⟩ := blockRewards_done h
  have hch := creditVals_nonneg (o := e.o) (ivs := s.intervals) (h := b.h) hc
    (credits_nonneg T b.D b.votes b.proposer b.active sp hT hD hv ha hsp).1
  refine ⟨hch, ?_⟩
  simp only []
  split
  · exact matureAll_nonneg hch hm
  · exact hm

/-- without interval records (the running chain never writes one: the reward options cannot be
    changed) the chunk index is `height / interval + 1`, so a maturity height `h2` matures a
    chunk that no earlier height matured: no chunk is paid into the matured balance twice -/
theorem chunk_matures_once (o : Opts) (h1 h2 : Int) (hi : 0 < o.interval)
    (p1 : 0 ≤ h1) (hlt : h1 < h2)
    (m2 : h2.tmod o.interval = 0) :
    chunkIndex o [] h1 - 2 ≠ chunkIndex o [] h2 - 2 := by
  rw [chunkIndex_nil o h1 p1, chunkIndex_nil o h2 (by omega)]
  rw [Int.tmod_eq_emod_of_nonneg (by omega)] at m2
  have := Int.ediv_lt_ediv_of_lt hlt (Int.dvd_of_emod_eq_zero m2) hi
  omega

/-- … and the chunk that matures is closed: no later block credits into it -/
theorem matured_chunk_is_closed (o : Opts) (h h' : Int) (hi : 0 < o.interval) (p : 0 ≤ h)
    (hle : h ≤ h') : chunkIndex o [] h - 2 < chunkIndex o [] h' := by
  rw [chunkIndex_nil o h p, chunkIndex_nil o h' (by omega)]
  have := Int.ediv_le_ediv hi hle
  omega

/-- a successful withdrawal moves exactly the coin: out of the matured balance (never below zero)
    and the rewards pool, into the withdrawn total and the signer's balance -/
theorem withdraw_le_matured (w w' : WSt) (stake : Option Addr) (signer : Addr) (value : Int)
    (h : runWithdraw w stake signer value = .ok w') :
    Ledger.toCoinWithBase value 18 ≤ w.matured ∧
    w'.matured = w.matured - Ledger.toCoinWithBase value 18 ∧ 0 ≤ w'.matured ∧
    w'.withdrawn = w.withdrawn + Ledger.toCoinWithBase value 18 ∧
    w'.pool = w.pool - Ledger.toCoinWithBase value 18 ∧
    w'.signer = w.signer + Ledger.toCoinWithBase value 18 := by
  obtain ⟨h0, rfl⟩ := runWithdraw_ok w w' stake signer value h
  refine ⟨by omega, rfl, h0, rfl, rfl, rfl⟩

/-- clause 3, over all histories: the matured balance is never negative and the total withdrawn
    never exceeds the total matured — whatever amounts the transactions carry -/
theorem validator_withdraw_le_matured (w : WSt) (ops : List WOp)
    (hm : ∀ x, WOp.mature x ∈ ops → 0 ≤ x) (h0 : 0 ≤ w.matured) :
    0 ≤ (ops.foldl wstep w).matured ∧
    (ops.foldl wstep w).matured + (ops.foldl wstep w).withdrawn =
      w.matured + w.withdrawn + maturedTotal ops ∧
    (ops.foldl wstep w).withdrawn ≤ w.matured + w.withdrawn + maturedTotal ops := by
  have key : 0 ≤ (ops.foldl wstep w).matured ∧ (ops.foldl wstep w).matured +
      (ops.foldl wstep w).withdrawn = w.matured + w.withdrawn + maturedTotal ops := by
    induction ops generalizing w with
    | nil => exact ⟨h0, (Int.add_zero _).symm⟩
    | cons op t ih =>
      obtain ⟨a, b⟩ := wstep_spec w op t (fun x hx => hm x (hx ▸ List.mem_cons_self)) h0
      obtain ⟨c, d⟩ := ih (wstep w op) (fun x hx => hm x (List.mem_cons_of_mem _ hx)) a
      exact ⟨c, d.trans b⟩
  exact ⟨key.1, key.2, by omega⟩

/-- per transaction, at full strength (since fix d8159a7 `Validate` also requires the whole-token
    value to fit an int64, so `Value.Int64()` is the value): a withdrawal never raises the matured
    balance, never lowers the withdrawn total, and what it pays is within what had matured -/
theorem withdraw_never_raises_matured (w w' : WSt) (curOK : Bool) (stake : Option Addr)
    (signer : Addr) (value charge : Int)
    (h : withdrawTx w curOK stake signer value charge = .ok w') :
    w'.matured ≤ w.matured ∧ w.withdrawn ≤ w'.withdrawn ∧
    w'.withdrawn - w.withdrawn = value * base18 ∧ value * base18 ≤ w.matured := by
  obtain ⟨⟨hv0, hv⟩, w1, hr, rfl⟩ := withdrawTx_ok h
  obtain ⟨h0, rfl⟩ := runWithdraw_ok w w1 stake signer value hr
  rw [toCoinWithBase_of_range value hv0 hv] at h0 ⊢
  have hn : 0 ≤ value * base18 := Int.mul_nonneg hv0 (by decide)
  simp only []
  omega

/-- the int64 guard is needed: with the sign check alone (the code before d8159a7)
    WithdrawAmount 2^64-1 passes `Validate` and RAISES the matured balance by one token, paid by
    the signer into the pool — the regression scenario the harness offers to CheckTx and
    DeliverTx in every run (both must refuse it) -/
theorem wrapped_withdraw_raises_matured :
    withdrawTxNoInt64 ⟨0, 0, 5 * base18, 3 * base18⟩ true none "s" 18446744073709551615 1000 =
      .ok ⟨base18, -base18, 6 * base18, 2 * base18 - 1000⟩ ∧
    withdrawTx ⟨0, 0, 5 * base18, 3 * base18⟩ true none "s" 18446744073709551615 1000 =
      .error .invalid := by
  exact ⟨rfl, rfl⟩

/-! ## non-vacuity -/

example : VotesOK [⟨"v1", 10, true, true⟩, ⟨"v2", 13, false, true⟩] ∧
    ActiveOK (40 * base18) [("a", 15 * base18), ("b", 20 * base18)] ∧
    (∃ sp, split 7000000000000000000 (40 * base18) [⟨"v1", 10, true, true⟩, ⟨"v2", 13, false, true⟩] "v1"
        [("a", 15 * base18), ("b", 20 * base18)] = some sp ∧ 0 < sumSnd sp.vals ∧
        0 < sumSnd sp.resp.credits ∧ 0 < sp.resp.proposerReward) := by
  refine ⟨by decide, by decide, _, rfl, by decide, by decide, by decide⟩

/-! # Part II — the calculator (after fixes 729d203 and 2606b58)

  Environment hypotheses that remain: heights start at 1 and the cycle length is positive
  (`1 ≤ h`, `0 < e.o.cycle`).  NOTHING is assumed about the float quotient `fq`, about block times
  (they need not even increase) or about the close window: the clamp makes every forecast at least
  one cycle, whatever `fq` returns.  (That `fq` is the same function on every node — IEEE-754
  division is, the int64 conversion of ±Inf/NaN is platform-defined — is a determinism premise of
  C01, not of the bounds proved here.) -/

/-! ## 1. one recalculation -/

/-- the forecast is 0 exactly when no reward year is open any more (every close is less than
    `window` seconds after the end of the last complete cycle); otherwise it is at least one
    calculation cycle -/
theorem forecast_zero_iff_schedule_over (e : Env) (years : List Year) (h : Int) (hc : 0 < e.o.cycle) :
    ((numMoreBlocks e years h).1 = 0 ↔
        ∀ yr ∈ years, yr.close - (secondsPerCycleLatest e h).2 < e.o.window) ∧
    ((numMoreBlocks e years h).1 ≠ 0 → e.o.cycle ≤ (numMoreBlocks e years h).1) := by
  rcases numMoreBlocks_spec e years h with ⟨h0, hall⟩ | ⟨j, yr, n, h1, h2, h3, h4⟩
  · rw [h0]
    exact ⟨⟨fun _ => hall, fun _ => rfl⟩, fun h => absurd rfl h⟩
  · rw [h2]
    refine ⟨⟨fun hz => ?_, fun hall => ?_⟩, fun _ => h3⟩
    · have : n = 0 := hz
      omega
    · have := hall yr (List.mem_of_getElem? h1)
      omega

/-- a recalculated amount is non-negative, at most `supply − TillLastCycle` of the selected year
    — even a whole cycle of it is — and the selected year is not yet inside its close window -/
theorem pulled_le_year_left (e : Env) (years : List Year) (c c' : Cache) (h amt : Int)
    (hc : 0 < e.o.cycle)
    (hr : recalc e years c h = .ok amt c') (hb : c'.burnedout = false) :
    ∃ (y : Nat) (supply : Int) (yr : Year), c'.year = (y : Int) ∧ c'.amount = amt ∧
      (numMoreBlocks e years h).2 = (y : Int) ∧
      e.o.shares[y]? = some supply ∧ years[y]? = some yr ∧
      0 ≤ amt ∧ amt ≤ supply - yr.till ∧ e.o.cycle * amt ≤ supply - yr.till ∧
      e.o.window ≤ yr.close - (secondsPerCycleLatest e h).2 := by
  rcases recalc_cases e years h with
    ⟨_, hk⟩ | ⟨y, yr, n, _, hn, hy, hcn, hw, ⟨_, hk⟩ | ⟨supply, hs, ⟨_, hk⟩ | ⟨hl, hk⟩⟩⟩ <;>
  rw [hk c] at hr <;> cases hr
  · cases hb
  · obtain ⟨b1, b2, b3⟩ := ediv_forecast_bounds hc hcn hl
    exact ⟨y, supply, yr, rfl, rfl, by rw [hn], hs, hy, b1, b2, b3, hw⟩

theorem calculate_keeps_cacheWF (e : Env) (years : List Year) (c c' : Cache) (h amt : Int)
    (hw : CacheWF e.o c) (hr : calculate e years c h = .ok amt c') :
    CacheWF e.o c' ∧ c'.amount = amt := by
  unfold calculate at hr
  obtain ⟨_, hr⟩ := of_guard hr
  split at hr
  · cases hr
    exact ⟨hw, rfl⟩
  · obtain ⟨_, h2, h3⟩ := recalc_ok_cache hr
    exact ⟨fun hb => h2.trans (h3 hb), h2⟩

/-- after the schedule the pulled amount is the burnout rate capped by the rewards pool -/
theorem burnout_capped_by_pool (e : Env) (years : List Year) (c c' : Cache) (h pool amt : Int)
    (hw : CacheWF e.o c) (hp : pullRewards e years c h pool = .ok amt c') (hb : c'.burnedout = true) :
    amt ≤ pool ∧ amt ≤ e.o.burnout ∧ (amt = pool ∨ amt = e.o.burnout) := by
  unfold pullRewards at hp
  split at hp
  · cases hp
  · cases hp
  · rename_i a c'' hcalc
    obtain ⟨h1, h2⟩ := calculate_keeps_cacheWF e years c c'' h a hw hcalc
    split at hp <;> rename_i hlt <;> injection hp with e1 e2 <;> subst e2 <;> have := h1 hb
    · omega
    · have : ¬ pool < a := fun h => hlt ⟨hb, h⟩
      omega

/-- the year records change only through the consumed amount: `TillLastCycle` moves only in the
    last block of a cycle … -/
theorem till_changes_only_at_cycle_end (e : Env) (use : Int → Int → Int) (pool : Int → Int)
    (s : CS) (h : Int) (r : Bool) (hl : lastInCycle e.o h = false) :
    (calcStep e use pool s h r).1.years.map (·.till) = s.years.map (·.till) ∧
    (calcStep e use pool s h r).1.years.map (·.close) = s.years.map (·.close) := by
  exact ⟨calcStep_till s r hl, calcStep_close s h r⟩

/-- … where it becomes the year's `Distributed` -/
theorem till_eq_dist_at_cycle_end (e : Env) (use : Int → Int → Int) (pool : Int → Int)
    (s : CS) (h amt : Int) (r : Bool) (hl : lastInCycle e.o h = true)
    (ho : (calcStep e use pool s h r).2 = some amt)
    (hb : (calcStep e use pool s h r).1.cache.burnedout = false) :
    ∃ (y : Nat) (yr : Year), (calcStep e use pool s h r).1.cache.year = (y : Int) ∧
      (calcStep e use pool s h r).1.years[y]? = some yr ∧ yr.till = yr.dist := by
  rw [calcStep_eq] at ho hb ⊢
  split at ho
  · cases ho
  · cases ho
  · rename_i a c hcalc
    split at ho
    · cases ho
    · rename_i ys td hcr
      simp only [hcalc, hcr] at hb ⊢
      obtain ⟨y, yr, hy, hyr, rfl⟩ := (consumeRewards_some hcr).2.2 hb
      refine ⟨y, ?_, hy, ?hget, ?_⟩
      case hget => rw [addYearDist_getElem?, if_pos rfl, hyr, hl]; rfl
      rfl

/-! ## 2. restart independence (clause 4, full strength) -/

/-- a node restarted at ANY set of heights pulls the same amounts (failures included) and records
    the same `ydist` / `tdist` as a node restarted before every block: the per-block amount is a
    function of the persisted records and the block store, for every block-time sequence, every
    float quotient, every consumption pattern -/
theorem calc_cache_restart_invariant (e : Env) (use : Int → Int → Int) (pool : Int → Int)
    (years : List Year) (tdist h : Int) (rs : List Bool) (hh : 1 ≤ h) (hc : 0 < e.o.cycle) :
    (calcRun e use pool ⟨years, tdist, Cache.fresh⟩ h rs).2 =
      (calcRun e use pool ⟨years, tdist, Cache.fresh⟩ h (allTrue rs)).2 ∧
    (calcRun e use pool ⟨years, tdist, Cache.fresh⟩ h rs).1.years =
      (calcRun e use pool ⟨years, tdist, Cache.fresh⟩ h (allTrue rs)).1.years ∧
    (calcRun e use pool ⟨years, tdist, Cache.fresh⟩ h rs).1.tdist =
      (calcRun e use pool ⟨years, tdist, Cache.fresh⟩ h (allTrue rs)).1.tdist := by
  have hg := goodCache_fresh (e := e) years hh hc
  exact calcRun_agree hc (List.length_map _).symm ⟨years, tdist, Cache.fresh⟩ _ hh rfl rfl hg hg

/-- corollary: two nodes with different restart histories agree -/
theorem restart_patterns_agree (e : Env) (use : Int → Int → Int) (pool : Int → Int)
    (years : List Year) (tdist h : Int) (rs rs' : List Bool) (hlen : rs.length = rs'.length)
    (hh : 1 ≤ h) (hc : 0 < e.o.cycle) :
    (calcRun e use pool ⟨years, tdist, Cache.fresh⟩ h rs).2 =
      (calcRun e use pool ⟨years, tdist, Cache.fresh⟩ h rs').2 := by
  have hg := goodCache_fresh (e := e) years hh hc
  exact (calcRun_agree hc hlen ⟨years, tdist, Cache.fresh⟩ _ hh rfl rfl hg hg).1

/-- regression example 1 (was the counterexample of KF-C13-1/2 before 729d203 + 2606b58): after
    the stall the forecast is clamped to one cycle, blocks 3 and 4 share what is left of the year
    (no over-distribution: exactly the supply), blocks 5 and 6 pull 0, nothing fails, and a node
    restarted before block 6 agrees with the node that kept running -/
theorem stall_regression_example :
    calcRun (cexEnv cexStall) (fun _ a => a) (fun _ => 0) ⟨initYears (cexEnv cexStall), 0, Cache.fresh⟩ 1
        [false, false, false, false, false, false]
      = (⟨[⟨1000, 1000000, 1000000⟩], 1000000, ⟨0, 3, false, 0⟩⟩,
         [some 5000, some 5000, some 495000, some 495000, some 0, some 0]) ∧
    (calcRun (cexEnv cexStall) (fun _ a => a) (fun _ => 0) ⟨initYears (cexEnv cexStall), 0, Cache.fresh⟩ 1
        [false, false, false, false, false, true]).2
      = [some 5000, some 5000, some 495000, some 495000, some 0, some 0] := by
  decide +kernel

/-- regression example 2 (was the counterexample of KF-C13-3): the slow cycle no longer forecasts
    0 blocks for a year that is still open, the node never caches "burned out" while the schedule
    runs, and a node restarted before block 5 agrees -/
theorem slow_cycle_regression_example :
    (calcRun (cexEnv cexSlow) (fun _ a => a) (fun _ => 100) ⟨initYears (cexEnv cexSlow), 0, Cache.fresh⟩ 1
        [false, false, false, false, false]).2
      = [some 5000, some 5000, some 495000, some 495000, some 0] ∧
    (calcRun (cexEnv cexSlow) (fun _ a => a) (fun _ => 100) ⟨initYears (cexEnv cexSlow), 0, Cache.fresh⟩ 1
        [false, false, false, false, true]).2
      = [some 5000, some 5000, some 495000, some 495000, some 0] := by
  decide +kernel

/-! ## 3. the schedule over whole runs (clause 2, full strength) -/

/-- per block: in any run with any restart pattern every pulled amount of a block whose forecast
    is not 0 is non-negative and at most `supply − TillLastCycle` of the forecast's year, read
    from the records as they are before that block -/
theorem pulled_le_year_left_by_till (e : Env) (use : Int → Int → Int) (pool : Int → Int)
    (years : List Year) (tdist h : Int) (rs : List Bool) (hh : 1 ≤ h) (hc : 0 < e.o.cycle)
    (j : Nat) (amt : Int) (sj : CS)
    (hj : (calcRun e use pool ⟨years, tdist, Cache.fresh⟩ h rs).2[j]? = some (some amt))
    (hs : (calcStates e use pool ⟨years, tdist, Cache.fresh⟩ h rs)[j]? = some sj)
    (hn : (numMoreBlocks e years (h + j)).1 ≠ 0) :
    ∃ (y : Nat) (supply : Int) (yr : Year), (numMoreBlocks e years (h + j)).2 = (y : Int) ∧
      e.o.shares[y]? = some supply ∧ sj.years[y]? = some yr ∧ 0 ≤ amt ∧ amt ≤ supply - yr.till := by
  obtain ⟨_, rfl⟩ := calcStates_getElem? hs
  exact calcRun_pulled_le_left hc ⟨years, tdist, Cache.fresh⟩ hh (goodCache_fresh years hh hc) hj hn

/-- clause 2 as the property states it: from a clean start (every year's `TillLastCycle` equal to
    its `Distributed`, e.g. the genesis state at height 1), every pulled amount of a block `j` is
    at most what was left of its reward year — supply minus `Distributed` — in the state before
    the FIRST block `i` of `j`'s calculation cycle; and when the forecast is 0 the schedule is over
    (`forecast_zero_iff_schedule_over`) and the amount is the capped burnout rate
    (`burnout_capped_by_pool`) -/
theorem pulled_le_year_left_at_cycle_start (e : Env) (use : Int → Int → Int) (pool : Int → Int)
    (years : List Year) (tdist h : Int) (rs : List Bool) (hh : 1 ≤ h) (hc : 0 < e.o.cycle)
    (hclean : ∀ yr ∈ years, yr.till = yr.dist)
    (i j : Nat) (hij : i ≤ j) (amt : Int) (si : CS)
    (hi : firstInCycle e.o (h + i) = true) (hcyc : cycleNo e.o (h + i) = cycleNo e.o (h + j))
    (hj : (calcRun e use pool ⟨years, tdist, Cache.fresh⟩ h rs).2[j]? = some (some amt))
    (hs : (calcStates e use pool ⟨years, tdist, Cache.fresh⟩ h rs)[i]? = some si)
    (hn : (numMoreBlocks e years (h + j)).1 ≠ 0) :
    ∃ (y : Nat) (supply : Int) (yr : Year), (numMoreBlocks e years (h + j)).2 = (y : Int) ∧
      e.o.shares[y]? = some supply ∧ si.years[y]? = some yr ∧ amt ≤ supply - yr.dist := by
  obtain ⟨_, rfl⟩ := calcStates_getElem? hs
  have hg := goodCache_fresh years hh hc
  obtain ⟨y, supply, yr, h1, h2, h3, _, h5⟩ :=
    calcRun_pulled_le_left hc ⟨years, tdist, Cache.fresh⟩ hh hg hj hn
  have hlt := (calcRun_out_eq_restarted hc _ hh hg hj).1
  -- in state `i` (first block of a cycle) every year has `TillLastCycle = Distributed`
  obtain ⟨_, gi⟩ := calcRun_good (use := use) (pool := pool) hc (TillInv e)
    (tillInv_step hc) rs ⟨years, tdist, Cache.fresh⟩ hh hg
    (fun y yr hy => Or.inl (hclean yr (List.mem_of_getElem? hy))) (Nat.le_trans hij (Nat.le_of_lt hlt))
  -- `TillLastCycle` of the year is the same in states `i` and `j`
  have h6 := congrArg (fun l => l[y]?) (calcRun_till_of_same_cycle (use := use) (pool := pool) hc rs
    ⟨years, tdist, Cache.fresh⟩ hh hij (Nat.le_of_lt hlt) hcyc)
  simp only [List.getElem?_map, h3, Option.map_some] at h6
  obtain ⟨yr2, hx, h7⟩ := Option.map_eq_some_iff.1 h6.symm
  refine ⟨y, supply, yr2, h1, h2, hx, ?_⟩
  rcases gi y yr2 hx with h | ⟨_, _, h⟩
  · omega
  · rw [hi] at h
    cases h

/-- the yearly schedule itself (new with fix 2606b58): from a clean start within supply, when every
    block consumes between nothing and what it pulled, NO reward year is ever over-distributed —
    in every state of every run, with any restart pattern, any block times, any float quotient -/
theorem year_never_overdistributed (e : Env) (use : Int → Int → Int) (pool : Int → Int)
    (years : List Year) (tdist h : Int) (rs : List Bool) (hh : 1 ≤ h) (hc : 0 < e.o.cycle)
    (huse : UseOK use) (hclean : ∀ yr ∈ years, yr.till = yr.dist)
    (hsup : WithinSupply e.o years) :
    (∀ s ∈ calcStates e use pool ⟨years, tdist, Cache.fresh⟩ h rs, WithinSupply e.o s.years) ∧
    WithinSupply e.o (calcRun e use pool ⟨years, tdist, Cache.fresh⟩ h rs).1.years := by
  have key : ∀ j, j ≤ rs.length →
      WithinSupply e.o (calcRun e use pool ⟨years, tdist, Cache.fresh⟩ h (rs.take j)).1.years :=
    fun j hj y yr supply hy hs =>
      (supInv_within hc (calcRun_good hc (SupInv e) (supInv_step huse hc) rs
        ⟨years, tdist, Cache.fresh⟩ hh (goodCache_fresh years hh hc)
        (supInv_of_clean hclean hsup) hj).2 hy hs).1
  constructor
  · intro s hs
    obtain ⟨j, hj⟩ := List.getElem?_of_mem hs
    obtain ⟨hlt, rfl⟩ := calcStates_getElem? hj
    exact key j (Nat.le_of_lt hlt)
  · have := key rs.length (Nat.le_refl _)
    rwa [List.take_length] at this

/-- … hence "Year rewards burned out unexpectedly" is dead code: with a share for every year no
    block of such a run fails -/
theorem pull_never_fails (e : Env) (use : Int → Int → Int) (pool : Int → Int)
    (years : List Year) (tdist h : Int) (rs : List Bool) (hh : 1 ≤ h) (hc : 0 < e.o.cycle)
    (huse : UseOK use) (hclean : ∀ yr ∈ years, yr.till = yr.dist)
    (hsup : WithinSupply e.o years) (hlen : e.o.shares.length = years.length) :
    ∀ x ∈ (calcRun e use pool ⟨years, tdist, Cache.fresh⟩ h rs).2, x.isSome = true := by
  intro x hx
  have hg := goodCache_fresh years hh hc
  obtain ⟨j, hj⟩ := List.getElem?_of_mem hx
  obtain ⟨hlt, rfl⟩ := calcRun_out_eq_restarted hc _ hh hg hj
  obtain ⟨_, h4⟩ := calcRun_good hc (SupInv e) (supInv_step huse hc) rs
    ⟨years, tdist, Cache.fresh⟩ hh hg (supInv_of_clean hclean hsup) (Nat.le_of_lt hlt)
  have hl := congrArg List.length
    (calcRun_close (e := e) use pool (rs.take j) ⟨years, tdist, Cache.fresh⟩ h)
  rw [List.length_map, List.length_map] at hl
  exact supInv_step_isSome hc (hlen.trans hl.symm) h4

/-! ## non-vacuity -/

/-- the hypotheses are satisfiable on a non-trivial run that crosses three cycle boundaries, pays
    out, and is restarted twice -/
example :
    let e : Env := cexEnv (fun h => h - 1)
    UseOK (fun _ a => a) ∧ WithinSupply e.o (initYears e) ∧ (∀ yr ∈ initYears e, yr.till = yr.dist) ∧
    e.o.shares.length = (initYears e).length ∧
    (calcRun e (fun _ a => a) (fun _ => 0) ⟨initYears e, 0, Cache.fresh⟩ 1
        [false, true, false, false, true, false]).2 =
      [some 5000, some 5000, some 991, some 991, some 991, some 991] := by
  intro e
  refine ⟨fun k a ha => ⟨ha, Int.le_refl a⟩, ?_, by decide, rfl, by decide +kernel⟩
  intro y yr supply h1 h2
  have hy : initYears e = [⟨1000, 0, 0⟩] := rfl
  rw [hy] at h1
  cases y with
  | zero =>
    cases h1
    cases h2
    decide
  | succ n => cases h1

end OLP.Props.C13
