import OLP.Gen.Funcs
import OLP.KV.Model

/-!
# C09 — the gas calculator of the store stack, tied to the source by translation (T2b)

`storage.gasCalculator.Consume / IsEnough / GetLeft` are translated WHOLE from /repo's working tree
(`OLP.Gen.Funcs.gasConsume`, `gasIsEnough`, `gasGetLeft`); the model's `Gas.consumeStrict` /
`Gas.consumeAlways` are those functions. The refusal rule (`consumed ≥ limit`, tested BEFORE the
cost is added, so one operation may overshoot) is what every metered theorem of C09 rests on.
-/

namespace OLP.Props.C09

open OLP.KV
open OLP.Gen

/-- `Consume(amount, category, false)` is the model's strict consumption of `amount * category` -/
theorem consumeStrict_is_source (g : Gas) (amount category : Int) :
    g.consumeStrict (amount * category) =
      (match Funcs.gasConsume g.limit g.consumed amount category false with
       | (true, c) => some { g with consumed := c }
       | (false, _) => none) := by
  unfold Gas.consumeStrict Funcs.gasConsume
  by_cases h : g.consumed ≥ g.limit <;> simp [h]

/-- `Consume(amount, category, true)` never refuses and adds the cost -/
theorem consumeAlways_is_source (g : Gas) (amount category : Int) :
    Funcs.gasConsume g.limit g.consumed amount category true =
      (true, (g.consumeAlways (amount * category)).consumed) := by
  simp [Funcs.gasConsume, Gas.consumeAlways]

/-- a strict consumption is refused exactly when the source's `IsEnough` says the block is full -/
theorem refusal_iff_isEnough (g : Gas) (cost : Int) :
    g.consumeStrict cost = none ↔ Funcs.gasIsEnough g.limit g.consumed = true := by
  unfold Gas.consumeStrict Funcs.gasIsEnough
  by_cases h : g.consumed ≥ g.limit <;> simp [h]

/-- `GetLeft` is the room that remains, never negative -/
theorem getLeft_is_room (g : Gas) :
    Funcs.gasGetLeft g.limit g.consumed = max 0 (g.limit - g.consumed) := by
  unfold Funcs.gasGetLeft
  by_cases h : g.consumed ≥ g.limit
  · rw [if_pos (decide_eq_true h)]
    exact (Int.max_eq_left (Int.sub_nonpos_of_le h)).symm
  · rw [if_neg (fun e => h (of_decide_eq_true e))]
    exact (Int.max_eq_right (Int.sub_nonneg_of_le (Int.le_of_lt (Int.lt_of_not_ge h)))).symm

/-- the refusal test does not look at the cost: a refused operation leaves the meter as it was, an
    accepted one adds exactly the product (no rounding, no cap) -/
theorem consume_effect (limit consumed amount category : Int) :
    (Funcs.gasConsume limit consumed amount category false).2 =
      if consumed ≥ limit then consumed else consumed + amount * category := by
  unfold Funcs.gasConsume
  by_cases h : consumed ≥ limit <;> simp [h]

/-- a meter never runs backwards on costs that are not negative, accepted or refused -/
theorem consume_monotone (limit consumed amount category : Int) (ov : Bool) (h : 0 ≤ amount * category) :
    consumed ≤ (Funcs.gasConsume limit consumed amount category ov).2 := by
  unfold Funcs.gasConsume
  split
  · exact Int.le_add_of_nonneg_right h
  · split
    · exact Int.le_refl _
    · exact Int.le_add_of_nonneg_right h

/-- once a strict consumption was refused every later strict consumption is refused too (the
    refusal leaves the meter where it was, and nothing but a new block lowers it): the block is
    over for metered operations -/
theorem refusal_is_permanent (limit consumed : Int) (costs : List (Int × Int))
    (h : (Funcs.gasConsume limit consumed 1 1 false).1 = false) :
    ∀ c ∈ costs, Funcs.gasConsume limit consumed c.1 c.2 false = (false, consumed) := by
  intro c _
  unfold Funcs.gasConsume at h ⊢
  by_cases hc : consumed ≥ limit
  · simp [hc]
  · simp [hc] at h

/-- what `GetLeft` reports is exactly what a strict consumer may still start: it is positive iff
    the next strict consumption is accepted -/
theorem left_pos_iff_accepted (limit consumed amount category : Int) :
    0 < Funcs.gasGetLeft limit consumed ↔ (Funcs.gasConsume limit consumed amount category false).1 = true := by
  unfold Funcs.gasGetLeft Funcs.gasConsume
  by_cases hc : consumed ≥ limit <;> simp [hc] <;> omega

example : Funcs.gasConsume 100 99 7 3 false = (true, 120) := by decide
example : Funcs.gasConsume 100 100 7 3 false = (false, 100) := by decide

end OLP.Props.C09
