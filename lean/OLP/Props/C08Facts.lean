/-
  C08 — obligations over the REGENERATED fact tables (tie T3): start-up (`Prepare`) reloads the
  in-memory option copies that InitChain (`setupState`) sets, so that they are functions of the
  persisted state (`VolDerived`).
-/
import OLP.Props.SourceFacts

namespace OLP.Props.C08.Facts
open OLP.Expect

/-- option copies set at InitChain but not reloaded by Prepare, each classified:
    * domains.SetOptions     — the copy is only read in setupState itself (genesis domains)
    * btcTrackers.SetOption  — BTC handlers are not registered -/
theorem prepare_reloads_option_copies :
    OLP.Gen.setupStateSetters.filter (fun s => !OLP.Gen.prepareSetters.contains s) =
    ["btcTrackers.SetOption", "domains.SetOptions"] := by decide +kernel

theorem volatile_setters_as_classified : OLP.Gen.volatileSets = volatileSets := by rfl

/-- the ABCI entry points the shell model ports are unchanged since the port was validated -/
theorem entry_points_source_pinned :
    OLP.Expect.pinnedOf OLP.Gen.pinned (pinnedShell.map (fun r => r.fn)) = pinnedShell :=
  Source.entry_points_source_pinned

end OLP.Props.C08.Facts
