/-
  C01 — Replica determinism: same blocks give the same state and results on every node.
  Shell-level theorems for ARBITRARY handler programs: independence of the node-local
  environment (identity, role, clock, map-iteration oracle), and the fact that the input of the
  application hash is exactly the block's surviving writes in first-write order.
-/
import OLP.Shell.Isolation

namespace OLP.Props.C01
open OLP OLP.KV OLP.Shell

variable {K V C E α T H D : Type} [DecidableEq K] [DecidableEq V] [DecidableEq C] [DecidableEq H]
variable (cfg : Cfg K V) (hs : Handlers K V C E T H D)

theorem run_env_independent (p : Prog K V C E α) (h : p.EnvFree) (s : St K V) (m : Vol C V)
    (e₁ e₂ : E) : p.run cfg s m e₁ = p.run cfg s m e₂ := run_env cfg p h s m e₁ e₂

/-- any sequence of ABCI calls (consensus calls and mempool checks) gives the same node and the
    same outputs in every environment -/
theorem runCalls_env_independent (hf : AllEnvFree hs) (r : Run K V C T H D) (calls : List (Call T))
    (e₁ e₂ : E) : runCalls cfg hs e₁ r calls = runCalls cfg hs e₂ r calls := by
  induction calls generalizing r with
  | nil => rfl
  | cons c cs ih => simp only [runCalls, stepCall_env cfg hs hf r c e₁ e₂, ih]

/-- block histories: same results, same commit write logs (the input of every application hash),
    same final node, whatever the environment -/
theorem execBlocks_env_independent (hf : AllEnvFree hs) (n : Node K V C T H D)
    (blocks : List (List T)) (e₁ e₂ : E) :
    execBlocks cfg hs e₁ n blocks = execBlocks cfg hs e₂ n blocks := by
  induction blocks generalizing n with
  | nil => rfl
  | cons b bs ih => simp only [execBlocks, execBlock_env cfg hs hf n b e₁ e₂, ih]

/-- the write log of a block's commit is the block cache in first-write order followed by one
    `save`: the hash input is a function of the *sequence* of surviving writes only -/
theorem block_log_is_cache_in_first_write_order (e : E) (n : Node K V C T H D) (txs : List T) :
    let pre := endBlock cfg hs e (deliverAll cfg hs e (beginBlock cfg hs e n) txs).1
    (execBlock cfg hs e n txs).2.log = pre.dlv.cache.map (toTreeOp cfg) ++ [.save] := by
  intro pre
  have ht : pre.tree = n.tree := (preCommit_frame cfg hs e n txs).tree
  show ((pre.dlv.toSt pre.tree).commit cfg).tree.log.drop n.tree.log.length = _
  rw [commit_log, List.append_assoc, ← ht]
  exact List.drop_left

/-- sorting makes a traversal independent of the order in which a Go map hands out its keys -/
theorem sortKeys_perm_invariant (lt : K → K → Bool)
    (irrefl : ∀ a, lt a a = false) (trans : ∀ a b c, lt a b = true → lt b c = true → lt a c = true)
    (total : ∀ a b, a ≠ b → lt a b = true ∨ lt b a = true)
    (l₁ l₂ : List K) (hp : l₁.Perm l₂) : sortKeys lt l₁ = sortKeys lt l₂ :=
  sorted_perm_eq lt ⟨irrefl, trans, total⟩ _ _ (sortKeys_sorted lt irrefl trans l₁)
    (sortKeys_sorted lt irrefl trans l₂) ((sortKeys_perm lt l₁).trans (hp.trans (sortKeys_perm lt l₂).symm))

/-! ## Non-vacuity and the shape of a violation -/

def exCfg : Cfg Nat Nat := { tomb := 0, vlen := fun _ => 1, lt := fun a b => decide (a < b) }

/-- a hook that writes the node's own address into the state is not `EnvFree`, and two nodes
    then disagree on the commit log -/
def leakyH : Handlers Nat Nat Nat Nat Nat Nat Nat :=
  { hash := id, validate := fun _ => .ret (), check := fun _ => .ret 0, deliver := fun _ => .ret 0,
    fee := fun _ _ => .ret 0, begin := fun _ => [(true, .env (fun me => .set 1 me (fun _ => .ret ())))],
    endb := fun _ => [], gasLimit := 1000000 }
def exN : Node Nat Nat Nat Nat Nat Nat :=
  { tree := Tree.empty ⟨1, 0, 0⟩, dlv := Ov.fresh 1000000, chk := Ov.fresh 1000000, vol := fun _ => none,
    idx := [], aim := .check, height := 0, closed := false }

theorem env_leak_diverges :
    (execBlock exCfg leakyH 11 exN []).2.log ≠ (execBlock exCfg leakyH 22 exN []).2.log := by
  decide

/-! ### a concrete application that IS `AllEnvFree`, on two nodes with different environments

  The environment type is `Nat` (the node's own address, as for `leakyH`), so the programs COULD
  consult it; none does. They use the store, the gas counter and hooks at both ends of the block;
  Validate refuses transaction 0, ProcessDeliver fails for transaction 9 after its writes. -/

def detH : Handlers Nat Nat Nat Nat Nat Nat Nat :=
  { hash := id,
    validate := fun tx => .burn 5 (if tx = 0 then .fail else .ret ()),
    check := fun tx => .get 1 (fun _ => .set 3 tx (fun _ => .ret tx)),
    deliver := fun tx => .get 1 (fun r => match r with
      | .val v => .set 1 (v.getD 0 + tx) (fun _ => .set 2 tx (fun _ =>
          if tx = 9 then .fail else .ret tx))
      | .errGas => .fail),
    fee := fun _ g0 => .gas (fun g => .ret (g - g0)),
    begin := fun h => [(true, .set 8 h (fun _ => .ret ()))],
    endb := fun _ => [(true, .get 1 (fun r => match r with
      | .val (some v) => .set 9 v (fun _ => .ret ())
      | _ => .ret ()))],
    gasLimit := 10000 }

def detN : Node Nat Nat Nat Nat Nat Nat :=
  { tree := Tree.empty ⟨1, 0, 0⟩, dlv := Ov.fresh 10000, chk := Ov.fresh 10000, vol := fun _ => none,
    idx := [], aim := .check, height := 0, closed := false }

theorem det_envFree : AllEnvFree detH :=
  ⟨fun tx =>
    ⟨by show (if tx = 0 then Prog.fail else Prog.ret ()).EnvFree; split <;> trivial,
     fun _ _ => trivial,
     fun r => by
      cases r with
      | errGas => trivial
      | val v => exact fun _ _ => by split <;> trivial,
     fun _ _ => trivial⟩,
   fun h =>
    ⟨fun hk hm => by rw [List.mem_singleton.mp hm]; exact fun _ => trivial,
     fun hk hm => by
      rw [List.mem_singleton.mp hm]
      refine fun r => ?_
      dsimp only
      split <;> first | trivial | exact fun _ => trivial⟩⟩

/-- `execBlocks_env_independent` applied: the nodes with addresses 11 and 22 (the two that disagree
    under `leakyH`) run the history `[[5, 9, 0], [7, 5]]` to the same node and the same outputs -/
theorem env_independent_instance :
    execBlocks exCfg detH 11 detN [[5, 9, 0], [7, 5]] = execBlocks exCfg detH 22 detN [[5, 9, 0], [7, 5]] :=
  execBlocks_env_independent exCfg detH det_envFree detN [[5, 9, 0], [7, 5]] 11 22

/-- … and what both compute: block 1 has a success, a failure after partial writes (9) and a
    refusal (0); block 2 has a success and a replay of 5 (recorded response, nothing runs); the two
    commit logs are the same concrete lists on both nodes -/
theorem env_independent_facts :
    (execBlocks exCfg detH 11 detN [[5, 9, 0], [7, 5]]).2.map (fun o => (o.results, o.log)) =
      [([⟨true, some 5, 25⟩, ⟨false, none, 27⟩, ⟨false, none, 0⟩],
        [.set 8 1, .set 1 5, .set 2 5, .set 9 5, .save]),
       ([⟨true, some 7, 25⟩, ⟨true, some 5, 25⟩],
        [.set 8 2, .set 1 12, .set 2 7, .set 9 12, .save])] ∧
    (execBlocks exCfg detH 22 detN [[5, 9, 0], [7, 5]]).2.map (fun o => (o.results, o.log)) =
      [([⟨true, some 5, 25⟩, ⟨false, none, 27⟩, ⟨false, none, 0⟩],
        [.set 8 1, .set 1 5, .set 2 5, .set 9 5, .save]),
       ([⟨true, some 7, 25⟩, ⟨true, some 5, 25⟩],
        [.set 8 2, .set 1 12, .set 2 7, .set 9 12, .save])] := by
  rw [← env_independent_instance, and_self]
  decide +kernel

/-- the same two blocks as ABCI calls with mempool checks in between -/
def detCalls : List (Call Nat) :=
  [.check 4, .begin, .deliver 5, .check 0, .deliver 9, .endb, .commit [5, 9], .check 5,
   .begin, .deliver 7, .endb, .commit [7]]

theorem env_independent_calls_instance :
    runCalls exCfg detH 11 ⟨detN, []⟩ detCalls = runCalls exCfg detH 22 ⟨detN, []⟩ detCalls :=
  runCalls_env_independent exCfg detH det_envFree ⟨detN, []⟩ detCalls 11 22

theorem env_independent_calls_facts :
    (runCalls exCfg detH 11 ⟨detN, []⟩ detCalls).2 =
      [.checked true, .none, .tx ⟨true, some 5, 25⟩, .checked false, .tx ⟨false, none, 27⟩, .none,
       .committed [.set 8 1, .set 1 5, .set 2 5, .set 9 5, .save], .checked false,
       .none, .tx ⟨true, some 7, 25⟩, .none,
       .committed [.set 8 2, .set 1 12, .set 2 7, .set 9 12, .save]] ∧
    (runCalls exCfg detH 22 ⟨detN, []⟩ detCalls).2 = (runCalls exCfg detH 11 ⟨detN, []⟩ detCalls).2 := by
  refine ⟨?_, by rw [env_independent_calls_instance]⟩
  decide +kernel

end OLP.Props.C01
