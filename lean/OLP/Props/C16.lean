/-
  C16 — the EVM state adapter is equivalent to go-ethereum's reference state.

  Property theorems only (`Sim`: OLP/Evm/Sim.lean; `StoreOK`, `NoOrphanStorage`: Evm/Abs.lean; `sameStartb`: Evm/Start.lean;
  the lemmas: OLP/Evm/*.lean).  All statements are about
  the executable model OLP/Evm/Model.lean:
    `Impl`  = statement-by-statement port of `vm.CommitStateDB` over its persistent records,
    `Ref`   = the textbook semantics (world + stack of saved worlds), which is what go-ethereum's
              `state.StateDB` computes.
  The `evm` engine compares, on every run, the adapter with `Impl` and go-ethereum with `Ref`
  call by call, and the adapter with go-ethereum directly (the monitor), down to the raw records
  after every `Finalise`.

  FULL STATEMENT (DESIGN §6 C16):

      theorem impl_refines_ref (c : Cfg) (ops : List Op) :
          Impl.run c (Impl.init Store.empty) ops = Ref.run c (Ref.init []) ops
      theorem any_client_same_result (c : Cfg) (cl : Client α) :
          (cl.runImpl c (Impl.init Store.empty)).1 = (cl.runRef c (Ref.init [])).1

  History.  Six mechanisms of the adapter broke it when this slice was written; all were repaired
  in /repo after the monitor replayed them.  Their former counterexamples are the regression
  theorems below (`regress_*`: Impl = Ref), each with the repairing commit.

  What is proved (`impl_refines_ref_partial`, `any_client_same_result_partial`): for EVERY call
  sequence / client, from every sane starting state (`Store.sane`: no empty account in the
  records, the code of every account present — kept by every call, `storeOK_preserved`, and true
  of the empty records), as long as the run stays inside `Impl.safeRun` — a decidable predicate
  on the adapter's own state (`Impl.guard`, Model.lean) — the adapter returns what the reference
  returns, call by call, including arbitrary nesting of Snapshot / RevertToSnapshot and Finalise
  between transactions; in particular the adapter panics exactly where the reference does
  (`panics_are_shared`: SubRefund below zero, an invalid revision, SubBalance beyond the balance)
  — no journal operation, no undo of a journal entry and no dirty-counter update can fail.

  The predicate excludes four things (each explained where `Impl.guard` is defined), and the
  theorems keep the name `_partial` for the first:
    1. `Finalise` returning the store's error: an object is written out whose new code is the
       deletion marker.  REACHABLE from a transaction (a deployment whose runtime code is exactly
       those bytes); deliberate since b55dd24 + 078c4d3: the transaction fails, where go-ethereum
       stores the code (`marker_code_fails_finalise`).  The guard is exact: `Impl.finaliseGuard`
       is "this `Finalise(true)` returns no error".
    2.–4. `Finalise(false)`; `Prepare` with a non-empty journal or open revisions; `Reset` with a
       non-empty journal.  NOT reachable from a transaction, and restrictions of the reference
       model rather than of the adapter: go-ethereum's own `Prepare` is not journaled either.
  Nothing else: not the RIPEMD touch exception, not storage records under an address without an
  account; that no journal operation fails is proved (`JOK`, `JCnt`, `OOK`, Evm/Abs.lean).  The
  access list is abstracted to counts.

  At the level of the records, which the interface cannot see: `no_orphan_storage_invariant` —
  no storage record is ever left under an address without an account.

  The driver evaluates the predicate on every correspondence line and reports which part fails
  first (`guard-first-failure:*` in the evidence).
-/
import OLP.Evm.Step
import OLP.Evm.Start
import OLP.Evm.Frame

namespace OLP.Props.C16
open OLP OLP.Evm

/-! ## The starting states correspond -/

/-- the reference starts with the accounts the records describe -/
def SameStart (st : Store) (w0 : List (Addr × RAcct)) : Prop :=
  (akeys w0).Nodup ∧ ∀ a, st.view a = (alookup a w0).map viewR

/-- the decidable sanity check of the records (evaluated by the driver on every starting state)
    implies the hypothesis of the theorems -/
theorem sane_storeOK (st : Store) (h : st.sane = true) : StoreOK st := by
  simp only [Store.sane, Bool.and_eq_true, List.all_eq_true] at h
  refine ⟨fun a o hg => ?_, fun a n hh hl hz => ?_⟩
  · obtain ⟨n, hh, rfl, hrec | hrec⟩ := getAccount_eq hg
    · have := h.1 (a, (n, hh)) (mem_of_alookup hrec)
      simp only [Obj.empty, Obj.fresh]
      simp at this ⊢
      intro h1 h2
      simpa [h1, h2] using this
    · simp [Obj.empty, Obj.fresh, hrec.2.2.2]
  · simpa [hz] using h.2 (a, (n, hh)) (mem_of_alookup hl)

theorem storeOK_empty : StoreOK Store.empty := sane_storeOK _ rfl

theorem sameStart_empty : SameStart Store.empty [] := sameStartb_sound rfl

theorem sim_init (st : Store) (w0 : List (Addr × RAcct)) (hs : StoreOK st) (h0 : SameStart st w0) :
    Sim (Impl.init st) (Ref.init w0) := by
  refine sim_clean hs rfl rfl rfl ?_ rfl rfl h0.1 rfl rfl
  simp only [absI, absR, AW.mk.injEq]
  exact ⟨funext fun a => (view_of_uncached _ a rfl).trans (h0.2 a), rfl, rfl, rfl, rfl, rfl⟩

/-! ## Refinement: same outputs for every call sequence inside the guards -/

/-- one call: same result, and the simulation relation is kept (every interface call, including
    nested Snapshot / RevertToSnapshot and Finalise) -/
theorem step_refines (c : Cfg) (s : Impl) (r : Ref) (h : Sim s r) (op : Op) (hsafe : s.safeStep c op = true) :
    (s.step c op).2 = (r.step c op).2 ∧ ((s.step c op).2 ≠ .panic → Sim (s.step c op).1 (r.step c op).1) :=
  sim_step c h op hsafe

theorem panics_are_shared (c : Cfg) (s : Impl) (r : Ref) (h : Sim s r) (op : Op) (hsafe : s.safeStep c op = true) :
    (s.step c op).2 = .panic ↔ (r.step c op).2 = .panic := by
  rw [(sim_step c h op hsafe).1]

theorem run_refines (c : Cfg) : ∀ (ops : List Op) (s : Impl) (r : Ref), Sim s r → s.safeRun c ops = true →
    Impl.run c s ops = Ref.run c r ops
  | [], _, _, _, _ => rfl
  | op :: ops, s, r, h, hs => by
    simp only [Impl.safeRun, Bool.and_eq_true, Bool.or_eq_true, beq_iff_eq] at hs
    have hstep := sim_step c h op hs.1
    simp only [Impl.run, Ref.run]
    rw [← hstep.1]
    by_cases hp : (s.step c op).2 = .panic
    · simp [hp]
    · simp only [hp, if_false]
      congr 1
      exact run_refines c ops _ _ (hstep.2 hp) (hs.2.resolve_left hp)

/-- the induction over the calls for facts about `Impl.endState`; the simulation is carried along -/
theorem endState_invariant (c : Cfg) {P : Impl → Prop}
    (hstep : ∀ (s : Impl) (r : Ref), Sim s r → ∀ op, s.safeStep c op = true → P s → P (s.step c op).1) :
    ∀ (ops : List Op) (s : Impl) (r : Ref), Sim s r → s.safeRun c ops = true → P s → P (Impl.endState c s ops)
  | [], _, _, _, _, hP => hP
  | op :: ops, s, r, h, hs, hP => by
    simp only [Impl.safeRun, Bool.and_eq_true, Bool.or_eq_true, beq_iff_eq] at hs
    rw [Impl.endState]
    split
    · exact hP
    · exact endState_invariant c hstep ops _ _ ((sim_step c h op hs.1).2 ‹_›) (hs.2.resolve_left ‹_›) (hstep s r h op hs.1 hP)

/-- the sanity of the records (`StoreOK`, decidably `Store.sane`) is an invariant: kept by every
    call inside the guards (and true of the empty records, `storeOK_empty`) -/
theorem storeOK_preserved (c : Cfg) (s : Impl) (r : Ref) (h : Sim s r) (op : Op) (hsafe : s.safeStep c op = true)
    (hp : (s.step c op).2 ≠ .panic) : StoreOK (s.step c op).1.store :=
  ((sim_step c h op hsafe).2 hp).cinv.store

/-- `impl_refines_ref` inside `safeRun`, whose four exclusions the head of this file lists; `_partial`
    for the one a transaction can reach (the marker code, `marker_code_fails_finalise`) -/
theorem impl_refines_ref_partial (c : Cfg) (st : Store) (w0 : List (Addr × RAcct)) (hs : StoreOK st)
    (h0 : SameStart st w0) (ops : List Op) (hsafe : (Impl.init st).safeRun c ops = true) :
    Impl.run c (Impl.init st) ops = Ref.run c (Ref.init w0) ops :=
  run_refines c ops _ _ (sim_init st w0 hs h0) hsafe

/-- with both hypotheses on the starting state as decidable checks -/
theorem impl_refines_ref_decidable_partial (c : Cfg) (st : Store) (w0 : List (Addr × RAcct)) (hs : st.sane = true)
    (h0 : sameStartb st w0 = true) (ops : List Op) (hsafe : (Impl.init st).safeRun c ops = true) :
    Impl.run c (Impl.init st) ops = Ref.run c (Ref.init w0) ops :=
  impl_refines_ref_partial c st w0 (sane_storeOK st hs) (sameStartb_sound h0) ops hsafe

theorem impl_refines_ref_from_empty_partial (c : Cfg) (ops : List Op)
    (hsafe : (Impl.init Store.empty).safeRun c ops = true) :
    Impl.run c (Impl.init Store.empty) ops = Ref.run c (Ref.init []) ops :=
  impl_refines_ref_partial c Store.empty [] storeOK_empty sameStart_empty ops hsafe

/-! ## Any client: same result for every deterministic client of the interface -/

theorem client_refines (c : Cfg) {α : Type} : ∀ (cl : Client α) (s : Impl) (r : Ref), Sim s r → cl.safe c s = true →
    cl.runImpl c s = cl.runRef c r := by
  intro cl
  induction cl with
  | ret x => intro s r _ _; rfl
  | call op k ih =>
    intro s r h hs
    simp only [Client.safe, Bool.and_eq_true, Bool.or_eq_true, beq_iff_eq] at hs
    have hstep := sim_step c h op hs.1
    simp only [Client.runImpl, Client.runRef]
    rw [← hstep.1]
    by_cases hp : (s.step c op).2 = .panic
    · simp [hp]
    · simp only [hp, if_false]
      rw [ih (s.step c op).2 (s.step c op).1 (r.step c op).1 (hstep.2 hp) (hs.2.resolve_left hp)]

/-- (`_partial`: see `impl_refines_ref_partial`.)  The step that turns "same interface behaviour"
    into "same result for every bytecode program": the EVM interpreter is a deterministic client of
    the interface (trusted: go-ethereum's EVM uses the state only through `vm.StateDB`) -/
theorem any_client_same_result_partial (c : Cfg) {α : Type} (st : Store) (w0 : List (Addr × RAcct)) (hs : StoreOK st)
    (h0 : SameStart st w0) (cl : Client α) (hsafe : cl.safe c (Impl.init st) = true) :
    cl.runImpl c (Impl.init st) = cl.runRef c (Ref.init w0) :=
  client_refines c cl _ _ (sim_init st w0 hs h0) hsafe

/-! ## The records: the storage of an account ends with the account (8684164, former S8) -/

/-- one call keeps "no storage record under an address without an account": every call but
    `Finalise` leaves the records alone, and `Finalise` deletes the storage records of every
    account it deletes -/
theorem no_orphan_storage_step (c : Cfg) (s : Impl) (r : Ref) (h : Sim s r) (op : Op) (hsafe : s.safeStep c op = true)
    (hcl : NoOrphanStorage s.store) : NoOrphanStorage (s.step c op).1.store := by
  by_cases hop : ∃ b, op = .finalise b
  · obtain ⟨b, rfl⟩ := hop
    have hgd : s.guard c (.finalise b) = true := hsafe
    simp only [Impl.guard, Bool.and_eq_true] at hgd
    obtain rfl : b = true := hgd.1
    simpa [Impl.step] using (sim_finalise c h hgd.2).2.2 hcl
  · rw [step_store c s op (fun b e => hop ⟨b, e⟩)]
    exact hcl

theorem no_orphan_storage_run (c : Cfg) : ∀ (ops : List Op) (s : Impl) (r : Ref), Sim s r → s.safeRun c ops = true →
    NoOrphanStorage s.store → NoOrphanStorage (Impl.endState c s ops).store :=
  endState_invariant c (no_orphan_storage_step c)

/-- from the empty records, whatever is called inside the guards: no storage record is ever left
    under an address without an account -/
theorem no_orphan_storage_invariant (c : Cfg) (ops : List Op) (hsafe : (Impl.init Store.empty).safeRun c ops = true) :
    NoOrphanStorage (Impl.endState c (Impl.init Store.empty) ops).store :=
  no_orphan_storage_run c ops _ _ (sim_init Store.empty [] storeOK_empty sameStart_empty) hsafe
    (by intro a _ k; simp [Store.slot, Store.empty, Impl.init])

/-! ## The reference semantics is the textbook one -/

/-- a revert gives back exactly the world saved by the snapshot, whatever happened in between -/
theorem ref_revert_restores (c : Cfg) (r : Ref) (hstack : r.stack = []) (ops : List Op) (r1 : Ref)
    (h1 : r1.stack = (r.step c .snapshot).1.stack) :
    ((r1.step c (.revertToSnapshot r.nextRev)).1).cur = r.cur ∧ (r1.step c (.revertToSnapshot r.nextRev)).2 = .unit := by
  have _ := ops
  unfold Ref.step at h1 ⊢
  simp only [hstack, List.nil_append] at h1
  simp [h1]

/-- Finalise empties the touched set, the refund and the revisions, and what was current storage
    is committed storage afterwards -/
theorem ref_finalise_promotes (r : Ref) (b : Bool) (a : Addr) (x : RAcct)
    (h : (r.finalise b).cur.get a = some x) : x.cstor = x.stor ∧ (r.finalise b).cur.touched = [] ∧
      (r.finalise b).cur.refund = 0 ∧ (r.finalise b).stack = [] := by
  refine ⟨?_, rfl, rfl, rfl⟩
  simp only [Ref.finalise, RWorld.get] at h
  have hm := mem_of_alookup h
  simp only [List.mem_map] at hm
  obtain ⟨ar, _, har⟩ := hm
  simp only [Prod.mk.injEq] at har
  rw [← har.2]

/-! ## The one exclusion a transaction can reach, and regressions of what was repaired -/

def cfg : Cfg := { tomb := 99, ripemd := 3 }
def start : Impl := Impl.init Store.empty
def rstart : Ref := Ref.init []

/-- repaired (8684164), former KF-C16-2a: the storage records of a deleted account go with it;
    created again at the address, the account reads empty storage -/
theorem regress_recreated_account_reads_empty_storage :
    let ops := [Op.setNonce 1 1, .setState 1 0 5, .finalise true, .suicide 1, .finalise true, .setNonce 1 1, .getState 1 0,
                .getCommittedState 1 0]
    Impl.run cfg start ops = [.unit, .unit, .unit, .bool true, .unit, .unit, .nat 0, .nat 0] ∧
    Ref.run cfg rstart ops = Impl.run cfg start ops ∧ start.safeRun cfg ops = true := by decide +kernel

/-- repaired (8684164), former KF-C16-2b: `CreateAccount` over a live account starts it with empty
    storage; the old records are gone when it is written out, and a revert brings them back -/
theorem regress_createAccount_over_storage :
    let ops := [Op.setNonce 1 1, .setState 1 0 5, .finalise true, .snapshot, .createAccount 1, .getState 1 0,
                .getCommittedState 1 0, .revertToSnapshot 0, .getState 1 0, .createAccount 1, .setNonce 1 1,
                .setState 1 1 7, .finalise true, .getState 1 0, .getState 1 1]
    Impl.run cfg start ops = [.unit, .unit, .unit, .nat 0, .unit, .nat 0, .nat 0, .unit, .nat 5, .unit, .unit, .unit, .unit,
                              .nat 0, .nat 7] ∧
    Ref.run cfg rstart ops = Impl.run cfg start ops ∧ start.safeRun cfg ops = true := by decide +kernel

/-- storage records under an address without an account (left by a deletion before 8684164) are
    inside the theorem: the account created there does not read them, and they are deleted when it
    is written out -/
def residueStore : Store := { acct := [], bal := [], code := [], stor := [((1, 0), 5), ((1, 2), 6)] }

theorem regress_historic_residue_not_read :
    let ops := [Op.getState 1 0, .setNonce 1 1, .getState 1 0, .setState 1 1 7, .finalise true, .getState 1 0, .getState 1 1,
                .getCommittedState 1 2]
    residueStore.sane = true ∧ sameStartb residueStore [] = true ∧
    Impl.run cfg (Impl.init residueStore) ops = [.nat 0, .unit, .nat 0, .unit, .unit, .nat 0, .nat 7, .nat 0] ∧
    Ref.run cfg rstart ops = Impl.run cfg (Impl.init residueStore) ops ∧
    (ops.foldl (fun s op => (s.step cfg op).1) (Impl.init residueStore)).store.stor = [((1, 1), 7)] := by decide +kernel

/-- the excluded input class: a code equal to the deletion marker makes `Finalise` fail (the
    reference has no such error); nothing is read back differently before that -/
theorem marker_code_fails_finalise :
    let ops := [Op.setCode 1 99, .getCode 1, .finalise true, .getCode 1]
    Impl.run cfg start ops = [.unit, .code 99, .panic] ∧
    Ref.run cfg rstart ops = [.unit, .code 99, .unit, .code 99] ∧
    start.safeRun cfg ops = false := by decide

/-- repaired (da864f3, c90a103): a self-destructed account is gone with its balance record -/
theorem regress_selfdestruct_balance :
    let ops := [Op.addBalance 1 7, .finalise true, .suicide 1, .finalise true, .getBalance 1, .exist 1]
    Impl.run cfg start ops = [.unit, .unit, .bool true, .unit, .nat 0, .bool false] ∧
    Ref.run cfg rstart ops = Impl.run cfg start ops ∧ start.safeRun cfg ops = true := by decide +kernel

/-- repaired (c90a103): what is paid to a contract after its self-destruct is burnt with it -/
theorem regress_paid_after_selfdestruct :
    let ops := [Op.addBalance 1 7, .finalise true, .suicide 1, .addBalance 1 5, .getBalance 1, .finalise true, .getBalance 1, .exist 1]
    Impl.run cfg start ops = [.unit, .unit, .bool true, .unit, .nat 5, .unit, .nat 0, .bool false] ∧
    Ref.run cfg rstart ops = Impl.run cfg start ops ∧ start.safeRun cfg ops = true := by decide +kernel

/-- repaired (f45414e): the dirty index follows the removal of an entry -/
theorem regress_dirty_index :
    let ops := [Op.snapshot, .setNonce 1 3, .addBalance 2 1000, .revertToSnapshot 0, .setState 2 1 5, .setNonce 2 1,
                .finalise true, .getState 2 1, .exist 1]
    Impl.run cfg start ops = [.nat 0, .unit, .unit, .unit, .unit, .unit, .unit, .nat 5, .bool false] ∧
    Ref.run cfg rstart ops = Impl.run cfg start ops ∧ start.safeRun cfg ops = true := by decide +kernel

/-- repaired (d411c44): a reverted balance change does not leave the account dirty (the empty
    stored account is made with `Finalise(false)`, which is outside the guard, yet both agree) -/
theorem regress_reverted_transfer_keeps_empty_account :
    let ops := [Op.createAccount 1, .finalise false, .snapshot, .addBalance 1 5, .revertToSnapshot 0, .finalise true, .exist 1]
    Impl.run cfg start ops = [.unit, .unit, .nat 0, .unit, .unit, .unit, .bool true] ∧
    Ref.run cfg rstart ops = Impl.run cfg start ops := by decide +kernel

/-! ## Non-vacuity: the guards are met by non-trivial runs -/

/-- two transactions with nested snapshots, a revert of the inner and of the outer one, storage,
    balance, nonce, code, refund, log, access list and self-destruct of a fresh account -/
def exOps : List Op :=
  [.prepare 1, .addBalance 1 10, .setNonce 1 1, .setCode 2 7, .setState 2 0 5, .snapshot, .setState 2 0 6,
   .addRefund 100, .snapshot, .subBalance 1 4, .addBalance 4 4, .addLog 2 9, .addSlotToAccessList 2 0,
   .revertToSnapshot 1, .getBalance 1, .getState 2 0, .revertToSnapshot 0, .getState 2 0, .getRefund,
   .finalise true, .prepare 2, .getCommittedState 2 0, .setState 2 0 0, .snapshot, .createAccount 5, .setNonce 5 1,
   .suicide 5, .revertToSnapshot 2, .exist 5, .finalise true, .getState 2 0, .getCode 2, .exist 4]

example : start.safeRun cfg exOps = true := by decide +kernel

example : Impl.run cfg start exOps = Ref.run cfg rstart exOps :=
  impl_refines_ref_from_empty_partial cfg exOps (by decide +kernel)

example : Impl.run cfg start exOps =
    [.unit, .unit, .unit, .unit, .unit, .nat 0, .unit, .unit, .nat 1, .unit, .unit, .unit, .unit, .unit, .nat 10, .nat 6,
     .unit, .nat 5, .nat 0, .unit, .unit, .nat 5, .unit, .nat 2, .unit, .unit, .bool true, .unit, .bool false, .unit,
     .nat 0, .code 7, .bool false] := by decide +kernel

/-- the RIPEMD touch exception is inside the theorem: the precompile touched with a zero amount
    inside a reverted call, then read, paid and finalised -/
def exOpsRipemd : List Op :=
  [.prepare 1, .snapshot, .addBalance 3 0, .exist 3, .revertToSnapshot 0, .exist 3, .finalise true, .exist 3,
   .prepare 2, .addBalance 3 0, .snapshot, .addBalance 3 5, .revertToSnapshot 1, .getBalance 3, .finalise true, .exist 3,
   .prepare 3, .addBalance 3 5, .finalise true, .prepare 4, .snapshot, .addBalance 3 0, .revertToSnapshot 2, .finalise true,
   .getBalance 3]

example : start.safeRun cfg exOpsRipemd = true ∧
    Impl.run cfg start exOpsRipemd = Ref.run cfg rstart exOpsRipemd ∧
    Impl.run cfg start exOpsRipemd =
      [.unit, .nat 0, .unit, .bool true, .unit, .bool false, .unit, .bool false,
       .unit, .unit, .nat 1, .unit, .unit, .nat 0, .unit, .bool false,
       .unit, .unit, .unit, .unit, .nat 2, .unit, .unit, .unit, .nat 5] := by decide +kernel

/-- the records after a self-destruct: the storage records are gone with the account -/
example :
    (Impl.endState cfg start [.setNonce 1 1, .setState 1 0 5, .setState 1 1 6, .finalise true]).store.stor = [((1, 0), 5), ((1, 1), 6)] ∧
    (Impl.endState cfg start [.setNonce 1 1, .setState 1 0 5, .setState 1 1 6, .finalise true, .suicide 1, .finalise true]).store.stor
      = [] := by decide

/-- a starting state with a contract (code 7, slot 0 = 5), an account that has only a balance
    record, and an externally owned account -/
def exStore : Store :=
  { acct := [(2, (1, 7)), (1, (3, 0))], bal := [(1, 100), (4, 9)], code := [(7, 7)], stor := [((2, 0), 5)] }
def exWorld : List (Addr × RAcct) :=
  [(2, { nonce := 1, bal := 0, code := 7, stor := [(0, 5)], cstor := [(0, 5)], suicided := false }),
   (1, { RAcct.fresh 100 with nonce := 3 }), (4, RAcct.fresh 9)]
def exOps2 : List Op :=
  [.prepare 1, .subBalance 1 30, .addBalance 2 30, .snapshot, .setState 2 0 0, .setState 2 1 8, .getCommittedState 2 0,
   .addRefund 4800, .snapshot, .subBalance 4 9, .addBalance 6 9, .revertToSnapshot 1, .getBalance 4, .finalise true,
   .prepare 2, .getState 2 0, .getState 2 1, .getCommittedState 2 1, .getBalance 2, .getCode 2, .getNonce 1]

example : exStore.sane = true ∧ sameStartb exStore exWorld = true ∧ (Impl.init exStore).safeRun cfg exOps2 = true := by decide +kernel

example : Impl.run cfg (Impl.init exStore) exOps2 = Ref.run cfg (Ref.init exWorld) exOps2 :=
  impl_refines_ref_decidable_partial cfg exStore exWorld (by decide +kernel) (by decide +kernel) exOps2 (by decide +kernel)

example : Impl.run cfg (Impl.init exStore) exOps2 =
    [.unit, .unit, .unit, .nat 0, .unit, .unit, .nat 5, .unit, .nat 1, .unit, .unit, .unit, .nat 9, .unit,
     .unit, .nat 0, .nat 8, .nat 8, .nat 30, .code 7, .nat 3] := by decide +kernel

/-- a client that branches on what it reads -/
def exClient : Client Nat :=
  .call (.addBalance 1 10) fun _ =>
  .call .snapshot fun _ =>
  .call (.subBalance 1 3) fun _ =>
  .call (.getBalance 1) fun o =>
    match o with
    | .nat 7 => .call (.revertToSnapshot 0) fun _ => .call (.getBalance 1) fun o' =>
        match o' with | .nat n => .ret n | _ => .ret 0
    | _ => .ret 99

example : exClient.safe cfg start = true := by decide
example : (exClient.runImpl cfg start).1 = some 10 := by decide

end OLP.Props.C16
