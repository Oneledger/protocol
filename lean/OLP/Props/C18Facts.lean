/-
  C18 — obligation over the REGENERATED fact tables (tie T3): every `Fatal` / `panic` / `os.Exit`
  call site in the consensus packages is one of the classified rows of OLP.Expect.fatalSites
  (a new one on a transaction-reachable path has to be classified before the check passes again).
-/
import OLP.Shell.Expect

namespace OLP.Props.C18.Facts
open OLP.Expect

theorem fatal_sites_as_classified : OLP.Gen.fatalSites = fatalSites := by rfl

end OLP.Props.C18.Facts
