import OLP.Gen.Funcs
import OLP.Olvm.Model

/-!
# C17 — the money side of an OLVM transaction, tied to the source by translation (T2b)

`StateTransition.gasUsed` is translated whole; the cost bought in `buyGas`, the quotient of
`refundGas` and the amount it returns are translated assignments. The model's debit, its gas left
after the refund and its credit are these expressions, so "exactly gas used times gas price" is
a statement about the source's own formulas.
-/

namespace OLP.Props.C17

open OLP.Olvm
open OLP.Gen

theorem buyGas_cost_is_source (tx : Tx) :
    ((gasU tx : Int) * tx.price) = Funcs.olvmBuyGasCost (gasU tx) tx.price := rfl

theorem gasFinal_is_source (tx : Tx) (vm : VmOut) (gasLeft : Nat) (h : gasLeft ≤ gasU tx) :
    (gasFinal tx vm gasLeft : Int) =
      gasLeft + min (Funcs.olvmRefundQuot (Funcs.olvmGasUsed gasLeft (gasU tx)) 3) (vm.refund : Int) := by
  unfold gasFinal Funcs.olvmRefundQuot Funcs.olvmGasUsed refundQuotient
  have h1 : ((gasU tx - gasLeft : Nat) : Int) = (gasU tx : Int) - (gasLeft : Int) := by omega
  rw [← h1]
  have h2 : Int.tdiv ((gasU tx - gasLeft : Nat) : Int) 3 = (((gasU tx - gasLeft) / 3 : Nat) : Int) := by
    rw [Int.tdiv_eq_ediv_of_nonneg (by omega)]; rfl
  rw [h2]
  omega

theorem refund_credit_is_source (tx : Tx) (vm : VmOut) (gasLeft : Nat) :
    ((gasFinal tx vm gasLeft : Int) * tx.price) = Funcs.olvmRemaining (gasFinal tx vm gasLeft) tx.price := rfl

theorem net_charge_is_gas_used_times_price (g0 gEnd price : Int) :
    Funcs.olvmBuyGasCost g0 price - Funcs.olvmRemaining gEnd price = Funcs.olvmGasUsed gEnd g0 * price := by
  unfold Funcs.olvmBuyGasCost Funcs.olvmRemaining Funcs.olvmGasUsed
  rw [Int.sub_mul]

example : Funcs.olvmRefundQuot (Funcs.olvmGasUsed 4000 25000) 3 = 7000 := by decide

/-! ### intrinsic gas: the whole function, byte loop and overflow guards included -/

/-- the non-zero bytes of a payload -/
def nzCount (data : List Int) : Nat := (data.filter (fun b => b ≠ 0)).length

theorem foldl_nz (data : List Int) (a : Int) :
    List.foldl (fun acc byt => if decide (byt ≠ 0) = true then acc + 1 else acc) a data = a + (nzCount data : Int) := by
  induction data generalizing a with
  | nil => simp [nzCount]
  | cons b bs ih =>
    simp only [List.foldl_cons, ih, nzCount, List.filter_cons]
    by_cases hb : b = 0 <;> simp [hb] <;> omega

theorem nzCount_le (data : List Int) : nzCount data ≤ data.length := by
  unfold nzCount; exact List.length_filter_le _ _

/-- the two overflow guards of `IntrinsicGas` cannot trigger below the size limit, from either base
    amount -/
theorem guards (g0 : Int) {n len : Nat} (h0 : 0 ≤ g0 ∧ g0 ≤ 53000) (hn : n ≤ len) (hl : len ≤ 131072) :
    ¬ decide (Int.tdiv (18446744073709551615 - g0) 16 < (n : Int)) = true ∧
    ¬ decide (Int.tdiv (18446744073709551615 - (g0 + n * 16)) 4 < Int.ofNat len - n) = true := by
  rw [decide_eq_true_eq, decide_eq_true_eq, Int.tdiv_eq_ediv_of_nonneg (by omega),
    Int.tdiv_eq_ediv_of_nonneg (by omega)]
  show _ ∧ ¬ _ < (len : Int) - n
  omega

/-- `IntrinsicGas` of the source (whole function, with its two overflow guards and the byte
    loop) is the model's formula for every payload below the transaction size limit and no access
    list -/
theorem intrinsicGas_is_source (data : List Int) (create : Bool) (hs : data.length ≤ txMaxSize) :
    Funcs.olvmIntrinsicGas data create true 0 0 =
      (((intrinsicGas (nzCount data) (data.length - nzCount data) create : Nat) : Int), false) := by
  have hle := nzCount_le data
  unfold Funcs.olvmIntrinsicGas intrinsicGas
  by_cases hd : data.length = 0
  · have hn : nzCount data = 0 := by omega
    cases create <;> simp [hd, hn]
  · have hpos : decide (Int.ofNat data.length > 0) = true := by
      rw [decide_eq_true_eq]; show (0 : Int) < (data.length : Int); omega
    -- both branches are the same computation from another base amount
    cases create
    all_goals
      simp only [Bool.false_eq_true, if_true, if_false, foldl_nz, Int.zero_add, hpos]
      rw [if_neg (guards _ (by decide) hle hs).1, if_neg (guards _ (by decide) hle hs).2, if_neg (by decide),
        Int.natCast_add, Int.natCast_add, Int.natCast_mul, Int.natCast_mul, Int.natCast_sub hle]
      rfl

end OLP.Props.C17
