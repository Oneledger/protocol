/-
  C12 — Delegation pool consistency and undelegation maturity.

  All statements are about the executable model `OLP.Deleg` (OLP/Deleg/Model.lean), a port of the
  four `run*` handlers of action/network_delegation, the pool donations (SENDPOOL / SEND) and the
  BeginBlock hooks `addMaturedAmountsToBalance`, `handleDelegationRewards`,
  `matureDelegationRewards`; the `deleg` correspondence engine compares it with the real
  application on every run.

  A history is any list of `Op`s: the five transaction kinds (a failing one is a no-op, as the
  controller discards its session), `env a d` (any other change of a non-pool balance: fees,
  transfers, staking …) and `beginBlock T` (next height; `T` = this block's delegation reward).
  `run c (Hist.init bal) ops` starts from empty delegation stores and arbitrary balances; the
  ghost logs of `Hist` that the statements speak of are never read by the mechanism.

  Hypotheses are decidable predicates on the configuration and the inputs:
    `op.wf c`            nobody acts as the pool address,
    `c.checkSign = true` runUndelegate / runDeleWithdraw / runReinvest refuse negative amounts — the
                         code since commit 1db1c08 (S5); section 6 shows the check necessary,
    `op.donationChecked` donations go through the sign-validating paths (SEND; SENDPOOL since 626f990),
    `op.rewardNonneg`    the block's delegation reward is ≥ 0 (computed by the C13 machinery),
    `c.sepPrefix = true` `IteratePendingAmounts` ranges over `deleg_p_<height>_` — the code since commit
                         4adafc1 (S17): exact for EVERY maturity ≥ 1; section 5 has the old prefix,
    `1 ≤ c.maturity`     a maturity of 0 would create the pending entry after its own BeginBlock.
-/
import OLP.Deleg.Lemmas

namespace OLP.Props.C12
open OLP.Deleg

variable {A : Type} [DecidableEq A]

/-! ## 1. Pool balance vs. active delegations -/

/-- At every point of every history the pool balance is the sum of the active delegations plus
    what the pool held initially plus the donations — for all amounts, also negative ones. -/
theorem pool_eq_active_plus_donations (c : Cfg A) (bal : List (A × Int)) (ops : List (Op A))
    (hw : ∀ op ∈ ops, op.wf c = true) :
    (run c (Hist.init bal) ops).st.balOf c.pool =
      sumV (run c (Hist.init bal) ops).st.active + getD bal c.pool + (run c (Hist.init bal) ops).donated :=
  (run_induct c (PoolInv c (getD bal c.pool)) (fun op => op.wf c = true) step_poolInv (Hist.init bal)
    ⟨by simp [Hist.init, St.empty, St.balOf, sumV], nofun, nofun⟩ ops hw).eq

theorem donated_nonneg (c : Cfg A) (H : Hist A) (ops : List (Op A)) (h0 : 0 ≤ H.donated)
    (hd : ∀ op ∈ ops, op.donationChecked = true) : 0 ≤ (run c H ops).donated := by
  refine run_induct c (fun H => 0 ≤ H.donated) (fun op => op.donationChecked = true) ?_ H h0 ops hd
  intro H op hop inv
  revert hop
  apply step_cases (P := fun op H' => op.donationChecked = true → 0 ≤ H'.donated)
  case donate => exact fun a amt ck hs _ hck => Int.add_nonneg inv (hs hck)
  all_goals intros; exact inv

theorem donated_zero (c : Cfg A) (H : Hist A) (ops : List (Op A)) (h0 : H.donated = 0)
    (hd : ∀ op ∈ ops, op.isDonation = false) : (run c H ops).donated = 0 := by
  refine run_induct c (fun H => H.donated = 0) (fun op => op.isDonation = false) ?_ H h0 ops hd
  intro H op hop inv
  revert hop
  apply step_cases (P := fun op H' => op.isDonation = false → H'.donated = 0)
  case donate => exact fun _ _ _ _ _ hd => nomatch hd
  all_goals intros; exact inv

/-- pool ≥ Σ active: donations cannot be negative (`runTx` and `sendPoolTx.Validate` check the sign) -/
theorem pool_ge_active (c : Cfg A) (bal : List (A × Int)) (ops : List (Op A))
    (hw : ∀ op ∈ ops, op.wf c = true) (h0 : 0 ≤ getD bal c.pool)
    (hd : ∀ op ∈ ops, op.donationChecked = true) :
    sumV (run c (Hist.init bal) ops).st.active ≤ (run c (Hist.init bal) ops).st.balOf c.pool := by
  rw [pool_eq_active_plus_donations c bal ops hw, Int.add_assoc]
  exact Int.le_add_of_nonneg_right (Int.add_nonneg h0 (donated_nonneg c (Hist.init bal) ops (Int.le_refl 0) hd))

theorem pool_eq_active_without_donation (c : Cfg A) (bal : List (A × Int)) (ops : List (Op A))
    (hw : ∀ op ∈ ops, op.wf c = true) (h0 : getD bal c.pool = 0)
    (hd : ∀ op ∈ ops, op.isDonation = false) :
    (run c (Hist.init bal) ops).st.balOf c.pool = sumV (run c (Hist.init bal) ops).st.active := by
  rw [pool_eq_active_plus_donations c bal ops hw, h0, donated_zero c (Hist.init bal) ops rfl hd,
    Int.add_zero, Int.add_zero]

/-! ## 2. An undelegated amount leaves the active set immediately and is not paid now -/

/-- exact effect of a successful `runUndelegate` (any amount) -/
theorem undelegate_effect {c : Cfg A} {s s' : St A} {h : Nat} {a : A} {amt : Int} (ha : a ≠ c.pool)
    (hk : undelegate c s h a amt = .ok s') :
    getD s'.active a = getD s.active a - amt ∧
    (∀ b, b ≠ a → getD s'.active b = getD s.active b) ∧
    sumV s'.active = sumV s.active - amt ∧
    s'.balOf c.pool = s.balOf c.pool - amt ∧
    s'.balOf a = s.balOf a ∧
    getD s'.pending (h + c.maturity, a) = getD s.pending (h + c.maturity, a) + amt ∧
    (∀ k, k ≠ (h + c.maturity, a) → getD s'.pending k = getD s.pending k) := by
  obtain ⟨_, _, _, rfl⟩ := undelegate_ok.mp hk
  refine ⟨by simp, ?_, ?_, by simp [St.balOf], ?_, by simp, ?_⟩
  · intro b hb; simp [hb]
  · rw [sumV_upsert, ← Int.add_sub_assoc, Int.sub_add_cancel]
  · simp [St.balOf, ha]
  · intro k hk'; simp [hk']

theorem undelegate_leaves_active_now (c : Cfg A) (hc : c.checkSign = true) (s s' : St A) (h : Nat) (a : A)
    (amt : Int) (ha : a ≠ c.pool) (hk : undelegate c s h a amt = .ok s') :
    0 ≤ amt ∧ getD s'.active a = getD s.active a - amt ∧ getD s'.active a ≤ getD s.active a ∧
    sumV s'.active ≤ sumV s.active ∧ s'.balOf a = s.balOf a := by
  obtain ⟨h1, _, h3, _, h5, _, _⟩ := undelegate_effect ha hk
  have h0 : 0 ≤ amt := (undelegate_ok.mp hk).1 hc
  exact ⟨h0, h1, h1 ▸ Int.sub_le_self _ h0, h3 ▸ Int.sub_le_self _ h0, h5⟩

theorem negative_amounts_refused (c : Cfg A) (hc : c.checkSign = true) (s : St A) (h : Nat) (a : A)
    (amt : Int) (hneg : amt < 0) :
    undelegate c s h a amt = .error .invalidAmount ∧ withdraw c s h a amt = .error .invalidAmount ∧
    reinvest c s a amt = .error .invalidAmount := by
  simp [undelegate, withdraw, reinvest, hc, hneg]

/-! ## 3. Paid exactly once, at the maturity height, to the delegator -/

/-- the two ghost payment logs account for every balance change BeginBlock makes -/
theorem begin_credits_exactly_log (c : Cfg A) (s : St A) (h : Nat) (T : Int) (a : A) :
    (beginBlock c s h T).st.balOf a =
      s.balOf a + sumKey a (beginBlock c s h T).paid + sumKey a (beginBlock c s h T).rwPaid := by
  rw [beginBlock_eq]
  exact (payQ_bal rfl a).trans (congrArg (· + _) (payQ_bal rfl a))

theorem undInv_reachable {c : Cfg A} (hM : 1 ≤ c.maturity) (hex : c.sepPrefix = true ∨ c.maturity ≤ 9)
    (bal : List (A × Int)) (ops : List (Op A)) : UndInv c (run c (Hist.init bal) ops) :=
  run_preserves c (UndInv c) (step_undInv hM hex) (Hist.init bal) (QInv.init _) ops

theorem rwdInv_reachable {c : Cfg A} (hM : 1 ≤ c.maturity) (bal : List (A × Int))
    (ops : List (Op A)) : RwdInv c (run c (Hist.init bal) ops) :=
  run_preserves c (RwdInv c) (step_rwdInv hM) (Hist.init bal) (QInv.init _) ops

/-- The payment log is exactly: one payment per (delegator, block in which it undelegated), made at
    that block's height + maturity, of the total undelegated in that block — for every maturity ≥ 1
    and all amounts. -/
theorem paid_exactly_once_at_maturity (c : Cfg A) (hs : c.sepPrefix = true) (hM : 1 ≤ c.maturity)
    (bal : List (A × Int)) (ops : List (Op A)) (h : Nat) (a : A) (x : Int) :
    ((h, a), x) ∈ (run c (Hist.init bal) ops).paid ↔
      (c.maturity ≤ h ∧ h ≤ (run c (Hist.init bal) ops).height ∧
       (h - c.maturity, a) ∈ akeys (run c (Hist.init bal) ops).ulog ∧
       x = sumKey (h - c.maturity, a) (run c (Hist.init bal) ops).ulog) :=
  (undInv_reachable hM (.inl hs) bal ops).pd h a x

/-- never earlier, never twice: at most one payment per (height, delegator); none before its
    height (an outstanding entry holds exactly what was undelegated); matured entries are zero -/
theorem never_early_or_twice (c : Cfg A) (hs : c.sepPrefix = true) (hM : 1 ≤ c.maturity)
    (bal : List (A × Int)) (ops : List (Op A)) :
    (akeys (run c (Hist.init bal) ops).paid).Nodup ∧
    (∀ hb a, (run c (Hist.init bal) ops).height < hb + c.maturity →
        (∀ x, ((hb + c.maturity, a), x) ∉ (run c (Hist.init bal) ops).paid) ∧
        getD (run c (Hist.init bal) ops).st.pending (hb + c.maturity, a) =
          sumKey (hb, a) (run c (Hist.init bal) ops).ulog) ∧
    (∀ h' a, h' ≤ (run c (Hist.init bal) ops).height →
        getD (run c (Hist.init bal) ops).st.pending (h', a) = 0) :=
  (undInv_reachable hM (.inl hs) bal ops).never_early_or_twice

theorem payments_nonneg (c : Cfg A) (hc : c.checkSign = true) (hs : c.sepPrefix = true)
    (hM : 1 ≤ c.maturity) (bal : List (A × Int)) (ops : List (Op A)) :
    ∀ e ∈ (run c (Hist.init bal) ops).paid, 0 ≤ e.2 := by
  refine (undInv_reachable hM (.inl hs) bal ops).pd_nonneg ?_
  refine run_preserves c (fun H => ∀ e ∈ H.ulog, 0 ≤ e.2) ?_ (Hist.init bal) nofun ops
  intro H op inv
  apply step_cases (P := fun _ H' => ∀ e ∈ H'.ulog, 0 ≤ e.2)
  case undelegate => exact fun a amt h0 _ _ => List.forall_mem_cons.mpr ⟨h0 hc, inv⟩
  all_goals intros; exact inv _ ‹_›

/-! ## 4. Reward withdrawals: same maturity rule, never more than accrued -/

/-- reward withdrawals are paid exactly once, at the withdrawal block's height + maturity (the
    range prefix `delegRwz_pending_<height>_` is exact, so any maturity ≥ 1 will do) -/
theorem reward_withdrawal_paid_exactly_once_at_maturity (c : Cfg A) (hM : 1 ≤ c.maturity)
    (bal : List (A × Int)) (ops : List (Op A)) (h : Nat) (a : A) (x : Int) :
    ((h, a), x) ∈ (run c (Hist.init bal) ops).rwPaid ↔
      (c.maturity ≤ h ∧ h ≤ (run c (Hist.init bal) ops).height ∧
       (h - c.maturity, a) ∈ akeys (run c (Hist.init bal) ops).wlog ∧
       x = sumKey (h - c.maturity, a) (run c (Hist.init bal) ops).wlog) :=
  (rwdInv_reachable hM bal ops).pd h a x

theorem reward_withdrawal_never_twice (c : Cfg A) (hM : 1 ≤ c.maturity)
    (bal : List (A × Int)) (ops : List (Op A)) :
    (akeys (run c (Hist.init bal) ops).rwPaid).Nodup := (rwdInv_reachable hM bal ops).pdNodup

theorem withdraw_within_balance (c : Cfg A) (s s' : St A) (h : Nat) (a : A) (amt : Int) :
    (withdraw c s h a amt = .ok s' → amt ≤ getD s.rw a ∧ getD s'.rw a = getD s.rw a - amt) ∧
    (reinvest c s a amt = .ok s' → amt ≤ getD s.rw a ∧ getD s'.rw a = getD s.rw a - amt) := by
  constructor
  · intro hk; obtain ⟨_, h1, rfl⟩ := withdraw_ok.mp hk; exact ⟨h1, by simp⟩
  · intro hk; obtain ⟨_, h1, rfl⟩ := reinvest_ok.mp hk; exact ⟨h1, by simp⟩

/-- the reward balance is what accrued minus what was withdrawn or reinvested (all amounts) -/
theorem reward_balance_accounting (c : Cfg A) (bal : List (A × Int)) (ops : List (Op A)) (a : A) :
    getD (run c (Hist.init bal) ops).st.rw a =
      sumKey a (run c (Hist.init bal) ops).alog - sumAddr a (run c (Hist.init bal) ops).wlog
        - sumKey a (run c (Hist.init bal) ops).rlog :=
  run_preserves c RwInv step_rwInv (Hist.init bal) (fun _ => rfl) ops a

theorem signInv_reachable {c : Cfg A} (hc : c.checkSign = true) (bal : List (A × Int)) {ops : List (Op A)}
    (hn : ∀ op ∈ ops, op.rewardNonneg = true) : SignInv (run c (Hist.init bal) ops) :=
  run_induct c SignInv (fun op => op.rewardNonneg = true) (step_signInv hc)
    (Hist.init bal) ⟨nofun, fun _ => Int.le_refl 0, nofun⟩ ops hn

/-- what a delegator withdrew (and reinvested) never exceeds what accrued to it; active amounts and
    reward balances never go below zero -/
theorem reward_withdraw_le_accrued (c : Cfg A) (hc : c.checkSign = true) (bal : List (A × Int))
    (ops : List (Op A)) (hn : ∀ op ∈ ops, op.rewardNonneg = true) (a : A) :
    sumAddr a (run c (Hist.init bal) ops).wlog ≤ sumKey a (run c (Hist.init bal) ops).alog ∧
    sumAddr a (run c (Hist.init bal) ops).wlog + sumKey a (run c (Hist.init bal) ops).rlog
      ≤ sumKey a (run c (Hist.init bal) ops).alog ∧
    0 ≤ getD (run c (Hist.init bal) ops).st.rw a ∧
    (∀ e ∈ (run c (Hist.init bal) ops).st.active, 0 ≤ e.2) := by
  have sg := signInv_reachable hc bal hn
  have acc := reward_balance_accounting c bal ops a
  have h1 := sg.rw a
  have h2 := Int.add_le_of_le_sub_left (Int.sub_nonneg.mp (acc ▸ h1))
  exact ⟨Int.le_trans (Int.le_add_of_nonneg_right (sumKey_nonneg a sg.rl)) h2, h2, h1, sg.act⟩

/-- the pool can always pay: undelegating (part of) one's own active amount never fails -/
theorem undelegate_own_active_always_succeeds (c : Cfg A) (hc : c.checkSign = true) (bal : List (A × Int))
    (ops : List (Op A)) (hw : ∀ op ∈ ops, op.wf c = true) (h0 : 0 ≤ getD bal c.pool)
    (hd : ∀ op ∈ ops, op.donationChecked = true) (hn : ∀ op ∈ ops, op.rewardNonneg = true)
    (a : A) (amt : Int) (hamt : 0 ≤ amt) (hle : amt ≤ getD (run c (Hist.init bal) ops).st.active a) :
    ∃ s', undelegate c (run c (Hist.init bal) ops).st (run c (Hist.init bal) ops).height a amt = .ok s' := by
  have h1 := pool_ge_active c bal ops hw h0 hd
  have h2 := getD_le_sumV a (signInv_reachable hc bal hn).act
  exact ⟨_, undelegate_ok.mpr ⟨fun _ => hamt, hle, Int.le_trans hle (Int.le_trans h2 h1), rfl⟩⟩

/-! ## 5. The range prefix (S17).  Since commit 4adafc1 the prefix ends with the separator and the
    range is exact by construction; the theorems `old_prefix_…` describe the prefix function of the
    code before (`decPrefix`, `sepPrefix = false`) and show the separator necessary. -/

theorem range_reports_only_its_height (c : Cfg A) (hs : c.sepPrefix = true) (h : Nat)
    (p : List ((Nat × A) × Int)) (k : Nat × A) :
    k ∈ visitPending c h p ↔ k ∈ akeys p ∧ k.1 = h := by
  rw [mem_visitPending]; simp [hs]

/-- OLD prefix: among keys of later heights below `h + M` the range of height `h` reported only those
    of height `h` — exactly when `M ≤ 9·h` (true for `M = 4` at every height) -/
theorem old_prefix_range_exact_iff (h M : Nat) (hh : 1 ≤ h) :
    (∀ h', h < h' → h' < h + M → decPrefix h h' = false) ↔ M ≤ 9 * h := by
  constructor
  · intro hex
    apply Nat.le_of_not_lt
    intro hlt
    have := hex (10 * h) (by omega) (by omega)
    rw [decPrefix_ten h hh] at this
    cases this
  · intro hM h' h1 h2
    exact decPrefix_false (Nat.ne_of_gt h1) (by omega)

theorem old_prefix_exact_for_maturity_4 (h h' : Nat) (hh : 1 ≤ h) (h1 : h < h') (h2 : h' < h + 4) :
    decPrefix h h' = false := decPrefix_false (Nat.ne_of_gt h1) (by omega)

/-- OLD prefix, devnet's default maturity 109200: at height 10920 the range also reported the live
    entry of height 109201 (created in block 1) -/
theorem old_prefix_collision_devnet_maturity :
    decPrefix 10920 109201 = true ∧ 10920 < 109201 ∧ 109201 < 10920 + 109200 := by decide

/-- OLD prefix: the payment-log theorem holds for maturities up to 9 (for 19 it fails, below) -/
theorem old_prefix_paid_exactly_once_if_maturity_le_9 (c : Cfg A) (hM : 1 ≤ c.maturity) (hM9 : c.maturity ≤ 9)
    (bal : List (A × Int)) (ops : List (Op A)) (h : Nat) (a : A) (x : Int) :
    ((h, a), x) ∈ (run c (Hist.init bal) ops).paid ↔
      (c.maturity ≤ h ∧ h ≤ (run c (Hist.init bal) ops).height ∧
       (h - c.maturity, a) ∈ akeys (run c (Hist.init bal) ops).ulog ∧
       x = sumKey (h - c.maturity, a) (run c (Hist.init bal) ops).ulog) :=
  (undInv_reachable hM (.inr hM9) bal ops).pd h a x

def c19 : Cfg Nat := { pool := 0, maturity := 19, addrLt := fun a b => decide (a < b) }
/-- maturity 19 with the prefix of the code before commit 4adafc1 -/
def c19old : Cfg Nat := { c19 with sepPrefix := false }
def c4 : Cfg Nat := { pool := 0, maturity := 4, addrLt := fun a b => decide (a < b) }
/-- the code before commit 1db1c08 -/
def c4u : Cfg Nat := { c4 with checkSign := false }

def ops19 : List (Op Nat) :=
  [.beginBlock 0, .tx (.delegate 1 100), .tx (.undelegate 1 30)] ++ List.replicate 19 (.beginBlock 0)

/-- OLD prefix, maturity 19: 30 undelegated in block 1 were credited at height 2 (18 blocks early)
    and again at height 20; the balance ended 30 above what the delegator ever owned -/
theorem old_prefix_early_and_double_payment :
    let H := run c19old (Hist.init [(1, 1000)]) ops19
    H.paid = [((20, 1), 30), ((2, 1), 30)] ∧ H.ulog = [((1, 1), 30)] ∧ H.st.balOf 1 = 960 ∧
      getD H.st.active 1 = 70 := by decide +kernel

/-- the same history with the separated prefix: one payment, at height 1 + 19 -/
theorem sep_prefix_single_payment_at_19 :
    let H := run c19 (Hist.init [(1, 1000)]) ops19
    H.paid = [((20, 1), 30)] ∧ H.st.balOf 1 = 930 ∧ getD H.st.active 1 = 70 := by decide +kernel

/-! ## 6. The sign check is necessary (S5): without it (`checkSign = false`, the code before 1db1c08)
    each clause fails; the harness replays these histories on the implementation, which must now
    refuse the negative amounts -/

/-- for every state: without the check a negative amount is accepted and *raises* the active amount
    and the pool, leaving a negative pending entry (debited from the balance at maturity) -/
theorem undelegate_negative_raises_active (c : Cfg A) (hc : c.checkSign = false) (s : St A) (h : Nat)
    (a : A) (amt : Int) (ha : a ≠ c.pool) (hneg : amt < 0) (hact : 0 ≤ getD s.active a)
    (hpool : 0 ≤ s.balOf c.pool) :
    ∃ s', undelegate c s h a amt = .ok s' ∧ getD s.active a < getD s'.active a ∧
      s.balOf c.pool < s'.balOf c.pool ∧
      getD s'.pending (h + c.maturity, a) = getD s.pending (h + c.maturity, a) + amt := by
  have hle := Int.le_of_lt hneg
  obtain ⟨s', hs'⟩ : ∃ s', undelegate c s h a amt = .ok s' :=
    ⟨_, undelegate_ok.mpr ⟨fun h => (nomatch hc.symm.trans h), Int.le_trans hle hact, Int.le_trans hle hpool, rfl⟩⟩
  have lt (x : Int) : x < x - amt := Int.lt_add_of_pos_right x (Int.neg_pos_of_neg hneg)
  obtain ⟨e1, _, _, e4, _, e6, _⟩ := undelegate_effect ha hs'
  exact ⟨s', hs', e1 ▸ lt _, e4 ▸ lt _, e6⟩

/-- undelegate −50: the active amount and the pool rise by 50 at once, and BeginBlock of height
    1 + 4 *debits* 50 from the delegator -/
theorem s5_negative_undelegate_history :
    let H := run c4u (Hist.init [(1, 1000)])
      ([.beginBlock 0, .tx (.delegate 1 100), .tx (.undelegate 1 (-50))] ++ List.replicate 4 (.beginBlock 0))
    getD H.st.active 1 = 150 ∧ H.st.balOf 0 = 150 ∧ H.paid = [((5, 1), -50)] ∧ H.st.balOf 1 = 850 := by
  decide

/-- reinvest −150 without any reward: the reward balance becomes 150, the active amount −50 and the
    pool loses 150 of the other delegator's tokens; withdrawing the 150 pays them out at maturity:
    withdrawn 150 > accrued 0. -/
theorem s5_negative_reinvest_withdraws_unaccrued :
    let H := run c4u (Hist.init [(1, 1000), (2, 1000)])
      ([.beginBlock 0, .tx (.delegate 1 100), .tx (.delegate 2 100), .tx (.reinvest 1 (-150)),
        .tx (.withdraw 1 150)] ++ List.replicate 4 (.beginBlock 0))
    getD H.st.active 1 = -50 ∧ H.st.balOf 0 = 50 ∧ sumAddr 1 H.wlog = 150 ∧ sumKey 1 H.alog = 0 ∧
      H.rwPaid = [((5, 1), 150)] ∧ H.st.balOf 1 = 1050 := by decide

/-- withdraw −70: the reward balance rises by 70 and the delegator is debited 70 at maturity -/
theorem s5_negative_withdraw_history :
    let H := run c4u (Hist.init [(1, 1000)])
      ([.beginBlock 0, .tx (.withdraw 1 (-70))] ++ List.replicate 4 (.beginBlock 0))
    getD H.st.rw 1 = 70 ∧ H.rwPaid = [((5, 1), -70)] ∧ H.st.balOf 1 = 930 := by decide

/-! ## 7. The driver's whole-transaction function is a history step -/

/-- `deliver` (handler + fee step, what the correspondence engine runs) either changes nothing or is
    the handler's history step followed by the fee as an `env` change -/
theorem deliver_refines_history (c : Cfg A) (H : Hist A) (tx : Tx A) (fee : Int) :
    (deliver c H.st H.height tx fee).1 = H.st ∨
    (deliver c H.st H.height tx fee).1 = (run c H [.tx tx, .env tx.actor (-fee)]).st := by
  unfold deliver
  cases hh : handler c H.st H.height tx with
  | error e => left; rfl
  | ok s1 =>
    simp only
    split
    · left; rfl
    · right
      simp only [run, List.foldl, step, hh]
      cases tx <;> simp [Tx.actor, Int.sub_eq_add_neg]

/-! ## 8. Non-vacuity: the hypotheses are satisfiable on histories that exercise the mechanism -/

def demoOps : List (Op Nat) :=
  [.beginBlock 0, .tx (.delegate 1 100), .tx (.delegate 2 300), .tx (.donate 3 7 true),
   .beginBlock 40, .tx (.undelegate 1 30), .tx (.undelegate 1 5), .tx (.withdraw 2 10), .env 1 (-3),
   .beginBlock 40, .tx (.reinvest 2 4), .tx (.undelegate 2 500), .beginBlock 40, .beginBlock 40,
   .beginBlock 40, .beginBlock 40]

example : (∀ op ∈ demoOps, op.wf c4 = true) ∧ (∀ op ∈ demoOps, op.rewardNonneg = true) ∧
    (∀ op ∈ demoOps, op.donationChecked = true) ∧ c4.checkSign = true ∧ c4.sepPrefix = true ∧
    1 ≤ c4.maturity := by decide

/-- the same histories as in section 6 with the check: the negative amounts are refused and nothing
    happens -/
example :
    let H := run c4 (Hist.init [(1, 1000)])
      ([.beginBlock 0, .tx (.delegate 1 100), .tx (.undelegate 1 (-50)), .tx (.reinvest 1 (-150)),
        .tx (.withdraw 1 (-70))] ++ List.replicate 4 (.beginBlock 0))
    getD H.st.active 1 = 100 ∧ H.paid = [] ∧ H.rwPaid = [] ∧ H.st.balOf 1 = 900 ∧ H.st.balOf 0 = 100 := by
  decide

/-- the demo history pays 35 (= 30 + 5, two undelegations of one block) once at height 2 + 4, pays
    the reward withdrawal at the same height, keeps pool = Σ active + 7 donated -/
example :
    let H := run c4 (Hist.init [(1, 1000), (2, 1000), (3, 50)]) demoOps
    H.paid = [((6, 1), 35)] ∧ H.rwPaid = [((6, 2), 10)] ∧ H.st.balOf 0 = 376 ∧ sumV H.st.active = 369 ∧
      H.donated = 7 ∧ H.st.balOf 1 = 1000 - 100 - 3 + 35 ∧ H.height = 7 := by decide +kernel

example : ∃ s', undelegate c4 (run c4 (Hist.init [(1, 1000)]) [.beginBlock 0, .tx (.delegate 1 100)]).st 1 1 30
    = .ok s' := ⟨_, rfl⟩

example : ∃ s s' : St Nat, withdraw c4 s 1 1 5 = .ok s' :=
  ⟨{ St.empty [] with rw := [(1, 9)] }, _, rfl⟩

end OLP.Props.C12
