/-
  C15 — Cross-chain lock/redeem: threshold-gated, exactly-once mint and refund.

  Property theorems only (helper lemmas: OLP/Eth/Tracker.lean, Effect.lean, Lemmas.lean).  All statements are about the
  executable model `OLP.Eth` (OLP/Eth/Model.lean), a port of data/ethereum/tracker.go,
  action/eth/{ext_lock,ext_redeem,ext_ERC20Lock,ext_ERC20redeem,check_finalty}.go,
  event/eth_{lock,redeem}_transitions.go and app/controller.go doEthTransitions, which the
  `ethtrk` correspondence engine compares with the real application on every run.

  Vocabulary: `run c St.empty ops` executes an arbitrary list of transactions and block ends from
  the empty state and returns the final state and the ghost list of value movements
  (`Event.mint/refund/debit/xfer`); `mintCount n evs` / `refundCount n evs` count the mints /
  refunds for the external transaction (tracker name) `n`; `TwoThirds c ops n ok` says that
  pairwise different recorded witnesses, more than two thirds of the witness list, each sent a
  report with verdict `ok` for `n` somewhere in `ops`.  The counts, `TwoThirds`, `St.knows`, `circ`,
  `Op.avoids` and the example histories are defined in OLP/Eth/Lemmas.lean; `Op.info`, `St.WF` in Effect.lean.

  History: three points of the property were false of the code as first read (mint credited the
  report's `Locker`; runERC20Lock had no existence check; runERC20Reddem ignored the failed store).
  All were confirmed on the implementation by this slice and repaired in /repo (0a509b2, 9de5f06,
  efdfa81); the model follows the repaired code and `mint_to_submitter`, `mint_at_most_once` and
  `same_external_tx_one_tracker` are now proved at full strength, with the former counterexample
  histories kept as regression examples.  One `_partial` theorem remains
  (`supply_eq_circulation_partial`), with the reason in a comment.
-/
import OLP.Eth.Lemmas

namespace OLP.Props.C15
open OLP OLP.Eth

/-! ## 1. Votes: only the slot of the matching witness, only once -/

/-- An accepted vote either changes nothing or fills the *empty* slot `idx`, and then the sender
    is the witness recorded at that very index.  (AddVote) -/
theorem vote_only_own_slot_once {t t' : Tracker} {a : Addr} {idx : Int} {v : Bool} (wf : t.WF)
    (h : addVote t a idx v = .ok t') :
    t' = t ∨ (∃ i : Nat, idx = (i : Int) ∧ t.witnesses[i]? = some a ∧ t.votes[i]? = some 0 ∧
      t' = { t with votes := t.votes.set i (if v then 1 else 2) }) :=
  addVote_ok_cases wf h

theorem nonwitness_vote_does_not_count {t t' : Tracker} {a : Addr} {idx : Int} {v : Bool} (wf : t.WF)
    (ha : a ∉ t.witnesses) (h : addVote t a idx v = .ok t') : t' = t := by
  rcases addVote_ok_cases wf h with e | ⟨i, _, hw, _, _⟩
  · exact e
  · exact absurd (List.mem_of_getElem? hw) ha

theorem wrong_index_does_not_count {t t' : Tracker} {a w : Addr} {i : Nat} {v : Bool} (wf : t.WF)
    (hw : t.witnesses[i]? = some w) (hne : w ≠ a) (h : addVote t a (i : Int) v = .ok t') : t' = t := by
  rcases addVote_ok_cases wf h with e | ⟨j, hj, hw', _, _⟩
  · exact e
  · cases Int.natCast_inj.mp hj
    exact absurd (Option.some.inj (hw.symm.trans hw')) hne

theorem second_vote_refused {t : Tracker} {a : Addr} {i : Nat} {x : Nat} (idx : Int) (v : Bool)
    (hi : firstIdx t.witnesses a = some i) (hx : t.votes[i]? = some x) (hpos : x > 0)
    (hidx : idx < (t.witnesses.length : Int)) : addVote t a idx v = .err := by
  simp [addVote, Int.not_le.mpr hidx, hi, hx, hpos]

theorem yes_count_monotone {t t' : Tracker} {a : Addr} {idx : Int} {v : Bool} (wf : t.WF)
    (h : addVote t a idx v = .ok t') : t.yes ≤ t'.yes ∧ (t.yes < t'.yes → v = true) :=
  (addVote_ok_counts wf h).1

theorem no_count_monotone {t t' : Tracker} {a : Addr} {idx : Int} {v : Bool} (wf : t.WF)
    (h : addVote t a idx v = .ok t') : t.no ≤ t'.no ∧ (t.no < t'.no → v = false) :=
  (addVote_ok_counts wf h).2.1

/-- `Finalized`/`Failed` need floor(2n/3)+1 votes: strictly more than two thirds, and minimal -/
theorem threshold_is_more_than_two_thirds (t : Tracker) :
    2 * t.witnesses.length < 3 * t.threshold ∧ 3 * (t.threshold - 1) ≤ 2 * t.witnesses.length ∧
    (t.finalized = true ↔ t.threshold ≤ t.yes) ∧ (t.failedV = true ↔ t.threshold ≤ t.no) :=
  ⟨(threshold_more_than_two_thirds t).1, (threshold_more_than_two_thirds t).2,
   decide_eq_true_iff, decide_eq_true_iff⟩

theorem never_both_decided (t : Tracker) (wf : t.WF) : ¬ (t.finalized = true ∧ t.failedV = true) :=
  not_finalized_and_failed t wf.len

/-- on a well-formed record a non-negative VoteIndex never panics (the negative index does: C18) -/
theorem vote_never_panics {t : Tracker} (wf : t.WF) (a : Addr) {idx : Int} (hidx : 0 ≤ idx) (v : Bool) :
    addVote t a idx v ≠ .panic := addVote_no_panic wf hidx

example : (newTracker .lock 1 7 40 false [11, 12, 13]).WF := ⟨by decide, by decide⟩
example : addVote (newTracker .lock 1 7 40 false [11, 12, 13]) 12 1 true =
    .ok { newTracker .lock 1 7 40 false [11, 12, 13] with votes := [0, 1, 0] } := by decide
example : addVote (newTracker .lock 1 7 40 false [11, 12, 13]) 12 0 true =
    .ok (newTracker .lock 1 7 40 false [11, 12, 13]) := by decide          -- wrong index: no-op
example : addVote (newTracker .lock 1 7 40 false [11, 12, 13]) 55 1 true =
    .ok (newTracker .lock 1 7 40 false [11, 12, 13]) := by decide          -- stranger: no-op
example : addVote { newTracker .lock 1 7 40 false [11, 12, 13] with votes := [0, 2, 0] } 12 1 true = .err := by
  decide                                                       -- second vote refused
example : addVote (newTracker .lock 1 7 40 false [11, 12, 13]) 12 (-1) true = .panic := by decide

/-! ## 2. Reachable states are well formed; the block end never panics and moves no value -/

/-- every state reachable from the empty state is well formed: one vote slot per witness, the
    witness list is the genesis list, a finalized record is Released, no record is ever in the
    state `Finalized` (whose next step, MINTING / BURN, is not a registered transition) -/
theorem wf_reachable {c : Cfg} (hc : c.WF) (ops : List Op) : St.WF c (run c St.empty ops).1 :=
  (run_invD hc ops St.empty (invD_empty c)).wf

/-- doEthTransitions never hits the unregistered transition and never dereferences a missing
    tracker, for every set of distinct ongoing names the iteration yields (since 7ff9062 there is no
    job-store behaviour left to quantify over) -/
theorem endBlock_never_panics {c : Cfg} (hc : c.WF) (ops : List Op) (ns : List Name) (hnd : ns.Nodup)
    (hin : ∀ n ∈ ns, has (run c St.empty ops).1.ongoing n = true) :
    (step c (run c St.empty ops).1 (.endBlock ns)).res ≠ .panic := by
  obtain ⟨s', h⟩ := endNames_some ns (wf_reachable hc ops) hnd hin
  simp [step, h]

/-- The block-end step is a function of chain state only (repair 7ff9062; this was suspect S3, which
    made a restarted witness diverge): its only inputs are the state and the names the iteration of
    the ongoing store yields — the keys of the committed tree, chain state as well.  There is no
    witness-role or job-store input any more, and not even the configuration matters.  That the
    implementation is such a function is what the engine checks: the same model agrees with witness
    and non-witness nodes and with nodes whose witness role flips mid-history, so that their job
    store lacks the jobs. -/
theorem block_end_is_a_function_of_chain_state (c c' : Cfg) (s : St) (ns : List Name) :
    step c s (.endBlock ns) = step c' s (.endBlock ns) := rfl

theorem transition_depends_on_record_only (t u : Tracker) (h1 : t.typ = u.typ) (h2 : t.state = u.state)
    (h3 : t.votes = u.votes) (h4 : t.witnesses = u.witnesses) :
    (transition t = .none ↔ transition u = .none) ∧ (transition t = .toPassed ↔ transition u = .toPassed) ∧
    (transition t = .toFailed ↔ transition u = .toFailed) ∧ (transition t = .panic ↔ transition u = .panic) := by
  have hy : t.yes = u.yes := by simp [Tracker.yes, h3]
  have hn : t.no = u.no := by simp [Tracker.no, h3]
  have hf : t.finalized = u.finalized := by unfold Tracker.finalized Tracker.threshold; rw [hy, h4]
  unfold transition
  rw [h1, h2, hy, hn, hf]
  cases u.typ.isLock <;> cases u.state <;> simp <;> split <;> simp

/-- no wrapped balance changes at the block end (in particular nothing is minted there) -/
theorem block_end_moves_no_value (c : Cfg) (s : St) (ns : List Name) :
    (step c s (.endBlock ns)).st.bal = s.bal ∧ (step c s (.endBlock ns)).ev = [] := by
  simp only [step]
  split
  · exact ⟨rfl, rfl⟩
  · next h => exact ⟨endNames_bal _ h, rfl⟩

/-- after the block end no visited tracker is left Released or Failed in the ongoing store -/
theorem block_end_archives_every_decided_tracker {c : Cfg} (hc : c.WF) (ops : List Op) (ns : List Name)
    (hnd : ns.Nodup) (hin : ∀ n ∈ ns, has (run c St.empty ops).1.ongoing n = true) (n : Name) (hn : n ∈ ns)
    (t : Tracker) (h : alookup n (step c (run c St.empty ops).1 (.endBlock ns)).st.ongoing = some t) :
    t.state ≠ .released ∧ t.state ≠ .failed := by
  obtain ⟨s', hs⟩ := endNames_some ns (wf_reachable hc ops) hnd hin
  simp only [step, hs] at h
  have key : ¬ t.decided := fun hd => (endNames_decided ns (wf_reachable hc ops) hs n t h hd).1 hn
  exact ⟨fun e => key (Or.inl e), fun e => key (Or.inr e)⟩

/-- Cleanup: a Released record is moved to the passed store (cleaned) and leaves the ongoing store -/
theorem cleanup_moves_released {s : St} {t : Tracker} {n : Name}
    (hget : alookup n s.ongoing = some t) (hst : t.state = .released) :
    endOne s n = some { s with passed := upsert s.passed n t.clean, ongoing := aerase s.ongoing n } := by
  unfold endOne; rw [hget]; simp only
  rw [transition_released hst]

/-- CleanupFailed: a Failed record is moved to the failed store -/
theorem cleanup_moves_failed {s : St} {t : Tracker} {n : Name}
    (hget : alookup n s.ongoing = some t) (hst : t.state = .failed) :
    endOne s n = some { s with failed := upsert s.failed n t.clean, ongoing := aerase s.ongoing n } := by
  unfold endOne; rw [hget]; simp only
  rw [transition_failed hst]

example : has (run exCfg St.empty exHonest).1.passed 7 = true ∧ has (run exCfg St.empty exHonest).1.ongoing 7 = false := by
  decide
-- the hypotheses of `endBlock_never_panics` / `block_end_archives_every_decided_tracker` hold on a reachable state
example : [7].Nodup ∧ (∀ n ∈ [7], has (run exCfg St.empty (exHonest.take 4)).1.ongoing n = true) ∧
    (step exCfg (run exCfg St.empty (exHonest.take 4)).1 (.endBlock [7])).res = .ok "end" := by decide
-- a Released record: the hypotheses of `cleanup_moves_released`
example : (alookup 7 (run exCfg St.empty (exHonest.take 4)).1.ongoing).map (·.state) = some .released := by decide

/-! ## 3. Mint: only after more than two thirds reported success, exactly the locked amount, to the submitter -/

/-- Every mint of every history is justified by the history: pairwise different recorded witnesses,
    more than two thirds of the list, each reported success for this tracker (so reports of
    non-witnesses, repeated reports and reports under a wrong index did not count); and the
    beneficiary itself submitted a lock of this external transaction with exactly the minted amount
    and currency. -/
theorem mint_requires_two_thirds_and_locked_amount {c : Cfg} (hc : c.WF) (ops : List Op)
    (n : Name) (to : Addr) (cur amt : Nat) (h : Event.mint n to cur amt ∈ (run c St.empty ops).2) :
    TwoThirds c ops n true ∧
    (∃ op ∈ ops, ∃ typ, op.info = .sub typ to n amt ∧ typ.isLock = true ∧ typ.cur = cur) :=
  (run_invH hc ops St.empty [] [] (invH_empty c)).mints n to cur amt h

/-- every mint goes to an account that submitted the lock, in exactly the locked amount (full
    strength since repair 0a509b2) -/
theorem mint_to_submitter {c : Cfg} (hc : c.WF) (ops : List Op)
    (n : Name) (to : Addr) (cur amt : Nat) (h : Event.mint n to cur amt ∈ (run c St.empty ops).2) :
    ∃ op ∈ ops, ∃ typ, op.info = .sub typ to n amt ∧ typ.isLock = true ∧ typ.cur = cur :=
  (mint_requires_two_thirds_and_locked_amount hc ops n to cur amt h).2

theorem report_ignores_the_locker_field (c : Cfg) (s : St) (n : Name) (l1 l2 voter : Addr) (idx : Int) (ok : Bool) :
    report c s n l1 voter idx ok = report c s n l2 voter idx ok := rfl

theorem mint_credits_the_tracker_owner {c : Cfg} (hc : c.WF) {s : St} (wf : St.WF c s) (n : Name)
    (locker voter : Addr) (idx : Int) (ok : Bool) (m : Name) (to : Addr) (cur amt : Nat)
    (h : Event.mint m to cur amt ∈ (report c s n locker voter idx ok).ev) :
    m = n ∧ ∃ t, alookup n s.ongoing = some t ∧ to = t.owner ∧ amt = t.amount := by
  have he := report_eff hc wf n locker voter idx ok
  generalize (report c s n locker voter idx ok).st = s' at he
  generalize (report c s n locker voter idx ok).ev = ev at he h
  cases he with
  | noop | toPassed | toFailed => cases h
  | create _ _ _ _ _ _ _ hi | xfer _ _ _ _ _ hi => cases hi
  | upd n' t X b' ev u pay =>
    cases pay with
    | none => cases h
    | refund => cases List.mem_singleton.mp h
    | mint hf hXf hl =>
      cases List.mem_singleton.mp h
      -- a mint needs a vote that counted, and that vote names the report's tracker
      rcases u.hvs with e | ⟨l', w, i, ok', hi, _⟩
      · rw [u.hX, e] at hXf; exact nomatch hf.symm.trans hXf
      · cases hi; exact ⟨rfl, t, u.hget, rfl, rfl⟩

/-- REGRESSION EXAMPLE (was the counterexample of KF-C15-1, replayed on the implementation as a
    scripted scenario): account 1 locks 40 wei; the crossing success report names account 2;
    account 1 is credited, account 2 gets nothing. -/
theorem lying_report_is_harmless :
    (run exCfg St.empty exLiar).2 = [.mint 7 1 0 40] ∧
    balGet (run exCfg St.empty exLiar).1.bal 1 0 = 40 ∧ balGet (run exCfg St.empty exLiar).1.bal 2 0 = 0 := by
  decide

example : (run exCfg St.empty exHonest).2 = [.mint 7 1 0 40] := by decide

/-! ## 4. Mint at most once; one tracker per external transaction -/

/-- at most one mint per external transaction, for every history (full strength since repair
    9de5f06) -/
theorem mint_at_most_once {c : Cfg} (hc : c.WF) (ops : List Op) (n : Name) :
    mintCount n (run c St.empty ops).2 ≤ 1 :=
  le_one_of_once ((run_invM hc ops St.empty [] (invM_empty c)).minted n)

theorem never_ongoing_and_completed {c : Cfg} (hc : c.WF) (ops : List Op) (n : Name) :
    ¬ (has (run c St.empty ops).1.ongoing n = true ∧ has (run c St.empty ops).1.passed n = true) :=
  fun h => nomatch (((run_invD hc ops St.empty (invD_empty c)).dis n).1 h.1).symm.trans h.2

/-- at every reachable state an external transaction backs at most one tracker record across the
    three stores (full strength since repairs 9de5f06 and efdfa81, which a freshness hypothesis for ERC20
    submissions stood in for before) -/
theorem same_external_tx_one_tracker {c : Cfg} (hc : c.WF) (ops : List Op) (n : Name) :
    ¬ (has (run c St.empty ops).1.ongoing n = true ∧ has (run c St.empty ops).1.passed n = true) ∧
    ¬ (has (run c St.empty ops).1.ongoing n = true ∧ has (run c St.empty ops).1.failed n = true) ∧
    ¬ (has (run c St.empty ops).1.passed n = true ∧ has (run c St.empty ops).1.failed n = true) := by
  have d := (run_invD hc ops St.empty (invD_empty c)).dis n
  exact ⟨(fun h => nomatch (d.1 h.1).symm.trans h.2), (fun h => nomatch (d.2.1 h.1).symm.trans h.2),
    (fun h => nomatch (d.2.2 h.1).symm.trans h.2)⟩

/-- REGRESSION EXAMPLE (was the counterexample for the hypothesis runERC20Reddem forced, replayed on
    the implementation as a scripted scenario): after a failed ETH redeem of external transaction 9
    an ERC20 redeem carrying the same transaction is refused; 9 stays in the failed store only and
    no token is debited. -/
theorem erc20_redeem_after_failed_redeem_is_refused :
    has (run exCfg St.empty exTwoRecords).1.ongoing 9 = false ∧ has (run exCfg St.empty exTwoRecords).1.failed 9 = true ∧
    balGet (run exCfg St.empty exTwoRecords).1.bal 1 1 = 30 ∧ refundCount 9 (run exCfg St.empty exTwoRecords).2 = 1 := by
  decide +kernel

theorem duplicate_lock_rejected (c : Cfg) (s : St) (erc : Bool) (pre : Nat) (l : Addr) (n : Name) (a : Nat)
    (h : has s.ongoing n = true ∨ has s.passed n = true) :
    ∃ r, step c s (.lock erc pre l n a) = failOut s r := by
  rcases lock_cases c s erc pre l n a with e | ⟨h1, h2, _⟩
  · exact e
  · exact h.elim (fun h => nomatch h1.symm.trans h) (fun h => nomatch h2.symm.trans h)

theorem duplicate_redeem_rejected (c : Cfg) (s : St) (erc : Bool) (pre : Nat) (tt : Bool) (o : Addr) (n : Name)
    (a : Nat) (h : s.knows n = true) : ∃ r, step c s (.redeem erc pre tt o n a) = failOut s r := by
  rcases redeem_cases c s erc pre tt o n a with e | ⟨_, _, _, _, _, h1, h2, h3, _⟩
  · exact e
  · rw [St.knows, h1, h2, h3] at h; cases h

/-- the existence checks of ETH_LOCK: while the external transaction backs an ongoing or a completed
    tracker, a second submission is rejected and changes nothing (any state, any submitter) -/
theorem duplicate_eth_lock_rejected (c : Cfg) (s : St) (pre : Nat) (l : Addr) (n : Name) (a : Nat)
    (h : has s.ongoing n = true ∨ has s.passed n = true) :
    (step c s (.lock false pre l n a)).st = s ∧ (step c s (.lock false pre l n a)).ev = [] ∧
    ∃ r, (step c s (.lock false pre l n a)).res = .fail r :=
  failOut_fields (duplicate_lock_rejected c s false pre l n a h)

/-- the same for ERC20_LOCK (repair 9de5f06): a resubmission changes nothing and moves no value -/
theorem duplicate_erc20_lock_rejected (c : Cfg) (s : St) (pre : Nat) (l : Addr) (n : Name) (a : Nat)
    (h : has s.ongoing n = true ∨ has s.passed n = true) :
    (step c s (.lock true pre l n a)).st = s ∧ (step c s (.lock true pre l n a)).ev = [] ∧
    ∀ b, (step c s (.lock true pre l n a)).res ≠ .ok b :=
  let ⟨h1, h2, _, h3⟩ := failOut_fields (duplicate_lock_rejected c s true pre l n a h)
  ⟨h1, h2, fun _ e => nomatch h3.symm.trans e⟩

/-- the existence checks of ETH_REDEEM cover all three stores -/
theorem duplicate_eth_redeem_rejected (c : Cfg) (s : St) (pre : Nat) (tt : Bool) (o : Addr) (n : Name) (a : Nat)
    (h : s.knows n = true) :
    (step c s (.redeem false pre tt o n a)).st = s ∧ (step c s (.redeem false pre tt o n a)).ev = [] ∧
    ∃ r, (step c s (.redeem false pre tt o n a)).res = .fail r :=
  failOut_fields (duplicate_redeem_rejected c s false pre tt o n a h)

/-- the existence checks of ERC20_REDEEM now cover all three stores as well -/
theorem duplicate_erc20_redeem_rejected (c : Cfg) (s : St) (pre : Nat) (tt : Bool) (o : Addr) (n : Name) (a : Nat)
    (h : s.knows n = true) :
    (step c s (.redeem true pre tt o n a)).st = s ∧ (step c s (.redeem true pre tt o n a)).ev = [] ∧
    ∃ r, (step c s (.redeem true pre tt o n a)).res = .fail r :=
  failOut_fields (duplicate_redeem_rejected c s true pre tt o n a h)

/-- REGRESSION EXAMPLE (was the counterexample of KF-C15-2, replayed on the implementation as a
    scripted scenario): the ERC20 lock transaction 8 is resubmitted after it completed; it is
    refused, the later reports find no tracker, 30 tokens were minted once. -/
theorem erc20_lock_resubmission_is_refused :
    mintCount 8 (run exCfg St.empty exDoubleMint).2 = 1 ∧
    balGet (run exCfg St.empty exDoubleMint).1.bal 1 1 = 30 ∧
    has (run exCfg St.empty exDoubleMint).1.ongoing 8 = false ∧ has (run exCfg St.empty exDoubleMint).1.passed 8 = true := by
  decide

example : mintCount 7 (run exCfg St.empty exRefund).2 = 1 := by decide +kernel
-- the hypotheses of the rejection theorems hold on reachable states (ongoing, then completed)
example : has (run exCfg St.empty (exHonest.take 2)).1.ongoing 7 = true ∧ has (run exCfg St.empty exHonest).1.passed 7 = true ∧
    (step exCfg (run exCfg St.empty exHonest).1 (.lock false 0 2 7 40)).res = .fail "exists" ∧
    (step exCfg (run exCfg St.empty exHonest).1 (.lock true 0 2 7 40)).res = .fail "exists" ∧
    (run exCfg St.empty exHonest).1.knows 7 = true ∧
    (step exCfg (run exCfg St.empty exHonest).1 (.redeem false 0 false 1 7 5)).res = .fail "exists" := by decide +kernel

/-! ## 5. Redeem: debit with the tracker, refund once, to the owner, only after two thirds said no -/

/-- An accepted redeem (ETH or ERC20) debits the owner and the supply counter by exactly the
    redeemed amount in the very step that creates the tracker; a rejected one changes nothing: in
    no state does a redeem tracker exist whose tokens were not debited. -/
theorem redeem_debits_before_tracker (c : Cfg) (s : St) (erc : Bool) (pre : Nat) (tt : Bool) (o : Addr) (n : Name) (a : Nat) :
    let out := step c s (.redeem erc pre tt o n a)
    (out.st = s ∧ out.ev = []) ∨
    (∃ b1, balSub s.bal o (subTyp true erc).cur a = some b1 ∧
       balSub b1 c.supply (subTyp true erc).cur a = some out.st.bal ∧
       out.ev = [.debit n o (subTyp true erc).cur a] ∧
       alookup n out.st.ongoing = some (newTracker (subTyp true erc) o n a (erc && tt) c.witnesses) ∧
       (a : Int) ≤ balGet s.bal o (subTyp true erc).cur) := by
  intro out
  rcases redeem_cases c s erc pre tt o n a with ⟨r, e⟩ | ⟨b1, b2, tag, hb1, hb2, _, _, _, e⟩ <;>
    rw [show out = _ from e]
  · exact .inl ⟨rfl, rfl⟩
  · exact .inr ⟨b1, hb1, hb2, rfl, alookup_upsert_self .., (balSub_some hb1).1⟩

theorem refund_at_most_once {c : Cfg} (hc : c.WF) (ops : List Op) (n : Name) :
    refundCount n (run c St.empty ops).2 ≤ 1 :=
  le_one_of_once ((run_invR hc ops St.empty [] (invR_empty c)).refunded n)

/-- every refund is justified: more than two thirds of the recorded witnesses (pairwise different)
    reported failure, and it pays the account that submitted an ETH redeem of this external
    transaction exactly the redeemed amount, in ETH -/
theorem refund_requires_two_thirds_no_and_pays_owner {c : Cfg} (hc : c.WF) (ops : List Op)
    (n : Name) (to : Addr) (cur amt : Nat) (h : Event.refund n to cur amt ∈ (run c St.empty ops).2) :
    TwoThirds c ops n false ∧ (∃ op ∈ ops, op.info = .sub .redeem to n amt) ∧ cur = 0 :=
  (run_invH hc ops St.empty [] [] (invH_empty c)).refunds n to cur amt h

-- an accepted redeem: the second disjunct of `redeem_debits_before_tracker` occurs (balance 40 -> 15, counter 40 -> 15)
example : (step exCfg (run exCfg St.empty exHonest).1 (.redeem false 0 false 1 9 25)).ev = [.debit 9 1 0 25] ∧
    balGet (step exCfg (run exCfg St.empty exHonest).1 (.redeem false 0 false 1 9 25)).st.bal 1 0 = 15 ∧
    balGet (step exCfg (run exCfg St.empty exHonest).1 (.redeem false 0 false 1 9 25)).st.bal 99 0 = 15 := by decide
example : (run exCfg St.empty exRefund).2 = [.mint 7 1 0 40, .debit 9 1 0 25, .refund 9 1 0 25] ∧
    balGet (run exCfg St.empty exRefund).1.bal 1 0 = 40 ∧ has (run exCfg St.empty exRefund).1.failed 9 = true := by
  decide +kernel

/-! ## 6. Every counted vote was sent by its witness -/

/-- in every reachable state, every non-empty vote slot `j` of every ongoing tracker was filled by a
    report that the witness recorded at `j` sent for this tracker under index `j`, with the recorded
    verdict -/
theorem counted_votes_are_witness_reports {c : Cfg} (hc : c.WF) (ops : List Op) (n : Name) (t : Tracker)
    (h : alookup n (run c St.empty ops).1.ongoing = some t) (j v : Nat) (hv : t.votes[j]? = some v) (h0 : v ≠ 0) :
    ∃ l w ok, t.witnesses[j]? = some w ∧ v = (if ok then 1 else 2) ∧ Op.report n l w (j : Int) ok ∈ ops :=
  (run_invH hc ops St.empty [] [] (invH_empty c)).backed n t h j v hv h0

-- a reachable state with counted votes (slots 0 and 1 filled by witnesses 11 and 12)
example : (alookup 7 (run exCfg St.empty (exHonest.take 3)).1.ongoing).map (·.votes) = some [1, 1, 0] := by decide

theorem tracker_comes_from_submission {c : Cfg} (hc : c.WF) (ops : List Op) (n : Name) (t : Tracker)
    (h : alookup n (run c St.empty ops).1.ongoing = some t) :
    ∃ op ∈ ops, op.info = .sub t.typ t.owner n t.amount :=
  (run_invH hc ops St.empty [] [] (invH_empty c)).origin n t h

/-! ## 7. The supply counter equals the wrapped tokens in circulation -/

/-
  FULL STATEMENT: the counter equals the circulation after every history.  Since repair 0a509b2 a
  report can no longer touch it (see the regression example below).  A hypothesis is still forced, but by the model's
  scope rather than by a defect: the model has no signature / validation layer, so nothing in it
  stops a history in which the supply address itself submits a lock or redeem, or sends or receives
  a SEND; then the counter's own record is also a holder's record and the equation cannot hold.  In
  the implementation nobody holds a key for that address (it is the raw bytes of the option string
  `TotalSupplyAddr`, 22 bytes in the devnet) and Send.Validate — now also run in DeliverTx — refuses
  a receiver that is not 20 bytes long; both are outside this slice (C03/C04).  Hypothesis:
  `Op.avoids c.supply` for every operation (it constrains submitters, senders and receivers only,
  no longer the report's `Locker`).
-/
theorem supply_eq_circulation_partial {c : Cfg} (hc : c.WF) (ops : List Op)
    (hav : ∀ op ∈ ops, op.avoids c.supply = true) (cur : Nat) :
    balGet (run c St.empty ops).1.bal c.supply cur = circ c.supply cur (run c St.empty ops).1.bal ∧
    (akeys (run c St.empty ops).1.bal).Nodup := by
  have I := run_invS hc ops St.empty (invS_empty c) hav
  exact ⟨Int.sub_eq_zero.mp (I.eq cur), I.nodup⟩

/-- REGRESSION EXAMPLE (was a counterexample of KF-C15-1): the crossing report names the supply
    address 99; the mint goes to account 1 and counter = circulation = 40; such a history satisfies
    the hypothesis of `supply_eq_circulation_partial` -/
theorem lying_report_cannot_touch_the_supply :
    let ops : List Op := [.lock false 0 1 7 40, .report 7 1 11 0 true, .report 7 1 12 1 true, .report 7 99 13 2 true]
    (∀ op ∈ ops, op.avoids exCfg.supply = true) ∧
    balGet (run exCfg St.empty ops).1.bal 99 0 = 40 ∧ circ 99 0 (run exCfg St.empty ops).1.bal = 40 := by
  decide

example : (∀ op ∈ exRefund, op.avoids exCfg.supply = true) ∧
    balGet (run exCfg St.empty exRefund).1.bal 99 0 = 40 ∧ circ 99 0 (run exCfg St.empty exRefund).1.bal = 40 := by
  decide +kernel

end OLP.Props.C15
