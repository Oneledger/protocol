import OLP.Gen.Funcs
import OLP.Base.Guard
import OLP.Stake.Basic

/-!
# C11 / C10 — the validator record's stake and power, tied to the source by translation (T2b)

`identity.calculatePower` is translated whole; the new stake of `HandleStake` / `handleUnstake` is
the translated assignment `amt`. The model's `powerOf` is the source's `calculatePower`, and the
record a stake writes carries the source's sum and its power; the difference an unstake writes
(`stakeAfterUnstake`) is evaluated on an example only.
-/

namespace OLP.Props.C11

open OLP.Stake
open OLP.Gen

theorem int64Of_is_wrap64 (x : Int) : int64Of x = Funcs.wrap64 x :=
  int64Of_eq x

theorem powerOf_is_source (staking : Int) : powerOf staking = Funcs.calculatePower staking := by
  unfold powerOf Funcs.calculatePower
  exact int64Of_is_wrap64 staking

theorem handleStake_record_is_source (s : St) (v d : Addr) (a : Int) (u : Bool) (h : Int) (r : VRec) (s' : St)
    (hr : s.vals v = some r) (hs : handleStake s v d a u h = some s') :
    ∃ r', s'.vals v = some r' ∧
      r'.staking = Funcs.stakeAfterStake r.staking a ∧
      r'.power = Funcs.calculatePower (Funcs.stakeAfterStake r.staking a) := by
  unfold handleStake at hs
  simp only [hr] at hs
  cases (of_guard hs).2
  exact ⟨_, upd_same .., rfl, powerOf_is_source _⟩

example : Funcs.calculatePower 18446744073709551617 = 1 := by decide
example : Funcs.stakeAfterUnstake 10 3 = 7 := by decide

end OLP.Props.C11
