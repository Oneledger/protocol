import OLP.Gen.Funcs
import OLP.Rewards.Lemmas

/-!
# C13 — the split of a block's reward never hands out more than it was given (over the GENERATED text)

Every statement here is about `OLP.Gen.Funcs.*`, the definitions regenerated from /repo's working
tree: the share of the delegation pool, the commission cut from it, the proposer's part of the
commission, the per-delegator and per-validator shares. With the constants the source has
(25 %, 20 %) each part is at most what it is cut from, and the floor-divided shares of any set of
participants whose weights sum to at most the divisor sum to at most the amount that is split. A
constant above 100, a swapped divisor or a share computed from the wrong base breaks a theorem here.
-/

namespace OLP.Props.C13

open OLP.Gen

theorem delegation_share_le_total (T D P : Int) (hT : 0 ≤ T) (hD : 0 ≤ D) (hDP : D ≤ P) (hP : 0 < P) :
    0 ≤ Funcs.delegationRewards T D P ∧ Funcs.delegationRewards T D P ≤ T :=
  mul_ediv_bounds hT hD hDP hP

theorem commission_chain (dr : Int) (h : 0 ≤ dr) :
    0 ≤ Funcs.delegationCommission dr ∧ Funcs.delegationCommission dr ≤ dr ∧
    0 ≤ Funcs.proposerReward (Funcs.delegationCommission dr) ∧
    Funcs.proposerReward (Funcs.delegationCommission dr) ≤ Funcs.delegationCommission dr := by
  obtain ⟨h1, h2, h3⟩ := Rewards.commission_bounds h
  exact ⟨Int.le_trans h1 h2, h3, h1, h2⟩

theorem delegator_credits_le_share (R D : Int) (amounts : List Int) (hR : 0 ≤ R) (hD : 0 < D)
    (hsum : amounts.sum ≤ D) :
    (amounts.map (fun a => Funcs.delegatorReward R a D)).sum ≤ R := by
  exact Rewards.sum_floor_shares_le R D amounts hR hD hsum

theorem validator_shares_le_total (T P : Int) (powers : List Int) (hT : 0 ≤ T) (hP : 0 < P)
    (hsum : powers.sum ≤ P) :
    (powers.map (fun p => Funcs.getRewardForValidator P p T)).sum ≤ T := by
  exact Rewards.sum_floor_shares_le T P powers hT hP hsum

/-- the per-block amount of a recalculation times the forecast number of blocks stays within what
    is left of the year -/
theorem per_block_times_blocks_le_left (left n : Int) (hl : 0 ≤ left) (hn : 0 < n) :
    0 ≤ Funcs.rewardPerBlock left n ∧ Funcs.rewardPerBlock left n * n ≤ left := by
  unfold Funcs.rewardPerBlock
  exact ⟨Int.ediv_nonneg hl (Int.le_of_lt hn), Int.ediv_mul_le left (Int.ne_of_gt hn)⟩

example : Funcs.delegationCommission 1000 = 250 ∧ Funcs.proposerReward 250 = 50 := by decide
example : (([7, 7, 7] : List Int).map (fun a => Funcs.delegatorReward 100 a 21)).sum = 99 := by decide

end OLP.Props.C13
