import OLP.Props.C05

/-!
# C05 — at-most-once down to the spelling of keys and signatures

`replay_any_encoding_noop_guarded` is generic in the type `P` a received byte string is parsed
into. Read with `P` = the JSON value, `Guarded` is the canonical-encoding guard. The defects
d4987f9, 9dae7fc, d0ea653 of /repo were second spellings INSIDE that value: the same
key as uncompressed point, the same signature with a byte after it or as (r, N−s), the same
signature entry under the other key algorithm that accepts the same key bytes. They are the same
theorem read at a coarser `P`: the AUTHORISATION a byte string carries — the signed content (type,
payload, fee, memo) and the addresses that signed it — with `spell` the one byte string the key
handlers accept for an authorisation. This file states that reading explicitly, so that the
assumption the signature layer has to meet is a named hypothesis (`OneSpelling`) and the
counterexample of a layer that does not meet it is a theorem about the same model.
-/

namespace OLP.Props.C05
open OLP OLP.KV OLP.Shell

variable {K V C E T H D : Type} [DecidableEq K] [DecidableEq V] [DecidableEq C] [DecidableEq H]
variable (cfg : Cfg K V) (hs : Handlers K V C E T H D) (e : E)

/-- every authorisation has ONE accepted spelling: a byte string that is not the spelling `spell`
    of the authorisation `auth` it carries is refused by Validate before anything runs -/
def OneSpelling {A : Type} (auth : T → A) (spell : A → T) (hs : Handlers K V C E T H D) : Prop :=
  Guarded auth spell hs

/-- At-most-once for any other spelling of the same authorisation. `t₁` was executed in the block
    `txs` and is the accepted spelling of its authorisation; `t₂` is ANY byte string that carries
    the same authorisation (same signed content, same signing addresses — whatever the encoding of
    the JSON, of the keys, of the signatures, whatever the algorithm tags). Delivered at any point
    of any later block it changes nothing and is answered with the recorded result (if it is `t₁`
    itself) or, being another byte string, with an index hit of its own or a refusal; the mempool
    check refuses it. -/
theorem replay_any_spelling_noop {A : Type} (auth : T → A) (spell : A → T)
    (h1 : OneSpelling auth spell hs) (n : Node K V C T H D) (txs : List T) (later : List (List T))
    (blk : List T) (k : Nat) (t₁ t₂ : T) (hm : t₁ ∈ txs) (hc : spell (auth t₁) = t₁)
    (hp : auth t₂ = auth t₁) :
    let n' := midBlock cfg hs e (execBlocks cfg hs e (execBlock cfg hs e n txs).1 later).1 blk k false
    let x := deliverTx cfg hs e n' t₂
    (x.1.tree = n'.tree ∧ x.1.dlv.cache = n'.dlv.cache ∧ x.1.dlv.gas = n'.dlv.gas ∧
     x.1.vol = n'.vol ∧ x.1.chk = n'.chk ∧ x.1.idx = n'.idx ∧ x.1.height = n'.height) ∧
    ((t₂ = t₁ ∧ ∃ r, lookupIdx (execBlock cfg hs e n txs).1.idx (hs.hash t₁) = some r ∧ x = (n', r)) ∨
     (t₂ ≠ t₁ ∧ ((∃ r, lookupIdx n'.idx (hs.hash t₂) = some r ∧ x = (n', r)) ∨
                 x.2 = { ok := false, data := none, gasUsed := 0 }))) ∧
    (checkTx cfg hs e n' t₂).2 = false :=
  replay_any_encoding_noop_guarded cfg hs e auth spell h1 n txs later blk k t₁ t₂ hm hc hp

/-! ### a signature layer with two spellings does not meet the hypothesis

Byte strings are pairs (authorisation, spelling tag); a handler set that accepts the tags 0 AND 1
(two key algorithms over the same key bytes, as SECP256K1 / BTCEC before d0ea653) is not
`OneSpelling` for any choice of `spell`, and the existing counterexample
`reencoded_replay_executes_twice` is what happens then. -/

def twoTagV (t : Nat × Nat) : Prog Nat Nat Nat Unit Unit :=
  if t.2 = 0 ∨ t.2 = 1 then .ret () else .fail

theorem two_spellings_not_one (hs' : Handlers Nat Nat Nat Unit (Nat × Nat) (Nat × Nat) Nat)
    (hv : hs'.validate = twoTagV) (spell : Nat → Nat × Nat) :
    ¬ OneSpelling (fun t : Nat × Nat => t.1) spell hs' := by
  intro h
  -- whichever spelling of authorisation 5 `spell` picks, one of (5,0), (5,1) is another one
  by_cases h0 : spell 5 = (5, 0)
  · have := h (5, 1) (by simp [h0])
    rw [hv] at this; simp [twoTagV] at this
  · have := h (5, 0) (by simpa using h0)
    rw [hv] at this; simp [twoTagV] at this

example : OneSpelling gdParse gdSer gdH := gdH_guarded

end OLP.Props.C05
