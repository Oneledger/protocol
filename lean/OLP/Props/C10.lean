/-
  C10 — Validator-set updates are well formed and follow the staking rule.

  All statements are about the executable model OLP/Elect/Model.lean (`elect` = GetEndBlockUpdate,
  `Heap` = container/heap on utils.PriorityQueue, `TM.apply` = validateValidatorUpdates +
  ValidatorSet.UpdateWithChangeSet, `step`/`run` = application and Tendermint over several blocks
  with the +2 delay), which the `elect` correspondence engine compares with the real code on every
  run.  The proofs are in OLP/Elect; so is what the statements name beyond the model: `electedRecs`
  (Election.lean), `TM.sumPow` (TM.lean), `Bound`, `Inv`, `BlockOK`, `GenesisOK` and the rest (Chain.lean).

  The defects found in the code against this property (known_findings.json, "fixed:" lines for C10)
  are repaired in /repo and the model follows the repaired code.  The former counterexamples are
  kept as regression examples with the repaired outcome; the engine replays the same histories on
  the real application (corpus/C10, scripted histories of harness/apph/elect.go).  Section 4 lists
  exactly what remains for Tendermint to accept every returned list.
-/
import OLP.Elect.Lemmas

namespace OLP.Props.C10
open OLP OLP.Elect

/-! ## 1. The queue: popping everything yields every element once, highest priority first -/

theorem heap_pop_sorted (l : List Item) :
    (Heap.drain l).Perm l ∧ (Heap.drain l).Pairwise (fun a b => a.prio ≥ b.prio) :=
  Heap.drain_spec l

/-- non-vacuity: seven elements with ties; the pop order below is also what the real
    `ValidatorQueue` returns (heap cases of the engine) -/
example : (Heap.drain [⟨0, 3⟩, ⟨1, 1⟩, ⟨2, 3⟩, ⟨3, 2⟩, ⟨4, 3⟩, ⟨5, 0⟩, ⟨6, 2⟩]).map (·.val) = [0, 4, 2, 3, 6, 1, 5] := by
  decide +kernel

/-! ## 2. The update list of one block -/

/-- a running example: five records, top count 2, minimum 5; `c` is malicious, `e` below the
    minimum, `d` active but beaten, `b` purged two blocks ago (guarded) -/
def ex : Input :=
  { height := 7, minSelf := 5, top := 2
    recs := [⟨10, 110, 0, 9⟩, ⟨20, 120, 0, 7⟩, ⟨30, 130, 0, 12⟩, ⟨40, 140, 0, 8⟩, ⟨50, 150, 0, 4⟩]
    lastActive := [10, 20, 40, 50], malicious := [30], purge := [(20, 5)], status := [(10, ⟨true, 2⟩)] }

example : (elect ex).updates = [⟨110, 0, 9⟩, ⟨140, 0, 8⟩, ⟨150, 0, 0⟩] ∧ (elect ex).purgeW = [(50, 7)] ∧
    (elect ex).activeCount = 2 := by decide +kernel

theorem updates_sorted_by_pubkey (inp : Input) :
    (elect inp).updates.Pairwise (fun a b => a.pub ≤ b.pub) := by
  by_cases h : 1 < inp.height
  · rw [elect_eq inp h]; exact (sortUpd_spec _).2
  · rw [elect_low inp h]; exact List.Pairwise.nil

/-- every positive-power update names a record of the previous version with at least the minimum
    self delegation that is not in the malicious set, and carries that record's power -/
theorem positive_update_rule (inp : Input) (u : Upd) (hu : u ∈ (elect inp).updates) (hp : 0 < u.power) :
    ∃ r ∈ inp.recs, r.pub = u.pub ∧ r.ktype = u.ktype ∧ r.power ≥ inp.minSelf ∧
      r.addr ∉ inp.malicious ∧ u.power = r.power := by
  rcases (mem_updates.mp hu).2 with ⟨r, hr, rfl⟩ | ⟨r, _, rfl⟩
  · obtain ⟨m, hm, hmal⟩ := mem_electedRecs hr
    exact ⟨r, m, rfl, rfl, hm, hmal, rfl⟩
  · exact absurd hp (Int.lt_irrefl 0)

example : ∃ u ∈ (elect ex).updates, 0 < u.power := ⟨⟨110, 0, 9⟩, by decide +kernel, by decide⟩

/-- at most `TopValidatorCount` positive updates per block -/
theorem at_most_top_count (inp : Input) :
    ((elect inp).updates.filter (fun u => decide (0 < u.power))).length ≤ inp.top.toNat := by
  by_cases h : 1 < inp.height
  · -- no removal is positive, and the elected records are a `take`
    have h2 : ((purged inp).map Rec.removal).filter (fun u => decide (0 < u.power)) = [] :=
      List.filter_eq_nil_iff.mpr fun a ha => by
        obtain ⟨r, _, rfl⟩ := List.mem_map.mp ha
        exact fun h => Int.lt_irrefl 0 (of_decide_eq_true h)
    rw [((updates_perm inp h).filter _).length_eq, List.filter_append, h2, List.append_nil]
    exact Nat.le_trans (List.length_filter_le _ _) (List.length_map (as := electedRecs inp) _ ▸ List.length_take_le _ _)
  · rw [elect_low inp h]; exact Nat.zero_le _

/-- higher stake is preferred: a positive update never has less power than an eligible record
    that no positive update names (`0 < minSelf`: positive updates are exactly the elected ones) -/
theorem prefers_higher_stake (inp : Input) (hn : (inp.recs.map (·.addr)).Nodup) (hmin : 0 < inp.minSelf)
    (u : Upd) (hu : u ∈ (elect inp).updates) (hp : 0 < u.power)
    (r' : Rec) (hr' : r' ∈ inp.recs) (he : r'.power ≥ inp.minSelf) (hm : r'.addr ∉ inp.malicious)
    (hout : ∀ u' ∈ (elect inp).updates, 0 < u'.power → u'.pub ≠ r'.pub) :
    u.power ≥ r'.power := by
  obtain ⟨h, hcase⟩ := mem_updates.mp hu
  rcases hcase with ⟨r, hr, rfl⟩ | ⟨r, _, rfl⟩
  · have hin := mem_eligInOrder inp hn hr' he hm
    rw [← List.take_append_drop inp.top.toNat (eligInOrder inp), List.mem_append] at hin
    rcases hin with hin | hin
    · -- r' itself is elected: then a positive update names it
      exact absurd rfl (hout r'.upd (mem_updates.mpr ⟨h, Or.inl ⟨r', hin, rfl⟩⟩) (Int.lt_of_lt_of_le hmin he))
    · exact (eligInOrder_sorted inp hn).rel_of_mem_take_of_mem_drop hr hin
  · exact absurd hp (Int.lt_irrefl 0)

/-- the two hypotheses hold of the running example, where `d` (power 8) wins the second seat over
    `b` (power 7) -/
example : (ex.recs.map (·.addr)).Nodup ∧ 0 < ex.minSelf := by decide

/-- a power-0 update names a record that was active in the last commit and whose last purge, if
    any, is more than two blocks old; its purge height is set to this block -/
theorem removal_only_last_active (inp : Input) (hmin : 0 < inp.minSelf)
    (u : Upd) (hu : u ∈ (elect inp).updates) (hz : u.power = 0) :
    ∃ r ∈ inp.recs, r.pub = u.pub ∧ r.addr ∈ inp.lastActive ∧ guarded inp r.addr = false ∧
      (r.addr, inp.height) ∈ (elect inp).purgeW := by
  obtain ⟨h, hcase⟩ := mem_updates.mp hu
  rcases hcase with ⟨r, hr, rfl⟩ | ⟨r, hr, rfl⟩
  · have := (mem_electedRecs hr).2.1
    exact absurd (show r.power = 0 from hz) (by omega)
  · obtain ⟨_, hla, hg⟩ := mem_purged hr
    exact ⟨r, mem_purged_recs hr, rfl, hla, hg, mem_purgeW.mpr ⟨h, r, hr, rfl⟩⟩

/-- the purge guard: once the removal of an address was emitted at height `h`, no election at
    heights `h+1`, `h+2` emits it again, whatever the records, votes and options are then -/
theorem removal_only_last_active_once (inp inp' : Input) (a : Nat)
    (hw : (a, inp.height) ∈ (elect inp).purgeW)
    (hkept : alookup a inp'.purge = some inp.height)
    (hlt : inp.height < inp'.height) (hle : inp'.height ≤ inp.height + 2) :
    ∀ p ∈ (elect inp').purgeW, p.1 ≠ a := by
  obtain ⟨h1, _⟩ := mem_purgeW.mp hw
  intro p hp e
  obtain ⟨_, r, hr, rfl⟩ := mem_purgeW.mp hp
  -- the purge of `inp` is less than three blocks old, so `a` is guarded in `inp'`
  refine Bool.false_ne_true ((mem_purged hr).2.2.symm.trans (guarded_iff.mpr ?_))
  rw [show r.addr = a from e, hkept, Option.getD_some]
  omega

/-- in the running example `b` (purged at 5) is not purged at 7 although it lost its seat -/
example : guarded ex 20 = true ∧ ∀ p ∈ (elect ex).purgeW, p.1 ≠ 20 := by decide +kernel

theorem no_duplicate_keys_of_distinct_keys (inp : Input) (hn : (inp.recs.map (·.addr)).Nodup)
    (hk : (inp.recs.map (·.pub)).Nodup) : ((elect inp).updates.map (·.pub)).Nodup := by
  by_cases h : 1 < inp.height
  · -- the updates carry the keys of the elected and purged records, which are distinct records
    rw [((updates_perm inp h).map (·.pub)).nodup_iff, List.map_append, List.map_map, List.map_map]
    show ((electedRecs inp).map (·.pub) ++ (purged inp).map (·.pub)).Nodup
    rw [← List.map_append]
    exact nodup_map_of_subset hk (nodup_of_nodup_map _ (elected_purged_addr_nodup inp hn)) fun r hr =>
      (List.mem_append.mp hr).elim (fun h => (mem_electedRecs h).1) mem_purged_recs
  · rw [elect_low inp h]; exact List.Pairwise.nil

/-- no key twice: a consequence of the key binding.  Since the repair STAKE only creates a record
    whose key is the ed25519 key of the validator address (`Bound`; for the genesis records it is a
    hypothesis on the genesis document, `GenesisOK`); `Inv.bound` (section 4) shows it holds for the
    records of every reachable state. -/
theorem no_duplicate_keys (addrOf : Nat → Nat) (inp : Input) (hn : (inp.recs.map (·.addr)).Nodup)
    (hb : Bound addrOf inp.recs) : ((elect inp).updates.map (·.pub)).Nodup := by
  refine no_duplicate_keys_of_distinct_keys inp hn (nodup_of_nodup_map addrOf ?_)
  rw [List.map_map, show inp.recs.map (addrOf ∘ (·.pub)) = inp.recs.map (·.addr) from List.map_congr_left hb]
  exact hn

example : (ex.recs.map (·.pub)).Nodup ∧ Bound (· - 100) ex.recs := by unfold Bound; decide

/-- the binding is needed (regression example of the repaired S16 defect, where a STAKE could
    carry another validator's key; today only a genesis document can do this): two records with one
    key are both elected -/
theorem duplicate_keys_possible :
    ∃ inp : Input, (inp.recs.map (·.addr)).Nodup ∧ ¬ ((elect inp).updates.map (·.pub)).Nodup :=
  ⟨{ height := 3, minSelf := 5, top := 4, recs := [⟨1, 77, 0, 8⟩, ⟨2, 99, 0, 12⟩, ⟨3, 77, 0, 10⟩]
     lastActive := [2, 3], malicious := [], purge := [], status := [] }, by decide, by decide +kernel⟩

/-- nobody eligible: no updates at all — the last set is kept (repair of "never emptying the set") -/
theorem nobody_elected_no_updates (inp : Input) (h : (elect inp).activeCount = 0) :
    (elect inp).updates = [] ∧ (elect inp).purgeW = [] := by
  by_cases hh : 1 < inp.height
  · rw [elect_eq inp hh] at h
    obtain ⟨hp, hu⟩ := elect_nobody inp (List.eq_nil_of_length_eq_zero (Int.ofNat_eq_zero.mp h))
    exact ⟨hu, by rw [elect_eq inp hh, hp]; rfl⟩
  · rw [elect_low inp hh]; exact ⟨rfl, rfl⟩

example : (elect { ex with minSelf := 100 }).activeCount = 0 := by decide +kernel

/-- a record is deleted only when the previous version had no power, the validator did not vote in
    the last commit, is not elected now, and its status has been inactive for more than two blocks -/
theorem deletion_rule (inp : Input) (hn : (inp.recs.map (·.addr)).Nodup) (a : Nat)
    (ha : a ∈ (elect inp).deleted) :
    a ∉ inp.lastActive ∧ a ∉ (electedRecs inp).map (·.addr) ∧
    (∃ r ∈ inp.recs, r.addr = a ∧ r.power ≤ 0) ∧
    ∃ x, alookup a inp.status = some x ∧ x.active = false ∧ x.height + 2 < inp.height :=
  deleted_facts inp hn ha

/-- non-vacuity: validator 50 unstaked everything, has been inactive since height 3, did not vote -/
example : (elect { height := 7, minSelf := 5, top := 2, recs := [⟨10, 110, 0, 9⟩, ⟨50, 150, 0, 0⟩]
                   lastActive := [10], malicious := [], purge := [(50, 3)]
                   status := [(10, ⟨true, 2⟩), (50, ⟨false, 3⟩)], cur := [(10, 9), (50, 0)] }).deleted = [50] := by
  decide

/-- … and a stake of the same block keeps the record -/
example : (elect { height := 7, minSelf := 5, top := 2, recs := [⟨10, 110, 0, 9⟩, ⟨50, 150, 0, 0⟩]
                   lastActive := [10], malicious := [], purge := [(50, 3)]
                   status := [(10, ⟨true, 2⟩), (50, ⟨false, 3⟩)], cur := [(10, 9), (50, 6)] }).deleted = [] := by
  decide

/-! ## 3. Frozen validators -/

/-- no positive update names a validator that is frozen in the previous block's records or was
    flagged in this BeginBlock (full strength since the repair: the frozen records are loaded
    before the height check of `CheckMaliciousValidators`) -/
theorem frozen_not_elected (inp : Input) (frozen flagged : List Nat)
    (hm : inp.malicious = maliciousSet frozen flagged)
    (u : Upd) (hu : u ∈ (elect inp).updates) (hp : 0 < u.power) :
    ∃ r ∈ inp.recs, r.pub = u.pub ∧ u.power = r.power ∧ r.addr ∉ frozen ∧ r.addr ∉ flagged := by
  obtain ⟨r, hr, e1, _, _, hmal, e2⟩ := positive_update_rule inp u hu hp
  rw [hm] at hmal
  exact ⟨r, hr, e1, e2, fun hf => hmal (List.mem_append_left _ hf), fun hf => hmal (List.mem_append_right _ hf)⟩

/-- regression example (`script-frozen-early`, formerly elected inside the first vote window):
    height 6, validator 40 frozen — only validator 10 is named -/
example : (elect { height := 6, minSelf := 5, top := 4, recs := [⟨10, 110, 0, 10⟩, ⟨40, 140, 0, 16⟩]
                   lastActive := [10, 40], malicious := maliciousSet [40] [], purge := [], status := [] }).updates
    = [⟨110, 0, 10⟩, ⟨140, 0, 0⟩] := by decide

/-! ## 4. Tendermint accepts the list

  What remains for `TM.apply` to accept every list the hook returns, exactly:
    (G) the genesis document (`GenesisOK`): every genesis stake record carries the ed25519 key of
        its own address, and every member of the genesis validator set has a stake record
        (`InitChain` checks only the latter);
    (H) three facts about the transaction handlers (`BlockOK.addrs/persist/keys`): records are
        keyed by address, no handler deletes a record, a new record comes from a STAKE whose key
        is the ed25519 key of the validator address and no writer changes the key of a record —
        read off the code and monitored by the engine on every block
        (`record-consensus-key-changed`, `unbound-consensus-key-staked`, the `del=` delta);
    (M) `0 < MinSelfDelegationAmount` (an elected record has positive power);
    (T) the total power stays within Tendermint's bound (stakes are bounded by the supply).
  Nothing else: in particular not that somebody is elected (no updates then), and removals are
  always members of the set they are applied to (`removals_name_members`). -/

/-- SINGLE BLOCK: the list is accepted by a set that contains every validator the list removes;
    the new set is the old one with the elected records written and the purged ones gone -/
theorem tm_accepts_single_block (addrOf : Nat → Nat) (inp : Input) (s : TM.VSet)
    (h : 1 < inp.height)
    (hn : (inp.recs.map (·.addr)).Nodup) (hb : Bound addrOf inp.recs)
    (hkt : ∀ r ∈ inp.recs, r.ktype = 0) (hmin : 0 < inp.minSelf)
    (hin : ∀ r ∈ purged inp, (alookup r.addr s).isSome)
    (hs : ∀ x ∈ s, 0 ≤ x.2)
    (htot : TM.total s + TM.sumPow (tmChanges addrOf (elect inp).updates) ≤ TM.maxTotal) :
    ∃ s', TM.apply s (tmChanges addrOf (elect inp).updates) = .ok s' ∧
      (∀ r ∈ purged inp, alookup r.addr s' = none) ∧
      (∀ r ∈ electedRecs inp, alookup r.addr s' = some r.power) ∧
      (∀ k, k ∉ (electedRecs inp).map (·.addr) → k ∉ (purged inp).map (·.addr) → alookup k s' = alookup k s) :=
  let ⟨s', ok, hA⟩ := elect_tm_ok addrOf inp s h hn hb hkt hmin hin hs htot
  ⟨s', ok, hA.removed, hA.written, hA.kept⟩

/-- the running example in front of a set that holds the four voters -/
example : TM.apply [(10, 9), (20, 7), (40, 8), (50, 4)] (tmChanges (· - 100) (elect ex).updates) =
    .ok [(10, 9), (20, 7), (40, 8)] := by decide +kernel

/-- MULTI BLOCK.  The invariant `Inv` (OLP/Elect/Chain.lean) holds after block 1 given (G), and
    every block that meets (H), (M), (T) is accepted and preserves it. -/
theorem inv_after_genesis (addrOf : Nat → Nat) (g : TM.VSet) (recs : List Rec)
    (hg : GenesisOK addrOf g recs) : Inv addrOf (startChain g recs) := by
  -- the three sets are the same, so nobody is in one and not in another
  have same : ∀ a {C : Prop}, (alookup a g).isSome → (alookup a g).isNone → C :=
    fun a _ h1 h2 => absurd h1 (isNone_iff_not_isSome.mp h2)
  exact ⟨Int.le_refl 2, fun a => same a, fun a => same a, fun a p h => (nomatch h), hg.pow, hg.addrs, hg.bound,
    hg.ktype, fun a => same a, fun a => same a,
    fun a h => h.elim (hg.members a) fun h => h.elim (hg.members a) (hg.members a)⟩

theorem removals_name_members (addrOf : Nat → Nat) (s : Chain) (b : BlockIn) (hI : Inv addrOf s) :
    ∀ r ∈ purged (inputOf s b), (alookup r.addr s.vN).isSome := purged_in_next_set hI b

theorem tm_accepts_step (addrOf : Nat → Nat) (s : Chain) (b : BlockIn) (hI : Inv addrOf s)
    (hB : BlockOK addrOf s b) : ∃ s', step addrOf s b = .ok s' ∧ Inv addrOf s' :=
  let ⟨_, ok, _, hI'⟩ := step_ok hI hB
  ⟨_, ok, hI'⟩

/-- every list of every history is accepted -/
theorem tm_accepts_all (addrOf : Nat → Nat) (g : TM.VSet) (recs : List Rec)
    (hg : GenesisOK addrOf g recs) (bs : List BlockIn) (hS : SideAll addrOf (startChain g recs) bs) :
    ∃ s', run addrOf (startChain g recs) bs = .ok s' ∧ Inv addrOf s' :=
  run_ok addrOf bs _ (inv_after_genesis addrOf g recs hg) hS

/-- in every reachable state the update list names no key twice -/
theorem no_duplicate_keys_reachable (addrOf : Nat → Nat) (s : Chain) (b : BlockIn) (hI : Inv addrOf s) :
    ((elect (inputOf s b)).updates.map (·.pub)).Nodup :=
  no_duplicate_keys addrOf (inputOf s b) hI.addrs hI.bound

/-- in every reachable state every member of a pending validator set has a stake record: the
    deletion of records without power spares whoever is in, or on its way into, the set -/
theorem members_keep_records (addrOf : Nat → Nat) (s : Chain) (hI : Inv addrOf s) (a : Nat)
    (h : (alookup a s.vP).isSome ∨ (alookup a s.vC).isSome ∨ (alookup a s.vN).isSome) :
    ∃ r ∈ s.recs, r.addr = a := hI.recd a h

/-- … said about the deletion itself: a record deleted by a block belongs to none of the sets of
    the next three blocks -/
theorem deletion_spares_pending_validators (addrOf : Nat → Nat) (s s' : Chain) (b : BlockIn)
    (hI : Inv addrOf s) (hB : BlockOK addrOf s b) (hs : step addrOf s b = .ok s') (a : Nat)
    (ha : a ∈ (elect (inputOf s b)).deleted) :
    (alookup a s'.vP).isNone ∧ (alookup a s'.vC).isNone ∧ (alookup a s'.vN).isNone := by
  obtain ⟨v, ok, hA, _⟩ := step_ok hI hB
  cases hs.symm.trans ok
  exact deleted_not_pending hI hA ha

/-- a three-validator chain (key = address + 100): records after block 1, then validator 3 drops
    from 14 to 6 in block 2 -/
def recsA : List Rec := [⟨1, 101, 0, 10⟩, ⟨2, 102, 0, 12⟩, ⟨3, 103, 0, 14⟩]
def recsB : List Rec := [⟨1, 101, 0, 10⟩, ⟨2, 102, 0, 12⟩, ⟨3, 103, 0, 6⟩]
def exBlocks : List BlockIn := [⟨recsB, [], 5, 2⟩, ⟨recsB, [], 5, 2⟩, ⟨recsB, [], 5, 2⟩]

/-- non-vacuity: the history is accepted; validator 1 is purged at height 2 (top count 2), comes
    back at height 3 when validator 3 has dropped to 6, and validator 3 is purged at height 3 -/
example : (run (· - 100) (startChain [(1, 10), (2, 12), (3, 14)] recsA) exBlocks).toOption.map
    (fun s => ([s.vP, s.vC, s.vN], s.purge)) =
    some ([[(2, 12), (3, 14)], [(1, 10), (2, 12)], [(1, 10), (2, 12)]], [(1, 2), (3, 3)]) := by decide +kernel

/-- regression example "never emptying the set" (`script-all-below-min`; formerly every member was
    removed and Tendermint answered "would result in empty set"): both validators drop below the
    minimum self delegation — no updates, the set stays -/
theorem all_below_minimum_keeps_the_set :
    (run id (startChain [(1, 10), (2, 10)] [⟨1, 1, 0, 10⟩, ⟨2, 2, 0, 10⟩])
      [⟨[⟨1, 1, 0, 4⟩, ⟨2, 2, 0, 4⟩], [], 5, 4⟩, ⟨[⟨1, 1, 0, 4⟩, ⟨2, 2, 0, 4⟩], [], 5, 4⟩]).toOption.map
      (fun s => s.vN) = some [(1, 10), (2, 10)] := by decide +kernel

/-- (G) is needed: a genesis record carrying another validator's key is elected with it and
    Tendermint answers "duplicate entry" (before the repair a STAKE could do the same) -/
theorem unbound_genesis_key_rejected :
    run id (startChain [(1, 10), (2, 12)] [⟨1, 1, 0, 10⟩, ⟨2, 2, 0, 12⟩, ⟨3, 1, 0, 8⟩])
      [⟨[⟨1, 1, 0, 10⟩, ⟨2, 2, 0, 12⟩, ⟨3, 1, 0, 8⟩], [], 5, 4⟩] = .error .duplicate := by decide

/-- (G) is needed: a secp256k1 genesis key ("is using pubkey secp256k1, which is unsupported for
    consensus") -/
theorem non_ed25519_genesis_key_rejected :
    run id (startChain [(1, 10), (2, 12)] [⟨1, 1, 0, 10⟩, ⟨2, 2, 0, 12⟩, ⟨3, 3, 1, 8⟩])
      [⟨[⟨1, 1, 0, 10⟩, ⟨2, 2, 0, 12⟩, ⟨3, 3, 1, 8⟩], [], 5, 4⟩] = .error .keyType := by decide

/-! ## 5. Convergence -/

/-- once the records stop changing (five quiet blocks: no transaction touches a record, the hook
    deletes none) the three pending sets are exactly the election of those records — from every
    state that satisfies the invariant, i.e. every reachable one, provided somebody is eligible
    (`hE`: Tendermint has no empty validator set; with nobody to elect the application keeps the
    last set, `nobody_elected_no_updates`). -/
theorem converges_within_5 (addrOf : Nat → Nat) (s0 : Chain) (b : BlockIn) (hI : Inv addrOf s0)
    (hS : QuietAll addrOf b s0 5) (hE : electionOf s0.recs b ≠ []) :
    ∃ s5, run addrOf s0 [b, b, b, b, b] = .ok s5 ∧ s5.recs = s0.recs ∧
      ∀ a, alookup a s5.vP = electionMap s0.recs b a ∧ alookup a s5.vC = electionMap s0.recs b a ∧
        alookup a s5.vN = electionMap s0.recs b a :=
  converge addrOf b 0 s0 hI hS hE

/-- non-vacuity: the example chain continued with quiet blocks converges to {1 ↦ 10, 2 ↦ 12} -/
example :
    let b : BlockIn := ⟨recsB, [], 5, 2⟩
    (run (· - 100) (startChain [(1, 10), (2, 12), (3, 14)] recsA) (exBlocks ++ [b, b, b, b, b])).toOption.map
      (fun s => [s.vP, s.vC, s.vN]) = some [[(1, 10), (2, 12)], [(1, 10), (2, 12)], [(1, 10), (2, 12)]] ∧
    electionMap recsB b 1 = some 10 ∧ electionMap recsB b 2 = some 12 ∧ electionMap recsB b 3 = none := by decide +kernel

/-- regression example (`script-stake-then-unstake-all`; formerly the record was deleted at the end
    of block 4 and the validator stayed in the set for ever): validator 3 stakes 8 in block 2, is
    elected at the end of block 3, unstakes everything in block 3.  Its record is kept, it enters
    the set at height 5, is purged at height 6 (gone from the set of block 8), and only at the end
    of block 9 — inactive for more than two blocks and out of the last commit — the record is
    deleted -/
theorem unstaked_validator_is_purged_then_deleted :
    let z0 : List Rec := [⟨1, 1, 0, 10⟩, ⟨2, 2, 0, 12⟩]
    let z8 : BlockIn := ⟨[⟨1, 1, 0, 10⟩, ⟨2, 2, 0, 12⟩, ⟨3, 3, 0, 8⟩], [], 5, 4⟩
    let zz : BlockIn := ⟨[⟨1, 1, 0, 10⟩, ⟨2, 2, 0, 12⟩, ⟨3, 3, 0, 0⟩], [], 5, 4⟩
    (run id (startChain [(1, 10), (2, 12)] z0) [z8, zz, zz, zz, zz]).toOption.map
      (fun s => ([s.vP, s.vC, s.vN], s.purge, s.recs.map (·.addr))) =
      some ([[(1, 10), (2, 12), (3, 8)], [(1, 10), (2, 12), (3, 8)], [(1, 10), (2, 12)]], [(3, 6)], [1, 2, 3]) ∧
    (run id (startChain [(1, 10), (2, 12)] z0) ([z8] ++ List.replicate 6 zz)).toOption.map
      (fun s => ([s.vP, s.vC, s.vN], s.recs.map (·.addr))) =
      some ([[(1, 10), (2, 12)], [(1, 10), (2, 12)], [(1, 10), (2, 12)]], [1, 2, 3]) ∧
    (run id (startChain [(1, 10), (2, 12)] z0) ([z8] ++ List.replicate 7 zz)).toOption.map
      (fun s => (s.next, s.recs.map (·.addr))) = some (10, [1, 2]) := by decide +kernel

end OLP.Props.C10
