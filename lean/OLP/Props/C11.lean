/-
  C11 — Stake lifecycle: unstaked funds unlock only after maturity, exactly once.

    "An amount staked with a validator can be withdrawn by its delegator only after it has been
     unstaked and the configured maturity period has elapsed; for every delegator the sum of
     what was ever withdrawn never exceeds what was staked minus penalties, nothing can be
     withdrawn or unstaked while the validator is frozen, and the validator's recorded stake
     always equals the sum of its delegators' locked amounts."

  All statements are about the executable model `OLP.Stake` (OLP/Stake/Model.lean), which the
  `stake` correspondence engine compares step by step with the real application on every run.

  A history is a list of blocks run from the empty state (`St.empty maturity`, height 0); every
  block is BeginBlock, any list of transactions (`Tx`: the three staking kinds *with their
  `Validate`*, genesis stake entries, and the environment: freeze / release / allegation request /
  maturity option change / any other balance movement), EndBlock with the verdicts and purges
  decided there, Commit.  Ghost accumulators (fields `g…` of the state) record what was staked,
  withdrawn, slashed, scheduled and unlocked; they are written by the model and never read by it.

  The vocabulary of the statements is defined in the modules of OLP/Stake: `sumL` (Basic); `RunOK`, a
  guard holds at every step of a history (Step); `NonNeg`, `GenesisSane` (NonNeg); `spentKeys`,
  `MatGuard` (Mat); `Rec`, `pendOf`, `RecGuard`, `EndGuard`, `PenOK` (Rec).

  The clauses, each proved as the property states it (model of /repo as repaired by 9ac9bcb,
  626f990, df2e1ab, 92417eb, d8b47b0, acb5e5c, ebb3d1d, 7abde80, d2f2af2):
    1. frozen guard: for the named validator (`frozen_blocks_all_three`) and for the stake account
       of any frozen validator the store iteration enumerates, whatever validator the message
       names (`frozen_owner_cannot_withdraw`);
    2. maturity, exactly once: under the well-formedness of the maturity option
       (`unlock_exactly_at_maturity`);
    3. withdrawn ≤ staked − penalties: for sane genesis amounts (`GenesisOK`); amounts outside int64
       are refused by `Validate` (necessity: `int64_guard_is_necessary`);
    4. validator record = Σ locked amounts: under the well-formedness hypotheses `RecordsOK`, none
       forced by a defect (`tot_eq_sum_vd`, `eff_eq_sum_vd`, `record_matches_validator`,
       `only_stake_address_holds_stake`; regression examples `restake_after_zero_keeps_record`,
       `slash_survives_purge`, `slash_charges_current_stake_address`).
-/
import OLP.Stake.Lemmas

namespace OLP.Props.C11
open OLP.Stake

/-- the configuration the harness uses (penalty 30 %) -/
def cfg30 : Cfg := { pen := penalty30 }

/-! ## 1. Nothing can be staked, unstaked or withdrawn while the named validator is frozen -/

theorem frozen_blocks_all_three (s : St) (v d : Addr) (a : Int) (hf : s.frozen v = true) :
    ((stepTx s (.stake v d a)).1 = s ∧ (stepTx s (.stake v d a)).2 ≠ .ok) ∧
    ((stepTx s (.unstake v d a)).1 = s ∧ (stepTx s (.unstake v d a)).2 ≠ .ok) ∧
    ((stepTx s (.withdraw v d a)).1 = s ∧ (stepTx s (.withdraw v d a)).2 ≠ .ok) :=
  ⟨(refused_or_accepted s _).resolve_right fun g => g.frozen hf,
    (refused_or_accepted s _).resolve_right fun ⟨_, g⟩ => g.frozen hf,
    (refused_or_accepted s _).resolve_right fun g => g.frozen hf⟩

/-- a pending allegation request blocks unstaking — since d2f2af2 also a request opened earlier
    in the same block (`CheckRequestExists` sees the pending keys of the block: `Tx.allege` takes
    effect at once) -/
theorem pending_allegation_blocks_unstake (s : St) (v d : Addr) (a : Int) (hr : s.req v = true) :
    (stepTx s (.unstake v d a)).1 = s ∧ (stepTx s (.unstake v d a)).2 ≠ .ok :=
  (refused_or_accepted s _).resolve_right fun ⟨_, g⟩ => g.req hr

/-- df2e1ab + 92417eb: the withdrawable amount is kept per stake address, so WITHDRAW also
    refuses the stake account of a frozen validator, whatever validator the message names.  The
    guard goes over the validator records the store iteration enumerates (`iterVals`: every
    record that existed at the last Commit) and asks the point lookup `frozen` for each.  A
    record created in the running block is not enumerated: the code freezes a validator only in
    BeginBlock and EndBlock (`CheckMaliciousValidators`, `ExecuteAllegationTracker`), so such a
    record is not frozen while the transactions run; the model's `Tx.freeze` may come at any
    point, hence the hypothesis `v ∈ s.iterVals`. -/
theorem frozen_owner_cannot_withdraw (s : St) (v w d : Addr) (a : Int) (r : VRec)
    (hs : v ∈ s.iterVals) (hr : s.vals v = some r) (hsa : r.sa = d) (hf : s.frozen v = true) :
    (stepTx s (.withdraw w d a)).1 = s ∧ (stepTx s (.withdraw w d a)).2 ≠ .ok :=
  (refused_or_accepted s _).resolve_right fun g =>
    g.owner (List.any_eq_true.mpr ⟨v, hs, by simp [hr, hsa, hf]⟩)

/-- the guard does not overreach: with no frozen validator among the enumerated records of the
    stake address, a WITHDRAW within the withdrawable amount goes through -/
example :
    let e := St.empty 2
    let s : St := { e with frozen := fun v => decide (v = 1), iterVals := [1, 4],
                           vals := fun v => if v = 1 then some ⟨10, 10, 2⟩
                                            else if v = 4 then some ⟨3, 3, 6⟩ else none,
                           bnd := fun _ => 5 }
    (stepTx s (.withdraw 4 6 3)).2 = .ok ∧ (stepTx s (.withdraw 4 2 3)).2 = .mismatch ∧
    (stepTx s (.withdraw 7 2 3)).2 = .frozen := by
  decide

/-! ## 2. Withdrawable only after unstake + maturity, exactly once -/

theorem withdraw_needs_bounded (s : St) (v d : Addr) (a : Int)
    (hok : (stepTx s (.withdraw v d a)).2 = .ok) :
    0 < a ∧ a ≤ s.bnd d ∧
    (stepTx s (.withdraw v d a)).1.bnd d = s.bnd d - a ∧
    (stepTx s (.withdraw v d a)).1.bal d = s.bal d + a * oltBase := by
  have e := stepTx_effect s (.withdraw v d a)
  generalize stepTx s (.withdraw v d a) = p at e hok ⊢
  cases e with
  | fail hc => exact absurd hok hc
  | withdraw _ _ _ g => exact ⟨g.pos, g.bnd, upd_same .., upd_same ..⟩
  | env ht => exact ht.elim

theorem bounded_changes_only_by_own_withdraw (s : St) (t : Tx) (d : Addr) :
    (stepTx s t).1.bnd d = s.bnd d ∨
    ∃ v a, t = .withdraw v d a ∧ 0 < a ∧ a ≤ s.bnd d ∧ (stepTx s t).1.bnd d = s.bnd d - a := by
  have e := stepTx_effect s t
  generalize stepTx s t = p at e ⊢
  cases e with
  | withdraw v d' a g =>
    by_cases hd : d = d'
    · subst hd; exact .inr ⟨v, a, rfl, g.pos, g.bnd, upd_same ..⟩
    · exact .inl (upd_ne hd)
  | _ => exact .inl rfl

theorem beginBlock_keeps_bounded (s : St) (h : Int) : (beginBlock s h).bnd = s.bnd := rfl

/-- EndBlock of height h credits exactly the entries stored under h (nothing at height 1) and
    empties that list: nothing is credited early, nothing twice -/
theorem endBlock_credits_current_height (c : Cfg) (s : St) (g p dl : List Addr) (d : Addr) :
    (endBlock c s g p dl).bnd d =
      s.bnd d + (if s.height ≤ 1 then 0 else amtOf d (s.mat s.height)) ∧
    (1 < s.height → (endBlock c s g p dl).mat s.height = []) ∧
    (∀ k, k ≠ s.height → (endBlock c s g p dl).mat k = s.mat k) := by
  rw [endBlock_eq]
  by_cases h1 : s.height ≤ 1
  · rw [if_pos h1, if_pos h1]
    exact ⟨(Int.add_zero _).symm, fun h => absurd h1 (Int.not_le.mpr h), fun _ _ => rfl⟩
  rw [if_neg h1, if_neg h1]
  -- the verdicts touch neither the withdrawable amounts nor the maturing lists
  have hv := foldSlash_induction (c := c)
    (K := fun _ s' => s'.bnd = (sweep s dl p).bnd ∧ s'.mat = (sweep s dl p).mat)
    (fun {s' v _} h => by
      rcases slash_cases c s' v with ⟨_, e⟩ | ⟨_, _, e⟩ <;> rw [e] <;> exact h)
    g _ ⟨rfl, rfl⟩
  rw [hv.1, hv.2]
  exact ⟨creditAll_apply .., fun _ => upd_same .., fun k hk => upd_ne hk⟩

/-- the ghost schedule is written by successful UNSTAKEs only: amount `a` for the height
    `height + maturity` as they are *at the time of the unstake* -/
theorem schedule_only_from_unstake (s : St) (t : Tx) (k : Int) (d : Addr) :
    (stepTx s t).1.gSched k d = s.gSched k d ∨
    ∃ v a, t = .unstake v d a ∧ (stepTx s t).2 = .ok ∧ k = s.height + s.maturity ∧ 0 < a ∧
      a ≤ s.vd v d ∧ (stepTx s t).1.gSched k d = s.gSched k d + a := by
  have e := stepTx_effect s t
  generalize stepTx s t = p at e ⊢
  cases e with
  | unstake v d' a r g =>
    by_cases hc : k = s.height + s.maturity ∧ d = d'
    · obtain ⟨rfl, rfl⟩ := hc
      exact .inr ⟨v, a, rfl, rfl, rfl, g.pos, g.vd, upd2_same ..⟩
    · exact .inl ((upd2_apply ..).trans (if_neg hc))
  | _ => exact .inl rfl

/-- the maturity option is never negative, and at least 1 during block 1 (EndBlock does not
    process maturities at height 1); governance only admits 109200 … 468000 -/
def MaturityOK (c : Cfg) (m : Int) (bs : List Block) : Prop :=
  1 ≤ m ∧ RunOK MatGuard (fun _ _ => True) c (St.empty m) bs

/-- **Maturity, exactly once.**  After any history:
    * the withdrawable amount of every delegator is what was unlocked minus what was withdrawn;
    * what was unlocked is exactly the schedule of the heights whose EndBlock has run
      (2 … height), where the schedule of height k is the sum of the successful unstakes made at
      heights h₀ with h₀ + maturity(h₀) = k (`schedule_only_from_unstake`);
    * the maturing lists of those heights are empty, and the lists of the coming heights hold
      exactly the scheduled amounts.
    Hence an unstaked amount becomes withdrawable at the end of block h₀ + maturity(h₀), not
    before and not a second time. -/
theorem unlock_exactly_at_maturity (c : Cfg) (m : Int) (bs : List Block) (hg : MaturityOK c m bs) :
    let s := run c (St.empty m) bs
    (∀ d, s.bnd d = s.gUnlocked d - s.gWithdrawn d) ∧
    (∀ d, s.gUnlocked d = sumL (spentKeys s.height) (fun k => s.gSched k d)) ∧
    (∀ k, k ≤ s.height → s.mat k = []) ∧
    (∀ k d, s.height < k → 2 ≤ k → amtOf d (s.mat k) = s.gSched k d) := by
  have hb := run_induction (fun s => SchedAt s (s.height + 1))
    (fun s b h hb => schedAt_execBlock c h b hb) _ bs (schedAt_empty m hg.1) hg.2
  have hu := hb.unlocked
  rw [Int.add_sub_cancel] at hu
  exact ⟨(matInv_run c (matInv_empty m) bs).bnd, hu,
    fun k hk =>
      hb.past k (Int.lt_of_lt_of_le (Int.lt_add_one_iff.mpr hk) (Int.le_max_right ..)),
    fun k d hk h2 => hb.future k d (Int.max_le.mpr ⟨h2, Int.add_one_le_iff.mpr hk⟩)⟩

/-! ## 3. Withdrawn never exceeds staked minus penalties -/

/-- genesis entries carry sane amounts (nothing validates the genesis document) -/
def GenesisOK (bs : List Block) : Prop := ∀ b ∈ bs, b.GenesisSane

/-- per delegator conservation law, for every history whatsoever (no hypothesis):
    locked + maturing + withdrawable + withdrawn + slashed = staked -/
theorem conservation (c : Cfg) (m : Int) (bs : List Block) (d : Addr) :
    let s := run c (St.empty m) bs
    s.eff d + s.gMaturing d + s.bnd d + s.gWithdrawn d + s.gPenal d = s.gStaked d :=
  cons_run c (cons_empty m) bs d

theorem bounded_nonneg (c : Cfg) (m : Int) (bs : List Block) (hg : GenesisOK bs) :
    NonNeg (run c (St.empty m) bs) :=
  nonNeg_run c (nonNeg_empty m) bs hg

/-- record side, in whole tokens -/
theorem withdrawn_le_staked_minus_penalty (c : Cfg) (m : Int) (bs : List Block) (hg : GenesisOK bs)
    (d : Addr) :
    let s := run c (St.empty m) bs
    s.gWithdrawn d ≤ s.gStaked d - s.gPenal d := by
  have hc := conservation c m bs d
  have hn := bounded_nonneg c m bs hg
  have hm := gMaturing_nonneg (matInv_run c (matInv_empty m) bs) hn d
  have h1 := hn.eff d
  have h2 := hn.bnd d
  simp only at hc ⊢
  lia

/-- balance side: the coins credited by WITHDRAW never exceed the coins debited by STAKE
    (genesis stake counted as paid by the genesis document) minus the slashed tokens × 10^18 -/
theorem paid_out_le_paid_in_minus_penalty (c : Cfg) (m : Int) (bs : List Block) (hg : GenesisOK bs)
    (d : Addr) :
    let s := run c (St.empty m) bs
    s.gPaidOut d ≤ s.gPaidIn d - s.gPenal d * oltBase := by
  have hp := paid_run c (paid_empty m) bs d
  have hw := withdrawn_le_staked_minus_penalty c m bs hg d
  simp only at hw ⊢
  rw [hp.1, hp.2, ← Int.sub_mul]
  exact Int.mul_le_mul_of_nonneg_right hw (by decide)

/-- Necessity of the int64 guard of `Validate` (commit 9ac9bcb; this was suspect S4, confirmed
    on the implementation before the fix).  The handler alone — `runWithdraw`, what DeliverTx
    executed before — accepts the amount −(2^64−1), whose int64 truncation is +1: an account
    that never staked is credited 1 token, its withdrawable record becomes 2^64−1, and a second
    ordinary WITHDRAW pays out 1000 more.  With the guard both are refused. -/
theorem int64_guard_is_necessary :
    let s0 := St.empty 2
    let a : Int := -(two64 - 1)
    let s1 := (runWithdraw s0 9 2 a).1
    let s2 := (runWithdraw s1 9 2 1000).1
    (runWithdraw s0 9 2 a).2 = .ok ∧ s1.bnd 2 = two64 - 1 ∧ s1.bal 2 = oltBase ∧
    (runWithdraw s1 9 2 1000).2 = .ok ∧ s2.gPaidOut 2 = 1001 * oltBase ∧ s2.gPaidIn 2 = 0 ∧
    (stepTx s0 (.withdraw 9 2 a)).2 = .invalidamount := by
  decide

/-! ## 4. The validator's recorded stake equals the sum of its delegators' locked amounts

      ∀ history, ∀ v,  tot v = Σ_d vd v d   ∧   eff d = Σ_v vd v d   ∧
                       (validator record of v).staking = tot v + (slash postponed to the next
                       BeginBlock)   (no record: tot v = 0)

  Proved for every history under hypotheses that are not forced by any defect (`RecordsOK`):
  a duplicate-free universe `U` containing the addresses the history stakes with; the supply
  bound (`staking < 2^63`: `calculatePower` is `Int64()`); genesis entries with sane amounts and
  one stake address per validator; verdict lists without duplicates (`CleanTracker`); the penalty
  function satisfies 0 ≤ pen t ≤ t.

  Three defects of the code used to break this clause; all are repaired and no longer assumed:
  KF-C11-2 (d8b47b0: the current record decides the deletion of a powerless record), KF-C11-1
  (acb5e5c: the postponed unstake ignores the purge rule), KF-C11-3 (ebb3d1d: a verdict charges
  the current stake address; 7abde80: MinusFromAddress writes all three amounts or none). -/

def RecordsOK (U : List Addr) (c : Cfg) (m : Int) (bs : List Block) : Prop :=
  U.Nodup ∧ PenOK c ∧ RunOK (RecGuard U) EndGuard c (St.empty m) bs

/-- the four theorems below are the fields of this one -/
theorem rec_run {U : List Addr} {c : Cfg} {m : Int} {bs : List Block} (hg : RecordsOK U c m bs) :
    Rec U (run c (St.empty m) bs) :=
  (recInv_run hg.1 hg.2.1 (recInv_empty U m) bs hg.2.2).recs

theorem tot_eq_sum_vd (U : List Addr) (c : Cfg) (m : Int) (bs : List Block)
    (hg : RecordsOK U c m bs) (v : Addr) :
    let s := run c (St.empty m) bs
    s.tot v = sumL U (fun d => s.vd v d) ∧ ∀ d, d ∉ U → s.vd v d = 0 :=
  ⟨(rec_run hg).sumV v,
    fun d hd => Decidable.byContradiction fun h0 => hd ((rec_run hg).sup v d h0).2⟩

theorem eff_eq_sum_vd (U : List Addr) (c : Cfg) (m : Int) (bs : List Block)
    (hg : RecordsOK U c m bs) (d : Addr) :
    let s := run c (St.empty m) bs
    s.eff d = sumL U (fun v => s.vd v d) ∧ ∀ v, v ∉ U → s.vd v d = 0 :=
  ⟨(rec_run hg).sumD d,
    fun v hv => Decidable.byContradiction fun h0 => hv ((rec_run hg).sup v d h0).1⟩

/-- the validator record carries the locked total; the slash decided in the EndBlock just
    executed reaches the record at the next BeginBlock (`delayHandleUnstake`), which is the
    explicit `pendOf` term; a validator without record has nothing locked -/
theorem record_matches_validator (U : List Addr) (c : Cfg) (m : Int) (bs : List Block)
    (hg : RecordsOK U c m bs) (v : Addr) :
    let s := run c (St.empty m) bs
    match s.vals v with
    | some r => r.staking = s.tot v + pendOf s v ∧ r.power = r.staking
    | none => s.tot v = 0 := by
  intro s
  cases hv : s.vals v with
  | none => exact (rec_run hg).absent v hv
  | some r => exact ⟨((rec_run hg).staking v r hv).1, ((rec_run hg).staking v r hv).2.1⟩

theorem only_stake_address_holds_stake (U : List Addr) (c : Cfg) (m : Int)
    (bs : List Block) (hg : RecordsOK U c m bs) (v d : Addr) :
    let s := run c (St.empty m) bs
    s.vd v d ≠ 0 → ∃ r, s.vals v = some r ∧ r.sa = d :=
  (rec_run hg).single v d

/-- regression example for KF-C11-3 (repaired by ebb3d1d + 7abde80;
    corpus/C11/kf3_slash_charges_previous_stake_address.script): delegator 2 stakes 10 with
    validator 1 (genesis), unstakes everything and withdraws it; in block 5 delegator 3 stakes 10
    with validator 1 under its own address (allowed: the old address is clean) and validator 1 is
    found guilty in the same block.  The slash is charged to the current stake address 3 (before
    the repair: to address 2 of the previous block's record, which left total 7 / delegation 10). -/
theorem slash_charges_current_stake_address :
    let s := run cfg30 (St.empty 1)
      [ ⟨[.credit 3 (100 * oltBase), .genesisStake 1 2 10], [], [], []⟩,
        ⟨[.unstake 1 2 10], [], [], []⟩,
        ⟨[], [], [], []⟩,
        ⟨[.withdraw 1 2 10], [], [], []⟩,
        ⟨[.stake 1 3 10], [1], [], []⟩ ]
    s.tot 1 = 7 ∧ s.vd 1 3 = 7 ∧ s.vd 1 2 = 0 ∧ s.eff 3 = 7 ∧ s.gPenal 3 = 3 ∧
    s.vals 1 = some ⟨10, 10, 3⟩ ∧ pendOf s 1 = 3 := by
  decide +kernel

/-- regression example for KF-C11-2 (repaired by d8b47b0; corpus/C11/kf2_restake_after_zero.script):
    unstake everything in block 2, stake 5 again in block 3 — the record stays, even when the
    election would allow the deletion, and the stake can be unstaked -/
theorem restake_after_zero_keeps_record :
    let s := run cfg30 (St.empty 2)
      [ ⟨[.credit 2 (100 * oltBase), .genesisStake 1 2 10], [], [], []⟩,
        ⟨[.unstake 1 2 10], [], [], [1]⟩,
        ⟨[.stake 1 2 5], [], [], [1]⟩ ]
    s.vals 1 = some ⟨5, 5, 2⟩ ∧ s.tot 1 = 5 ∧ s.vd 1 2 = 5 ∧ s.eff 2 = 5 ∧
    (stepTx (beginBlock s 4) (.unstake 1 2 5)).2 = .ok := by
  decide

/-- regression example for KF-C11-1 (repaired by acb5e5c; corpus/C11/kf1_slash_dropped_by_purge.script):
    guilty and purged in the same EndBlock 2 — the postponed unstake reaches the record in
    BeginBlock 3 -/
theorem slash_survives_purge :
    let s := run cfg30 (St.empty 2)
      [ ⟨[.genesisStake 1 2 10], [], [], []⟩,
        ⟨[], [1], [1], []⟩,
        ⟨[], [], [], []⟩ ]
    s.vals 1 = some ⟨7, 7, 2⟩ ∧ s.tot 1 = 7 ∧ pendOf s 1 = 0 := by
  decide

/-- a powerless record is deleted once the election allows it, and only then -/
theorem powerless_record_deleted_when_settled :
    let bs : List Block :=
      [ ⟨[.genesisStake 1 2 10], [], [], []⟩, ⟨[.unstake 1 2 10], [], [], []⟩, ⟨[], [], [], []⟩ ]
    (run cfg30 (St.empty 2) bs).vals 1 = some ⟨0, 0, 2⟩ ∧
    (run cfg30 (St.empty 2) (bs ++ [⟨[], [], [], [1]⟩])).vals 1 = none := by
  decide

/-! ## Non-vacuity: the hypotheses are met by non-trivial histories -/

/-- a complete lifecycle: genesis stake 10, a paid stake of 4, unstake 6 in block 2 (maturity 2),
    unlock at the end of block 4, withdraw 5 in block 5; a guilty verdict with a purge in block 3 -/
def exHistory : List Block :=
  [ ⟨[.credit 2 (100 * oltBase), .genesisStake 1 2 10, .stake 1 2 4], [], [], []⟩,
    ⟨[.unstake 1 2 6], [], [], []⟩,
    ⟨[.allege 1], [1], [1], []⟩,
    ⟨[.release 1, .withdraw 1 2 1], [], [], []⟩,
    ⟨[.withdraw 1 2 5], [], [], [1]⟩ ]

example :
    let s := run cfg30 (St.empty 2) exHistory
    s.height = 5 ∧ s.gStaked 2 = 14 ∧ s.gWithdrawn 2 = 5 ∧ s.gPenal 2 = 2 ∧ s.bnd 2 = 1 ∧
    s.eff 2 = 6 ∧ s.tot 1 = 6 ∧ s.vals 1 = some ⟨6, 6, 2⟩ ∧ s.gSched 4 2 = 6 ∧
    s.bal 2 = (100 - 4 + 5) * oltBase := by
  decide +kernel

example : GenesisOK exHistory := by
  unfold GenesisOK; decide

example : PenOK cfg30 := penalty30_ok

/-- the lifecycle above satisfies the hypotheses of the clause-4 theorems … -/
example : RecordsOK [1, 2] cfg30 2 exHistory := ⟨by decide, penalty30_ok, by decide⟩

/-- … and of the maturity theorem, also with changes of the maturity option (to 0 and to 3) -/
example : MaturityOK cfg30 2 exHistory := ⟨by decide, by decide⟩

example : MaturityOK cfg30 1
    [ ⟨[.credit 2 (100 * oltBase), .genesisStake 1 2 10], [], [], []⟩,
      ⟨[.setMaturity 0, .unstake 1 2 3], [], [], []⟩,
      ⟨[.setMaturity 3, .unstake 1 2 2, .withdraw 1 2 3], [], [], []⟩ ] := ⟨by decide, by decide⟩

/-- the histories of the three regression examples satisfy the clause-4 hypotheses too -/
example : RecordsOK [1, 2] cfg30 2
    [ ⟨[.credit 2 (100 * oltBase), .genesisStake 1 2 10], [], [], []⟩,
      ⟨[.unstake 1 2 10], [], [], [1]⟩,
      ⟨[.stake 1 2 5], [], [], [1]⟩ ] := ⟨by decide, penalty30_ok, by decide⟩

example : RecordsOK [1, 2] cfg30 2
    [ ⟨[.genesisStake 1 2 10], [], [], []⟩, ⟨[], [1], [1], []⟩, ⟨[], [], [], []⟩ ] :=
  ⟨by decide, penalty30_ok, by decide⟩

example : RecordsOK [1, 2, 3] cfg30 1
    [ ⟨[.credit 3 (100 * oltBase), .genesisStake 1 2 10], [], [], []⟩,
      ⟨[.unstake 1 2 10], [], [], []⟩,
      ⟨[], [], [], []⟩,
      ⟨[.withdraw 1 2 10], [], [], []⟩,
      ⟨[.stake 1 3 10], [1], [], []⟩ ] := ⟨by decide, penalty30_ok, by decide +kernel⟩

/-- the hypotheses are not vacuous: a verdict list with a duplicate, or a stake beyond the supply
    bound, violates them -/
example : ¬ RunOK (RecGuard [1, 2]) EndGuard cfg30 (St.empty 2)
    [ ⟨[.genesisStake 1 2 10], [], [], []⟩, ⟨[], [1, 1], [], []⟩ ] := by decide

example : ¬ RunOK (RecGuard [1, 2]) EndGuard cfg30 (St.empty 2)
    [ ⟨[.credit 2 (two63 * oltBase), .genesisStake 1 2 10, .stake 1 2 (two63 - 5)], [], [], []⟩ ] := by
  decide

end OLP.Props.C11
