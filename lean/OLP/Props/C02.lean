/-
  C02 — No value creation: totals grow only by scheduled rewards and confirmed locks; no stored
  amount is ever negative.

  This file carries the GENERIC accounting theorems every value-moving handler is an instance of
  (debit and credit of the same coin conserve the total for every coin, including hostile ones;
  non-negativity needs the coin to be non-negative, which is exactly the check several handlers
  were missing), the transfer handlers and the fee step. The per-subsystem instances
  (stake, network delegation, proposal funds, rewards, trackers, domains) live with their models
  (OLP/Props/C11, C12, C13, C14, C15, C20).
-/
import OLP.Ledger.Lemmas

namespace OLP.Props.C02
open OLP OLP.Ledger

/-! ## the primitives of data/balance/balance_store.go -/

/-- debit and credit of THE SAME coin conserve the total — for every coin, whatever its sign or size -/
theorem transfer_conserves (l l' : L) (s d : Acc) (c : Int) (h : transfer l s d c = .ok l') :
    total l' = total l :=
  total_transfer h

/-- a debit never leaves a negative amount behind (the `Minus` check) -/
theorem minusFrom_nonneg (l l' : L) (a : Acc) (c : Int) (hn : NonNeg l)
    (h : minusFrom l a c = .ok l') : NonNeg l' :=
  (Change.minusFrom h).nonNeg hn

theorem addTo_nonneg (l : L) (a : Acc) (c : Int) (hn : NonNeg l) (hc : 0 ≤ c) :
    NonNeg (addTo l a c) :=
  (Change.addTo l a hc).nonNeg hn

theorem transfer_nonneg (l l' : L) (s d : Acc) (c : Int) (hn : NonNeg l) (hc : 0 ≤ c)
    (h : transfer l s d c = .ok l') : NonNeg l' :=
  (Change.transfer hc h).nonNeg hn

/-- crediting a negative coin drives the receiver below zero (the shape of the missing-validation
    defects S5, S6, S7, S26) -/
theorem negative_credit_breaks_nonneg :
    ∃ l', transfer [("a", 5), ("b", 0)] "a" "b" (-3) = .ok l' ∧ ¬ NonNeg l' := by
  refine ⟨[("a", 8), ("b", -3)], rfl, ?_⟩
  intro hn
  have := hn ("b", -3) (by simp)
  simp at this

/-! ## SEND and the fee step, at full strength (no hypothesis on the amounts) -/

theorem send_conserves (l l' : L) (s d : Acc) (amt : Int) (h : send l s d amt = .ok l') :
    total l' = total l :=
  transfer_conserves l l' s d amt (send_ok h).2

theorem send_nonneg (l l' : L) (s d : Acc) (amt : Int) (hn : NonNeg l)
    (h : send l s d amt = .ok l') : NonNeg l' := by
  obtain ⟨ha, ht⟩ := send_ok h
  exact transfer_nonneg l l' s d amt hn ha ht

theorem feeStep_conserves (l l' : L) (s p : Acc) (price used : Int)
    (h : feeStep l s p price used = .ok l') : total l' = total l :=
  transfer_conserves l l' s p (price * used) h

theorem txSend_conserves (l l' : L) (s d p : Acc) (amt price used : Int)
    (h : txSend l s d p amt price used = .ok l') : total l' = total l := by
  obtain ⟨l₁, hs, hf⟩ := txSend_ok h
  rw [feeStep_conserves l₁ l' s p price used hf, send_conserves l l₁ s d amt hs]

/-- full statement for a whole SEND transaction: needs the fee charge to be non-negative, which
    `ValidateFee` (price ≥ minimal fee > 0) and the gas counter (used ≥ 0) provide -/
theorem txSend_nonneg (l l' : L) (s d p : Acc) (amt price used : Int) (hn : NonNeg l)
    (hp : 0 ≤ price) (hu : 0 ≤ used) (h : txSend l s d p amt price used = .ok l') : NonNeg l' := by
  obtain ⟨l₁, hs, hf⟩ := txSend_ok h
  exact transfer_nonneg l₁ l' s p (price * used) (send_nonneg l l₁ s d amt hn hs)
    (Int.mul_nonneg hp hu) hf

/-- SENDPOOL as written relies on `Validate` for the sign of the amount -/
theorem sendPoolRaw_nonneg_partial (l l' : L) (s p : Acc) (amt : Int) (hn : NonNeg l) (ha : 0 ≤ amt)
    (h : sendPoolRaw l s p amt = .ok l') : NonNeg l' :=
  transfer_nonneg l l' s p amt hn ha h

/-! ## the shape of S4: debit one coin, record another -/

theorem mismatched_coins_change_total (l l' : L) (s d : Acc) (c₁ c₂ : Int)
    (h : minusFrom l s c₁ = .ok l') : total (addTo l' d c₂) = total l + (c₂ - c₁) := by
  rw [total_addTo, total_minusFrom h]; omega

/-- `Int64()` wraps: staking 2^64+1 whole tokens costs one token -/
theorem toCoinWithBase_wraps :
    toCoinWithBase 18446744073709551617 18 = 1000000000000000000 ∧
    toCoinWithBase 18446744073709551617 18 ≠ 18446744073709551617 * 10 ^ 18 := by
  decide

theorem wrap64_exact_iff (x : Int) :
    wrap64 x = x ↔ (-9223372036854775808 ≤ x ∧ x < 9223372036854775808) := by
  unfold wrap64
  simp only
  split <;> omega

/-! ## lifting to histories -/

/-- `mint` lists what each step may add (block rewards accrued, confirmed locks) -/
theorem history_no_creation {Op : Type} (step : L → Op → L) (mint : Op → Int)
    (hstep : ∀ l op, NonNeg l → total (step l op) ≤ total l + mint op ∧ NonNeg (step l op))
    (l : L) (hn : NonNeg l) (ops : List Op) :
    total (ops.foldl step l) ≤ total l + (ops.map mint).sum ∧ NonNeg (ops.foldl step l) := by
  induction ops generalizing l with
  | nil => simp [hn]
  | cons op t ih =>
    obtain ⟨h1, h2⟩ := hstep l op hn
    obtain ⟨h3, h4⟩ := ih (step l op) h2
    refine ⟨?_, h4⟩
    simp only [List.foldl_cons, List.map_cons, List.sum_cons]
    omega

/-! ## Non-vacuity -/
example : NonNeg [("a", 5), ("b", 0)] ∧ total [("a", 5), ("b", 0)] = 5 ∧
    (∃ l', send [("a", 5), ("b", 0)] "a" "b" 3 = .ok l' ∧ bal l' "b" = 3 ∧ bal l' "a" = 2) := by
  refine ⟨?_, rfl, [("a", 2), ("b", 3)], rfl, rfl, rfl⟩
  intro p hp
  simp at hp
  rcases hp with rfl | rfl <;> simp

end OLP.Props.C02
