import OLP.Gen.Funcs
import OLP.Alleg.Lemmas

/-!
# C19 — the bounty of a guilty verdict, tied to the source by translation (T2b)

The three assignments to `bountyAmt` in `ExecuteAllegationTracker` are translated with each other
inlined: `pAmt · decimal · PenaltyBountyPercentage / PenaltyBountyDecimals`. The model's bounty is
that expression at `decimal = 10^18`.
-/

namespace OLP.Props.C19

open OLP.Alleg
open OLP.Gen

theorem bounty_is_source (p : Int) (o : Opts) :
    p * e18 * o.bountyPct / o.bountyDec = Funcs.allegBounty p e18 o.bountyPct o.bountyDec := rfl

/-- the bounty never exceeds the penalty (in the smallest unit) when the share is a proper fraction -/
theorem source_bounty_le_penalty (p pctv dec : Int) (hp : 0 ≤ p) (h0 : 0 ≤ pctv) (hd : 0 < dec) (hle : pctv ≤ dec) :
    0 ≤ Funcs.allegBounty p e18 pctv dec ∧ Funcs.allegBounty p e18 pctv dec ≤ p * e18 :=
  bounty_bounds p pctv dec hd hp h0 hle

example : Funcs.allegBounty 3 e18 50 100 = 1500000000000000000 := by decide

end OLP.Props.C19
