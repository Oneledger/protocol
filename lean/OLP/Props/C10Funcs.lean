import OLP.Gen.Funcs
import OLP.Base.Lists

/-!
# C10 / C02 — the fee share of a validator at block end, tied to the source by translation (T2b)

`feeShare := total.MultiplyInt64(queued.Priority()).DivideInt64(vs.totalPower)` of
`ValidatorStore.GetEndBlockUpdate` is translated with the two `Coin` methods (whole functions).
The election model (OLP/Elect) leaves fee distribution out; what C02 needs from it is proved here
directly over the GENERATED definition: the shares handed to any set of validators whose powers
sum to at most the total power never exceed the pool, whatever the rounding.
-/

namespace OLP.Props.C10

open OLP.Gen

theorem feeShare_formula (total power totalPower : Int) :
    Funcs.feeShare total power totalPower = total * power / totalPower := by
  simp [Funcs.feeShare, Funcs.coinMultiplyInt64, Funcs.coinDivideInt64]

/-- the fee shares of one block end never exceed the pool they are taken from -/
theorem fee_shares_le_total (T P : Int) (ps : List Int) (hT : 0 ≤ T) (hP : 0 < P)
    (hsum : ps.sum ≤ P) :
    (ps.map (fun p => Funcs.feeShare T p P)).sum ≤ T := by
  simp only [feeShare_formula]
  exact sum_mul_ediv_le T P ps hT (Int.le_of_lt hP) hsum

theorem fee_share_nonneg (T p P : Int) (hT : 0 ≤ T) (hp : 0 ≤ p) (hP : 0 < P) : 0 ≤ Funcs.feeShare T p P := by
  rw [feeShare_formula]
  exact Int.ediv_nonneg (Int.mul_nonneg hT hp) (Int.le_of_lt hP)

example : (([3, 3, 4] : List Int).map (fun p => Funcs.feeShare 100 p 10)).sum = 100 := by decide
example : (([1, 1, 1] : List Int).map (fun p => Funcs.feeShare 100 p 3)).sum = 99 := by decide

end OLP.Props.C10
