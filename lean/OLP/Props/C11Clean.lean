import OLP.Base.Guard
import OLP.Stake.Step

/-!
# C11 — a validator's stake address changes only when the old one is clean

Seed C11-stake-address-clean-half-open shortened the window the handler scans for amounts that
are still maturing: the old stake address then keeps an unstaked amount of the SAME block, stops
being the stake address, and is no longer covered by the frozen-owner guard of WITHDRAW when the
validator is frozen later. What the guard relies on is this step property of STAKE, stated for the
model (tied to `isStakeAddressClean` / `GetMaturedPendingAmount` by the correspondence of the
`stake` engine and to the implementation's behaviour by its monitor
`withdrawn-stake-of-frozen-validator`).
-/

namespace OLP.Props.C11

open OLP.Stake

/-- an accepted STAKE that names another stake address than the record has finds the old address
    clean: nothing locked with this validator, nothing withdrawable, and no amount maturing at any
    height from the current one up to and INCLUDING height + maturity — the height an unstake of
    this very block matures at -/
theorem stake_address_changes_only_when_clean (s s' : St) (v d : Addr) (a : Int) (r : VRec)
    (hr : s.vals v = some r) (hne : r.sa ≠ d) (h : runStake s v d a = (s', .ok)) :
    s.vd v r.sa = 0 ∧ s.bnd r.sa = 0 ∧
    ∀ i : Nat, (i : Int) ≤ s.maturity → ∀ e ∈ s.mat (s.height + (i : Int)), e.1 = r.sa → e.2 = 0 := by
  unfold runStake at h
  obtain ⟨_, h⟩ := of_guard h
  obtain ⟨hu, _⟩ := of_guard h
  obtain ⟨h1, h2, h3⟩ := (isClean_iff ..).mp (inUse_rule hu hr hne)
  exact ⟨h1, h3, fun i hi e he hea => hasPending_false h2 i (Int.lt_add_one_iff.mpr hi) e he hea⟩

/-- the boundary the seed moved: an unstake of the current block by the old stake address blocks
    the change (its amount waits at height + maturity) -/
theorem same_block_unstake_blocks_change (s : St) (v d : Addr) (a : Int) (r : VRec) (x : Int)
    (hr : s.vals v = some r) (hne : r.sa ≠ d) (hm : 0 ≤ s.maturity) (hx : x ≠ 0)
    (hp : (r.sa, x) ∈ s.mat (s.height + s.maturity)) :
    (runStake s v d a).2 ≠ .ok := by
  intro hok
  have h3 := (stake_address_changes_only_when_clean s _ v d a r hr hne (Prod.ext rfl hok)).2.2
  have e : ((s.maturity.toNat : Nat) : Int) = s.maturity := Int.toNat_of_nonneg hm
  exact hx (h3 s.maturity.toNat (Int.le_of_eq e) (r.sa, x) (e.symm ▸ hp) rfl)

end OLP.Props.C11
