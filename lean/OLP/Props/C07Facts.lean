/-
  C07 — obligations over the REGENERATED fact tables (tie T3): the premises `AllAimed` and
  the shape of `checkTx` used by `OLP.Props.C07.checktx_isolation` are what the source says now.
-/
import OLP.Props.SourceFacts

namespace OLP.Props.C07.Facts
open OLP.Expect

/-- every BeginBlock hook reads state through a store re-aimed at the deliver state, except the
    classified in-memory-only uses -/
theorem begin_hooks_aimed : undominated "blockBeginner" = beginUnaimed := by decide +kernel

theorem end_hooks_aimed : undominated "blockEnder" = endUnaimed := by decide +kernel

theorem commit_and_init_aimed : undominated "commitor" = [] ∧ undominated "chainInitializer" = [] := by
  decide +kernel

/-- CheckTx: index lookup, session, Validate, ProcessCheck, ProcessFee, commit iff both ok -/
theorem checker_discipline :
    OLP.Gen.sessionRule.filter (fun r => r.fn == "txChecker") =
    sessionRule.filter (fun r => r.fn == "txChecker") := by decide +kernel

/-- the calls that overwrite in-memory option copies: start-up code, InitChain, BeginBlock's
    `feePool.SetupOpt` and the governance update functions; the latter run in `ValidateAndUpdate`
    mode only inside `runFinalizeProposal` … -/
theorem volatile_setters_as_classified : OLP.Gen.volatileSets = volatileSets := by rfl

/-- … which no `ProcessCheck` calls (premise `CheckNoVset`; S13 was repaired by the fix: commit
    "do not run proposal finalisation in the mempool check") -/
theorem check_path_runs_no_finalisation :
    OLP.Gen.checkRuns.all (fun r => r.what != "runFinalizeProposal") = true ∧
    (OLP.Gen.checkRuns.filter (fun r => r.fn == "action/governance.FinalizeProposal.ProcessCheck")).map
      (fun r => r.what) = [""] := by decide +kernel

/-- the shared EVM state object (`CommitStateDB`: one instance with a state-agnostic object cache,
    used by both paths) is touched on the mempool path only to ask whether the fork is enabled and
    to obtain the account keeper; in particular OLVM `Validate` / `ProcessCheck` never read
    accounts through it and never execute the VM -/
theorem check_path_statedb_uses :
    OLP.Gen.checkStateDB =
      [⟨"action/olvm.olvmTx.Validate", "StateDB.Enabled"⟩,
       ⟨"action/olvm.olvmTx.Validate", "StateDB.GetAccountKeeper"⟩] := by rfl

/-- the ABCI entry points the shell model ports are unchanged since the port was validated -/
theorem entry_points_source_pinned :
    OLP.Expect.pinnedOf OLP.Gen.pinned (pinnedShell.map (fun r => r.fn)) = pinnedShell :=
  Source.entry_points_source_pinned

end OLP.Props.C07.Facts
