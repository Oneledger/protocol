/-
  C07 — Mempool checks are isolated from consensus execution.
  For ARBITRARY handler programs and EVERY interleaving of CheckTx calls with the consensus calls.
-/
import OLP.Shell.Isolation

namespace OLP.Props.C07
open OLP OLP.KV OLP.Shell

set_option linter.unusedSectionVars false

variable {K V C E T H D : Type} [DecidableEq K] [DecidableEq V] [DecidableEq C] [DecidableEq H]
variable (cfg : Cfg K V) (hs : Handlers K V C E T H D) (e : E)

/-- a mempool check never touches the tree, the deliver overlays, the index or the height -/
theorem checkTx_keeps_store (n : Node K V C T H D) (tx : T) :
    let n' := (checkTx cfg hs e n tx).1
    n'.tree = n.tree ∧ n'.dlv = n.dlv ∧ n'.idx = n.idx ∧ n'.height = n.height := by
  obtain ⟨h, hd⟩ := checkTx_frame cfg hs e n tx
  exact ⟨h.tree, hd, h.idx, h.height⟩

/-- … and, when mempool-path programs write no volatile cell, nothing consensus depends on -/
theorem checkTx_keeps_consensus (hnv : CheckNoVset hs) (n : Node K V C T H D) (tx : T) :
    (checkTx cfg hs e n tx).1.consensus = n.consensus := checkTx_consensus cfg hs e hnv n tx

/-- THE isolation theorem: if every block hook re-aims its stores at the deliver state and the
    mempool path writes no volatile cell, then for every call sequence, deleting the CheckTx calls
    changes neither the consensus part of the node nor any consensus output -/
theorem checktx_isolation (ha : AllAimed hs) (hnv : CheckNoVset hs) (r : Run K V C T H D)
    (calls : List (Call T)) :
    let a := runCalls cfg hs e r calls
    let b := runCalls cfg hs e r (calls.filter (fun c => !c.isCheck))
    a.1.node.consensus = b.1.node.consensus ∧ a.1.pending = b.1.pending ∧
    a.2.filter (fun o => !o.isChecked) = b.2 :=
  runCalls_isolation cfg hs e ha hnv calls r r rfl rfl

/-- Commit recreates the check state from the committed tree -/
theorem commit_recreates_check (n : Node K V C T H D) :
    (commit cfg hs n).chk = Ov.fresh hs.gasLimit := rfl

/-! ## Both premises are needed: the shapes of S14 and S13 in the model -/

def exCfg : Cfg Nat Nat := { tomb := 0, vlen := fun _ => 1, lt := fun a b => decide (a < b) }
def exN : Node Nat Nat Nat Nat Nat Nat :=
  { tree := Tree.empty ⟨1, 0, 0⟩, dlv := Ov.fresh 1000000, chk := Ov.fresh 1000000, vol := fun _ => none,
    idx := [], aim := .check, height := 0, closed := false }

/-- S14-shaped: a BeginBlock hook reads key 1 through a store that is NOT re-aimed and caches the
    value in a volatile cell which DeliverTx later copies into the state; a CheckTx that wrote key 1
    in the check state changes the block's commit log -/
def unaimedH : Handlers Nat Nat Nat Unit Nat Nat Nat :=
  { hash := id, validate := fun _ => .ret (), check := fun tx => .set 1 tx (fun _ => .ret 0),
    deliver := fun _ => .vget 0 (fun v => .set 2 (v.getD 99) (fun _ => .ret 0)),
    fee := fun _ _ => .ret 0,
    begin := fun _ => [(false, .get 1 (fun r => match r with
      | .val v => .vset 0 v (.ret ())
      | .errGas => .fail))],
    endb := fun _ => [], gasLimit := 1000000 }

theorem unaimed_hook_breaks_isolation :
    let plain := runCalls exCfg unaimedH () ⟨exN, []⟩ [.begin, .deliver 5, .endb, .commit [5]]
    let mixed := runCalls exCfg unaimedH () ⟨exN, []⟩ [.check 7, .begin, .deliver 5, .endb, .commit [5]]
    plain.2 ≠ mixed.2.filter (fun o => !o.isChecked) := by
  dsimp only
  decide

/-- S13-shaped: ProcessCheck writes a volatile cell that the consensus path reads -/
def vsetH : Handlers Nat Nat Nat Unit Nat Nat Nat :=
  { hash := id, validate := fun _ => .ret (), check := fun tx => .vset 0 (some tx) (.ret 0),
    deliver := fun _ => .vget 0 (fun v => .set 2 (v.getD 99) (fun _ => .ret 0)),
    fee := fun _ _ => .ret 0, begin := fun _ => [], endb := fun _ => [], gasLimit := 1000000 }

theorem check_vset_breaks_isolation :
    let plain := runCalls exCfg vsetH () ⟨exN, []⟩ [.begin, .deliver 5, .endb, .commit [5]]
    let mixed := runCalls exCfg vsetH () ⟨exN, []⟩ [.begin, .check 7, .deliver 5, .endb, .commit [5]]
    plain.2 ≠ mixed.2.filter (fun o => !o.isChecked) := by
  dsimp only
  decide

/-! ## Non-vacuity: a concrete application that meets both premises, and the theorem on it

  ProcessCheck WRITES keys 1 and 2 (in the check state), the keys ProcessDeliver uses, and each of
  the two fails for transaction 9 after its writes; Validate refuses transaction 0. A BeginBlock
  hook reads key 1 and caches it in the volatile cell 0, which ProcessDeliver copies into key 2 —
  the S14 shape of `unaimedH`, but RE-AIMED at the deliver state. -/

def isoH : Handlers Nat Nat Nat Unit Nat Nat Nat :=
  { hash := id,
    validate := fun tx => .burn 5 (if tx = 0 then .fail else .ret ()),
    check := fun tx => .get 1 (fun _ => .set 1 (tx + 100) (fun _ => .set 2 tx (fun _ =>
      if tx = 9 then .fail else .ret tx))),
    deliver := fun tx => .get 1 (fun r => match r with
      | .val v => .set 1 (v.getD 0 + tx) (fun _ => .vget 0 (fun c => .set 2 (c.getD 99) (fun _ =>
          if tx = 9 then .fail else .ret tx)))
      | .errGas => .fail),
    fee := fun _ g0 => .gas (fun g => .ret (g - g0)),
    begin := fun _ => [(true, .get 1 (fun r => match r with
      | .val v => .vset 0 v (.ret ())
      | .errGas => .fail))],
    endb := fun h => [(true, .set 9 h (fun _ => .ret ()))],
    gasLimit := 10000 }

def isoN : Node Nat Nat Nat Nat Nat Nat :=
  { tree := Tree.empty ⟨1, 0, 0⟩, dlv := Ov.fresh 10000, chk := Ov.fresh 10000, vol := fun _ => none,
    idx := [], aim := .check, height := 0, closed := false }

theorem iso_aimed : AllAimed isoH := fun _ =>
  ⟨fun _ hm => by rw [List.mem_singleton.mp hm], fun _ hm => by rw [List.mem_singleton.mp hm]⟩

theorem iso_noVset : CheckNoVset isoH := fun tx =>
  ⟨by show (if tx = 0 then Prog.fail else Prog.ret ()).NoVset; split <;> trivial,
   fun _ _ _ => by split <;> trivial, fun _ _ => trivial⟩

deriving instance DecidableEq for Call

/-- two blocks, `[5, 9]` and `[7]`, with eight mempool checks in between the consensus calls: of
    valid transactions (7, 5, 3, 6, 4), of one Validate refuses (0), of one whose ProcessCheck fails
    after its writes (9) and of one that is already in the index (5, the second time) -/
def isoCalls : List (Call Nat) :=
  [.check 7, .begin, .check 0, .deliver 5, .check 9, .deliver 9, .check 5, .endb, .check 3,
   .commit [5, 9], .check 6, .begin, .deliver 7, .check 5, .endb, .commit [7], .check 4]

theorem isolation_instance :
    let a := runCalls exCfg isoH () ⟨isoN, []⟩ isoCalls
    let b := runCalls exCfg isoH () ⟨isoN, []⟩ (isoCalls.filter (fun c => !c.isCheck))
    a.1.node.consensus = b.1.node.consensus ∧ a.1.pending = b.1.pending ∧
    a.2.filter (fun o => !o.isChecked) = b.2 :=
  checktx_isolation exCfg isoH () iso_aimed iso_noVset ⟨isoN, []⟩ isoCalls

/-- the conclusion of `isolation_instance`, recomputed on both sides. The checks did run and did write: their answers
    are `true, false, false, true, true, true, false, true`, the check state held `1 ↦ 103` before the
    first Commit and holds `1 ↦ 104` at the end, and `.check 6` wrote `1 ↦ 106` into it right before
    the BeginBlock hook of block 2 read key 1 — which nevertheless saw the committed 5 (it is written
    to key 2 by transaction 7). The consensus outputs are the same nine values with and without -/
theorem isolation_instance_facts :
    let a := runCalls exCfg isoH () ⟨isoN, []⟩ isoCalls
    let b := runCalls exCfg isoH () ⟨isoN, []⟩ (isoCalls.filter (fun c => !c.isCheck))
    isoCalls.filter (fun c => !c.isCheck) =
      [.begin, .deliver 5, .deliver 9, .endb, .commit [5, 9], .begin, .deliver 7, .endb, .commit [7]] ∧
    b.2 = [.none, .tx ⟨true, some 5, 25⟩, .tx ⟨false, none, 27⟩, .none,
           .committed [.set 1 5, .set 2 99, .set 9 1, .save],
           .none, .tx ⟨true, some 7, 25⟩, .none,
           .committed [.set 1 12, .set 2 5, .set 9 2, .save]] ∧
    a.2.filter (fun o => !o.isChecked) = b.2 ∧
    a.2.filter (fun o => o.isChecked) =
      [.checked true, .checked false, .checked false, .checked true, .checked true, .checked true,
       .checked false, .checked true] ∧
    (runCalls exCfg isoH () ⟨isoN, []⟩ (isoCalls.take 9)).1.node.chk.cache = [(1, 103), (2, 3)] ∧
    (runCalls exCfg isoH () ⟨isoN, []⟩ (isoCalls.take 11)).1.node.chk.cache = [(1, 106), (2, 6)] ∧
    a.1.node.chk.cache = [(1, 104), (2, 4)] ∧ b.1.node.chk.cache = [] ∧
    a.1.node.tree.working = b.1.node.tree.working ∧ a.1.node.tree.working = [(1, 12), (2, 5), (9, 2)] := by
  dsimp only
  decide +kernel

end OLP.Props.C07
