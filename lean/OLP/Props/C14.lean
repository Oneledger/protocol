/-
  C14 — Governance proposals follow their lifecycle and their funds are accounted for.

  The property theorems (their lemmas live in OLP/Gov/).  All statements are about
  the executable model `OLP.Gov` (OLP/Gov/Model.lean), which the `gov` correspondence engine
  compares step by step with the real application on every run.

  Vocabulary.  `s.item pid` = every record stored under a proposal id (one optional copy of the
  proposal per prefix store, vote records, fund records, total).  `runTx E s op = .ok s'` = one
  execution of a handler — delivered in a block by ANY account, or run from the internal queue at
  EndBlock (`internal` is `runTx` without the fee).  `step` / `run` = block-level histories
  (transactions of all seven kinds, BeginBlock, EndBlock, changes of the validator records and of
  balances by other subsystems).  `WF` is the state invariant: it holds initially (`wf_init`) and
  is preserved by every operation (`wf_reachable`), so every hypothesis `WF s` below is satisfied
  by every reachable state.  `E` is the validation oracle of the option groups that are not
  modelled (staking, proposal, evidence); no theorem constrains it.
  Defined in OLP/Gov/: `Item.rank`, `powers`, `yesPower` … (Item); `OptsOK`, `VotingOK`, `refundable`
  (Trans); `WF`, `value`, `Dist.OK`, `Expired`, `Settled` (Lemmas); the rest in Model.
-/
import OLP.Gov.Lemmas

namespace OLP.Props.C14
open OLP OLP.Gov OLP.Ledger

/-! ## 0. The invariant holds in every reachable state -/

theorem wf_init (opts : Opts) (vals : List (Addr × ValRec)) (bal : L) (ho : OptsOK opts) (hv : VotingOK opts) :
    WF (initSt opts vals bal) where
  keys := List.nodup_nil
  items := fun _ => wfi_empty
  fresh := fun pid p ha => by simp [initSt, St.item] at ha
  opts := ho
  voting := hv
  queue := fun _ hp => nomatch hp
  appliedNodup := List.nodup_nil
  appliedFinal := fun _ hp => nomatch hp

/-- for all histories of create / fund / vote / cancel / withdraw / expire / finalise transactions
    from any account at any height, interleaved with validator-set changes and block progress -/
theorem wf_reachable (E : Env) (s : St) (ops : List Op) (w : WF s) : WF (run E s ops) := run_inv WF (wf_step E) ops w

theorem active_copy_is_exclusive (s : St) (w : WF s) (pid : PID) (p : Proposal) (h : (s.item pid).active = some p) :
    (s.item pid).passed = none ∧ (s.item pid).failed = none ∧ (s.item pid).finalized = none ∧
    (s.item pid).finFailed = none ∧ p.outcome = .inProgress ∧ p.status ≠ .completed := by
  obtain ⟨a, b, c, d⟩ := (w.items pid).activeExcl (by simp [h])
  obtain ⟨e, f⟩ := (w.items pid).activeOpen p h
  exact ⟨a, b, c, d, e, f⟩

/-! ## 1. A proposal moves only forward -/

/-- the stage (`Item.rank`: 0 unknown, 1 funding, 2 voting, 3 passed / failed / expired /
    cancelled / missed its goal, 4 finalised) never decreases, whatever the operation and whoever
    sends it -/
theorem stage_monotone (E : Env) (s : St) (op : Op) (ho : OptsOK s.opts) (pid : PID) :
    (s.item pid).rank ≤ ((step E s op).1.item pid).rank := step_rank E s op pid

theorem stage_monotone_history (E : Env) (s : St) (ops : List Op) (ho : OptsOK s.opts) (pid : PID) :
    (s.item pid).rank ≤ ((run E s ops).item pid).rank := run_rank E s ops pid

/-- funding turns into voting only by a contribution that meets the goal, not after the funding
    deadline; the voting deadline is then set from the options -/
theorem voting_starts_only_at_goal_before_deadline (E : Env) (s s' : St) (op : Op) (ho : OptsOK s.opts)
    (h : runTx E s op = .ok s') (pid : PID) (p p' : Proposal)
    (ha : (s.item pid).active = some p) (hf : p.status = .funding)
    (ha' : (s'.item pid).active = some p') (hv : p'.status = .voting) :
    s.height ≤ p.fundingDeadline ∧ (s'.item pid).total ≥ p.fundingGoal ∧
    p'.votingDeadline = s.height + (s.opts.byType p.ptype).votingDeadline := by
  rcases trans_active (runTx_item h pid) with h1 | h1 | h1 | ⟨q, hq, _, hd, hg, hn⟩
  · rw [h1, ha] at ha'; cases ha'; rw [hf] at hv; cases hv
  · rw [h1] at ha'; cases ha'
  · rw [Item.exists_of_get .active p ha] at h1; cases h1
  · cases ha.symm.trans hq
    cases hn.symm.trans ha'
    exact ⟨hd, hg, rfl⟩

/-! ## 2. Expiry only after the voting deadline

  (Full strength since the repair 66ec62f: `runExpireVotes` — registered on the public router
  and used by the internal queue alike — refuses unless the proposal is VOTING and the height is
  above its voting deadline.  Before, the statement held for the internal queue only.) -/

/-- whoever executes whatever, from any account, as a transaction or from the internal queue: a
    copy with outcome "insufficient votes" that was not there before comes from an ACTIVE
    proposal in its VOTING stage whose deadline is below the block height, and it is that
    proposal, completed -/
theorem expire_only_after_deadline (E : Env) (s s' : St) (op : Op) (ho : OptsOK s.opts)
    (h : runTx E s op = .ok s') (pid : PID) (st : Store) (q : Proposal)
    (hg : (s'.item pid).get st = some q) (hq : q.outcome = .insufficientVotes)
    (hnew : ∀ st0 p0, (s.item pid).get st0 = some p0 → p0.outcome ≠ .insufficientVotes) :
    st = .failed ∧ ∃ p, (s.item pid).active = some p ∧ p.status = .voting ∧ p.votingDeadline < s.height ∧
      q = { p with status := .completed, outcome := .insufficientVotes } := by
  rcases trans_copy (runTx_item h pid) hg with ⟨st0, p0, h0, h1⟩ | h1
  · exact absurd (h1.trans hq) (hnew st0 p0 h0)
  · rw [hq] at h1; exact h1

/-- EndBlock as a whole: an ACTIVE copy that is gone afterwards was a VOTING proposal past its
    deadline (the queue built at BeginBlock holds nothing else) -/
theorem endblock_expiry_only_after_deadline (E : Env) (s : St) (w : WF s)
    (pid : PID) (p : Proposal) (ha : (s.item pid).active = some p) (hgone : ((endBlock E s).item pid).active = none) :
    p.status = .voting ∧ p.votingDeadline < s.height := by
  rcases endBlock_active E s pid with e | hm
  · rw [e, ha] at hgone; cases hgone
  · exact (w.queue pid hm).2 p ha

/-! ## 3. Pass / fail follows the recorded votes of the snapshot

  (Full strength since the repair aed50ba: `ResultSoFar` decides in integers, the float
  percentages are only logged.  What remains outside the theorem: Go evaluates `yesPower*100`,
  `(totalPower-noPower)*100` and `passPercent*totalPower` in int64 while the model uses unbounded
  integers, i.e. total voting power below 2^63/100 — validator power is whole OLT staked.) -/

/-- a copy with outcome yes / no that was not there before is backed by the tally over the
    committed vote records: PASSED means yes·100 ≥ pass·(all − giveup), FAILED means that even
    all remaining power voting yes would stay below the pass percentage (and it did not pass) -/
theorem outcome_follows_snapshot_votes (E : Env) (s s' : St) (op : Op) (ho : OptsOK s.opts)
    (h : runTx E s op = .ok s') (pid : PID) (st : Store) (p' : Proposal)
    (hg : (s'.item pid).get st = some p')
    (hnew : ∀ st0 p0, (s.item pid).get st0 = some p0 → p0.outcome ≠ p'.outcome) :
    (p'.outcome = .completedYes →
      passCond (yesPower (s'.item pid).votes) (totalPower (s'.item pid).votes) (giveupPower (s'.item pid).votes)
        (s.opts.byType p'.ptype).passPercent) ∧
    (p'.outcome = .completedNo →
      failCond (noPower (s'.item pid).votes) (totalPower (s'.item pid).votes) (giveupPower (s'.item pid).votes)
        (s.opts.byType p'.ptype).passPercent ∧
      ¬ passCond (yesPower (s'.item pid).votes) (totalPower (s'.item pid).votes) (giveupPower (s'.item pid).votes)
        (s.opts.byType p'.ptype).passPercent) := by
  have hc := (trans_copy (runTx_item h pid) hg).resolve_left fun ⟨st0, p0, h0, h1⟩ => hnew st0 p0 h0 h1
  constructor
  · intro hy
    rw [hy] at hc
    exact decide3_spec (resultSoFar_decide3 hc.2)
  · intro hn
    rw [hn] at hc
    have := decide3_spec (resultSoFar_decide3 hc.2)
    exact ⟨this.2, this.1⟩

/-- a vote that leaves the proposal open means that neither threshold is crossed: no decision is
    missed either -/
theorem open_vote_means_undecided (s s' : St) (pid : PID) (a : Addr) (o : Opinion) (p : Proposal)
    (h : runVote s pid a o = .ok s') (ha : (s'.item pid).active = some p) :
    ¬ passCond (yesPower (s'.item pid).votes) (totalPower (s'.item pid).votes) (giveupPower (s'.item pid).votes)
        (s.opts.byType p.ptype).passPercent ∧
    ¬ failCond (noPower (s'.item pid).votes) (totalPower (s'.item pid).votes) (giveupPower (s'.item pid).votes)
        (s.opts.byType p.ptype).passPercent := by
  obtain ⟨p0, votes', r, ha0, _, _, _, hr, rfl⟩ := runVote_ok h
  rw [St.item_setItem, if_pos rfl] at ha ⊢
  cases r with
  | passed | failed => simp at ha
  | tbd =>
    cases ha0.symm.trans ha
    exact decide3_spec (resultSoFar_decide3 hr)

/-- the vote records (validator, power) are written when voting begins — from the validator
    records that are active and committed at that moment — and no operation alters them later -/
theorem snapshot_fixed_when_voting_begins (E : Env) (s s' : St) (op : Op) (w : WF s)
    (h : runTx E s op = .ok s') (pid : PID) :
    powers (s'.item pid).votes = powers (s.item pid).votes ∨
    ((∃ p, (s.item pid).active = some p ∧ p.status = .funding) ∧ (s.item pid).votes = [] ∧
      ∀ kv ∈ (s'.item pid).votes, kv.2.opinion = .unknown ∧
        ∃ v ∈ s.vals, v.1 = kv.1 ∧ v.2.power = kv.2.power ∧ v.2.active = true ∧ v.2.committed = true) := by
  refine (trans_votes (runTx_item h pid)).imp_right fun ⟨p, ha, hs, hv⟩ => ?_
  have h0 := (w.items pid).fundingNoVotes p ha hs
  refine ⟨⟨p, ha, hs⟩, h0, ?_⟩
  rw [hv, h0]; exact fun kv hkv => (snapshot_sound s.vals kv hkv).2

/-! ## 4. A configuration change is applied once, only for a proposal its votes pass -/

/-- whoever executes whatever: the options and the application log change only when a
    configuration proposal that was not finalised before, whose recorded votes pass it, is
    finalised — and it is finalised (or marked finalise-failed) afterwards -/
theorem config_applied_only_for_passed_proposal (E : Env) (s s' : St) (op : Op) (h : runTx E s op = .ok s') :
    (s'.opts = s.opts ∧ s'.applied = s.applied) ∨
    ∃ pid p k v, op = .finalize pid ∧ (s.item pid).finalized = none ∧ (s.item pid).finFailed = none ∧
      (s.item pid).decided = some p ∧ p.status = .completed ∧ p.ptype = .config ∧
      resultSoFar (s.item pid).votes p.passPercent = some .passed ∧
      parseCfg p.cfg = .upd k v ∧ applyUpd E s.opts k v s.height = some s'.opts ∧
      s'.applied = s.applied ++ [pid] ∧
      ((s'.item pid).finalized.isSome ∨ (s'.item pid).finFailed.isSome) :=
  runTx_opts h

/-- over any history no proposal's configuration change is executed twice -/
theorem config_applied_at_most_once (E : Env) (s : St) (ops : List Op) (w : WF s) :
    (run E s ops).applied.Nodup := (wf_reachable E s ops w).appliedNodup

/-! ## 5. Funds of a cancelled proposal, or of one that missed its goal, stay returnable in full -/

/-- for a proposal whose outcome is cancelled / insufficient funds no execution of any handler,
    by anybody, changes an escrow record or the total — except a withdrawal, which lowers one
    record and the total by the same non-negative amount, not below zero; the proposal stays
    refundable.  In particular such a proposal is never distributed. -/
theorem funds_returned_in_full_on_cancel_or_miss (E : Env) (s s' : St) (op : Op) (w : WF s)
    (h : runTx E s op = .ok s') (pid : PID) (p : Proposal)
    (hq : (s.item pid).queryAll = some p) (hr : refundable p) :
    (s'.item pid).queryAll = some p ∧
    (((∀ g, fundAmount (s'.item pid).funds g = fundAmount (s.item pid).funds g) ∧
        (s'.item pid).total = (s.item pid).total) ∨
     ∃ f v, 0 ≤ v ∧ v ≤ fundAmount (s.item pid).funds f ∧
       fundAmount (s'.item pid).funds f = fundAmount (s.item pid).funds f - v ∧
       (∀ g, g ≠ f → fundAmount (s'.item pid).funds g = fundAmount (s.item pid).funds g) ∧
       (s'.item pid).total = (s.item pid).total - v) :=
  trans_refundable (w.items pid) hq hr (runTx_item h pid)

/-- a withdrawal pays exactly the withdrawn amount to the named beneficiary (the fee step then
    moves the fee from the funder to the pool) -/
theorem withdrawal_pays_beneficiary_in_full (E : Env) (s s' : St) (pid : PID) (f : Addr) (v : Int) (b : Addr) (fee : Int)
    (h : runTx E s (.withdraw pid f v b fee) = .ok s') :
    0 ≤ v ∧ transfer (addTo s.bal b v) f poolAcc fee = .ok s'.bal ∧
    (s'.item pid).total = (s.item pid).total - v := by
  obtain ⟨hv, h⟩ := of_guard h
  obtain ⟨s1, b', h1, hfee, rfl⟩ := withFee_ok h
  obtain ⟨p, it1, it2, _, hcase, _, hd, rfl⟩ := runWithdraw_ok h1
  have hit1 : it1.total = (s.item pid).total := by
    rcases hcase with ⟨_, rfl⟩ | ⟨_, _, _, _, rfl⟩ <;> simp
  refine ⟨by omega, hfee, ?_⟩
  rw [item_of_upsert (s := s) rfl, if_pos rfl, deductFunds_total hd, hit1]

/-- an escrow record is lowered only by a withdrawal naming that funder (who must sign it) or by
    the distribution at finalisation -/
theorem escrow_lowered_only_by_own_withdrawal_or_distribution (E : Env) (s s' : St) (op : Op) (ho : OptsOK s.opts)
    (h : runTx E s op = .ok s') (pid : PID) (f : Addr)
    (hlt : fundAmount (s'.item pid).funds f < fundAmount (s.item pid).funds f) :
    (∃ v b fee, op = .withdraw pid f v b fee) ∨ op = .finalize pid := by
  -- after the records of `pid0` were rewritten as `it'`, a lowered record is one of `it'`
  have here : ∀ {pid0 it' b}, s' = { s.setItem pid0 it' with bal := b } →
      pid = pid0 ∧ fundAmount it'.funds f < fundAmount (s.item pid0).funds f := by
    rintro pid0 it' b rfl
    rw [item_of_upsert (s := s) rfl] at hlt
    by_cases hp : pid = pid0
    · subst hp; exact ⟨rfl, by simpa using hlt⟩
    · rw [if_neg hp] at hlt; exact absurd hlt (Int.lt_irrefl _)
  cases op with
  | create pid0 pt pr ini fd g vd pp cfg fee =>
    obtain ⟨s1, b, h1, _, rfl⟩ := withFee_ok h
    obtain ⟨b1, hi, _, _, _, rfl⟩ := runCreate_ok h1
    obtain ⟨_, hlt⟩ := here rfl
    have := fundAmount_addFundRec_ge (s.item pid0).funds pr f ini (Int.le_trans (ho pt) hi)
    rw [Item.addFunds_funds, Item.set_funds] at hlt
    omega
  | fund pid0 f0 v fee =>
    obtain ⟨hv, h⟩ := of_guard h
    obtain ⟨s1, b, h1, _, rfl⟩ := withFee_ok h
    obtain ⟨p, b1, _, _, _, _, hcase⟩ := runFund_ok h1
    have := fundAmount_addFundRec_ge (s.item pid0).funds f0 f v (by omega)
    rcases hcase with ⟨_, rfl⟩ | ⟨_, rfl⟩ <;> obtain ⟨_, hlt⟩ := here rfl <;>
      simp only [Item.addFunds_funds, Item.withVotes_funds, Item.set_funds] at hlt <;> omega
  | vote pid0 payer val o fee =>
    simp only [runTx] at h
    split at h
    · split at h
      · obtain ⟨s1, b, h1, _, rfl⟩ := withFee_ok h
        obtain ⟨p, votes', r, _, _, _, _, _, rfl⟩ := runVote_ok h1
        obtain ⟨_, hlt⟩ := here rfl
        cases r <;> simp at hlt
      · cases h
    · cases h
  | cancel pid0 pr fee =>
    obtain ⟨s1, b, h1, _, rfl⟩ := withFee_ok h
    obtain ⟨p, _, _, _, _, rfl⟩ := runCancel_ok h1
    obtain ⟨_, hlt⟩ := here rfl
    simp at hlt
  | withdraw pid0 f0 v b fee =>
    obtain ⟨_, h⟩ := of_guard h
    obtain ⟨s1, b', h1, _, rfl⟩ := withFee_ok h
    obtain ⟨p, it1, it2, _, hcase, hfb, hd, rfl⟩ := runWithdraw_ok h1
    obtain ⟨rfl, hlt⟩ := here rfl
    have hf1 : it1.funds = (s.item pid).funds := by
      rcases hcase with ⟨_, rfl⟩ | ⟨_, _, _, _, rfl⟩ <;> simp
    obtain ⟨_, _, rfl⟩ := deductFunds_eq hd
    simp only [fundAmount_upsert, hf1] at hlt
    by_cases hf : f = f0
    · subst hf; exact Or.inl ⟨v, b, fee, rfl⟩
    · rw [if_neg hf] at hlt; exact absurd hlt (Int.lt_irrefl _)
  | expire pid0 =>
    obtain ⟨p, _, _, _, rfl⟩ := runExpire_ok h
    obtain ⟨_, hlt⟩ := here (b := s.bal) rfl
    simp at hlt
  | finalize pid0 =>
    by_cases hp : pid = pid0
    · exact Or.inr (hp ▸ rfl)
    · rw [(runFinalize_frame h).others pid hp] at hlt
      exact absurd hlt (Int.lt_irrefl _)
  | beginBlock | endBlock | setVals | setBal => cases Except.ok.inj h; exact absurd hlt (Int.lt_irrefl _)

/-! ## 6. Otherwise the funds are distributed once at finalisation, never exceeding the escrow -/

/-- a finalisation that distributes (the proposal was not finalised before and is in the FINALIZED
    store afterwards) — of a passed, a failed or an expired proposal alike: nobody is debited, the
    sum credited is at most the escrow total, the rest is burned (≥ 0), the escrow is empty
    afterwards.  Hypothesis as read: percentages of the option set not negative and ≤ 100 % in
    total.  (Without a validator record the distribution is refused, see
    `distribution_refused_without_validator_record`.) -/
theorem distributed_once_le_contributed (E : Env) (s s' : St) (pid : PID) (w : WF s)
    (hd : ∀ t, ((s.opts.byType t).passedDist).OK ∧ ((s.opts.byType t).failedDist).OK)
    (h : runTx E s (.finalize pid) = .ok s')
    (hbefore : (s.item pid).finalized = none) (hafter : (s'.item pid).finalized.isSome) :
    (∀ x, bal s.bal x ≤ bal s'.bal x) ∧
    total s'.bal - total s.bal ≤ (s.item pid).total ∧
    0 ≤ s'.burned - s.burned ∧
    total s'.bal + (s'.burned - s.burned) = total s.bal + (s.item pid).total ∧
    (s'.item pid).total = 0 ∧ (s'.item pid).funds = [] := by
  rcases runFinalize_ok h with ⟨rfl, _⟩ | ⟨p, r, d, src, hf1, hf2, hdec, hst, hr, hsrc, _, _, hpay⟩
  · rw [hbefore] at hafter; cases hafter
  · rcases hpay with ⟨_, _, _, hitems⟩ | ⟨hne, hbal, hburn, hitems⟩ <;>
      rw [item_of_upsert hitems, if_pos rfl] at hafter ⊢
    · simp [hf1] at hafter
    · obtain ⟨hbad, htot, hfunds⟩ := final_clears (w.items pid) hdec hr
      have hdok : d.OK := by
        rcases hsrc with ⟨_, _, e⟩ | ⟨_, _, e⟩ <;> rw [e]
        · exact (hd p.ptype).1
        · exact (hd p.ptype).2
      have hT : 0 ≤ (s.item pid).total := by
        rw [(w.items pid).totalIsSum]; exact sumFunds_nonneg (w.items pid).fundsNonneg
      obtain ⟨b1, b2, b3⟩ := payouts_bounds s.bal (cvals s.vals) p.proposer s.opts.bountyAddr
        (s.opts.byType p.ptype).execAddr (s.item pid).total d hdok hT hne
      have b4 := payouts_total s.bal (cvals s.vals) p.proposer s.opts.bountyAddr
        (s.opts.byType p.ptype).execAddr (s.item pid).total d
      rw [hbal, hburn]
      simp only [hbad, Bool.false_eq_true, if_false]
      exact ⟨b1, b3, by omega, by omega, by simpa using htot, by simpa using hfunds⟩

/-- the former division by zero (S20) is an error branch now: without a validator record a
    finalisation pays nothing, burns nothing and leaves the escrow as it is (the proposal is
    marked finalise-failed) -/
theorem distribution_refused_without_validator_record (E : Env) (s s' : St) (pid : PID)
    (hv : cvals s.vals = []) (h : runTx E s (.finalize pid) = .ok s') :
    s'.bal = s.bal ∧ s'.burned = s.burned ∧ (s'.item pid).total = (s.item pid).total ∧
    (s'.item pid).funds = (s.item pid).funds ∧ (s'.item pid).finalized = (s.item pid).finalized := by
  rcases runFinalize_ok h with ⟨rfl, _⟩ | ⟨p, r, d, src, _, _, _, _, _, _, _, _, hpay⟩
  · exact ⟨rfl, rfl, rfl, rfl, rfl⟩
  · rcases hpay with ⟨_, hbal, hburn, hitems⟩ | ⟨hne, _⟩
    · rw [item_of_upsert hitems]
      simp [hbal, hburn]
    · exact absurd hv hne

/-! ## 6b. An expired proposal does not keep its escrow: it is finalised like a failed one

  `Expired it p`: said at its definition (Gov/Lemmas).
  `Settled it p`: `p` is in FINALIZED, no longer in FAILED, total 0, no fund records. -/

/-- BeginBlock queues every expired proposal for finalisation -/
theorem expired_is_queued_for_finalisation (s : St) (h : Int) (pid : PID) (p : Proposal)
    (hf : (s.item pid).failed = some p) (hs : p.status = .completed) (ho : p.outcome = .insufficientVotes) :
    pid ∈ (beginBlock s h).qFinalize := by
  unfold St.item at hf
  cases ha : alookup pid s.items with
  | none => rw [ha] at hf; cases hf
  | some it =>
    rw [ha] at hf
    show pid ∈ sortPids (((s.items.map (fun kv => (kv.1, kv.2.commit))).filter (fun kv => wantsFinalize kv.2)).map (·.1))
    rw [mem_sortPids, List.mem_map]
    refine ⟨(pid, it.commit), List.mem_filter.mpr ⟨List.mem_map.mpr ⟨(pid, it), mem_of_alookup ha, rfl⟩, ?_⟩, rfl⟩
    have : it.commit.failed = some p := hf
    simp [wantsFinalize, this, hs, ho]

/-- its finalisation — by the queue or by anybody's PROPOSAL_FINALIZE — succeeds as soon as there
    is one validator record, with or without vote records: failed distribution, FINALIZED, escrow
    empty, credits + burn = escrow; no other proposal is touched -/
theorem expired_finalisation_succeeds (E : Env) (s : St) (pid : PID) (p : Proposal) (w : WF s)
    (e : Expired (s.item pid) p) (hv : cvals s.vals ≠ []) :
    ∃ s', runTx E s (.finalize pid) = .ok s' ∧ Settled (s'.item pid) p ∧
      (∀ pid', pid' ≠ pid → s'.item pid' = s.item pid') ∧ s'.vals = s.vals ∧
      total s'.bal + (s'.burned - s.burned) = total s.bal + (s.item pid).total := by
  have hdec : (s.item pid).decided = some p := by simp [Item.decided, e.noPassed, e.failed]
  have hfr := finalResult_expired e
  have hrun : runTx E s (.finalize pid) = .ok (distributeAndMove s pid p (s.opts.byType p.ptype).failedDist .failed) := by
    simp [runTx, runFinalize, e.notFinal.1, e.notFinal.2, hdec, e.completed, hfr]
  refine ⟨_, hrun, ?_⟩
  have fr := runFinalize_frame hrun
  obtain ⟨_, _, _, hitems⟩ := distributeAndMove_cases s _ pid p _ .failed rfl
  rcases hitems with ⟨hnil, _⟩ | ⟨_, hbal, hburn, hitems⟩
  · exact absurd hnil hv
  · obtain ⟨hbad, htot, hfunds⟩ := final_clears (w.items pid) hdec hfr
    simp only [hbad, Bool.false_eq_true, if_false] at hitems
    refine ⟨?_, fr.others, fr.vals, ?_⟩
    · rw [item_of_upsert hitems, if_pos rfl]
      exact ⟨by simp, by simp, by simpa using htot, by simpa using hfunds⟩
    · rw [hbal, hburn]
      have := payouts_total s.bal (cvals s.vals) p.proposer s.opts.bountyAddr (s.opts.byType p.ptype).execAddr
        (s.item pid).total (s.opts.byType p.ptype).failedDist
      omega

/-- and EndBlock does it: whatever else the two queues hold, a queued expired proposal is
    FINALIZED with an empty escrow when the block ends -/
theorem endblock_finalises_expired (E : Env) (s : St) (pid : PID) (p : Proposal) (w : WF s)
    (hq : pid ∈ s.qFinalize) (e : Expired (s.item pid) p) (hv : cvals s.vals ≠ []) :
    Settled ((endBlock E s).item pid) p := by
  have hact : (s.item pid).active = none := (w.items pid).active_none (p := p) (by simp [Item.decided, e.noPassed, e.failed])
  -- after the expiries nothing about this proposal has changed
  have p1 := foldl_internal_inv (E := E) .expire (fun x => WF x ∧ x.item pid = s.item pid ∧ x.vals = s.vals) (l := s.qExpire)
    (fun a pid0 _ ⟨wa, hi, hvv⟩ => by
      obtain ⟨f2, f1⟩ := internal_expire E a pid0
      refine ⟨internal_inv WF (wf_runTx wa) wa, ?_, f2.trans hvv⟩
      rcases f1 pid with f1 | ⟨_, f1⟩
      · exact f1.trans hi
      · rw [hi, hact] at f1; exact absurd rfl f1) ⟨w, rfl, rfl⟩
  -- once settled a proposal stays so: finalising it again changes nothing
  have stays : ∀ x q, Settled (x.item pid) p → Settled ((internal E x (.finalize q)).item pid) p := by
    intro x q hs
    by_cases hp : pid = q
    · subst hp
      refine internal_inv (fun y => Settled (y.item pid) p) (fun h1 => ?_) hs
      rcases runFinalize_ok h1 with ⟨rfl, _⟩ | ⟨_, _, _, _, hf1, _⟩
      · exact hs
      · rw [hs.1] at hf1; cases hf1
    · rw [(internal_finalize E x q).others pid hp]; exact hs
  -- the finalisations leave it alone until its turn
  have key : ∀ (l : List PID) (x : St), WF x ∧ x.item pid = s.item pid ∧ x.vals = s.vals → pid ∈ l →
      Settled ((l.foldl (fun acc q => internal E acc (.finalize q)) x).item pid) p := by
    intro l
    induction l with
    | nil => exact fun _ _ hm => nomatch hm
    | cons hd t ih =>
      rintro x ⟨wx, hi, hvv⟩ hm
      by_cases hp : pid = hd
      · subst hp
        obtain ⟨s', hrun, hset, _⟩ := expired_finalisation_succeeds E x pid p wx (hi ▸ e) (hvv ▸ hv)
        rw [List.foldl_cons, internal_of_ok hrun]
        exact foldl_internal_inv .finalize (fun y => Settled (y.item pid) p) (fun a q _ => stays a q) hset
      · have fr := internal_finalize E x hd
        exact ih _ ⟨internal_inv WF (wf_runTx wx) wx, (fr.others pid hp).trans hi, fr.vals.trans hvv⟩
          ((List.mem_cons.mp hm).resolve_left hp)
  exact key s.qFinalize (afterExpiries E s) p1 hq

/-- a finalised proposal is never distributed again: finalising it once more changes nothing -/
theorem finalize_idempotent (E : Env) (s s' : St) (pid : PID)
    (hfin : (s.item pid).finalized.isSome ∨ (s.item pid).finFailed.isSome)
    (h : runTx E s (.finalize pid) = .ok s') : s' = s := by
  rcases runFinalize_ok h with ⟨e, _⟩ | ⟨p, r, d, src, hf1, hf2, _⟩
  · exact e
  · simp [hf1, hf2] at hfin

/-! ## 7. Value accounting of the proposal-fund handlers (for C02) -/

/-- every execution of a governance handler — create, fund, vote, cancel, withdraw, expire,
    finalise with its floor-percentage distribution, fee step included — conserves
    balances (fee pool included) + escrow totals + burned:
    Σ payouts + fee-pool remainder + burn = escrow total -/
theorem gov_handlers_conserves_value (E : Env) (s s' : St) (op : Op) (w : WF s) (h : runTx E s op = .ok s') :
    value s' + s'.burned = value s + s.burned := runTx_value w h

/-- the same for whole blocks: every operation of a history except a balance change made by
    another subsystem — transactions from any account, BeginBlock, EndBlock with the queued
    expiries and finalisations, validator record changes — conserves balances + escrow + burned -/
theorem gov_history_conserves_value (E : Env) (s : St) (op : Op) (w : WF s) (hop : ∀ a v, op ≠ .setBal a v) :
    value (step E s op).1 + (step E s op).1.burned = value s + s.burned := by
  let P : St → Prop := fun x => WF x ∧ value x + x.burned = value s + s.burned
  have tx : ∀ {a a' op}, P a → runTx E a op = .ok a' → P a' :=
    fun ha h => ⟨wf_runTx ha.1 h, (runTx_value ha.1 h).trans ha.2⟩
  cases op with
  | beginBlock h =>
    show total s.bal + sumTotals (s.items.map (fun kv => (kv.1, kv.2.commit))) + s.burned = _
    rw [sumTotals_commit]; rfl
  | endBlock => exact (endBlock_inv P tx ⟨w, rfl⟩).2
  | setVals => rfl
  | setBal a v => exact absurd rfl (hop a v)
  | _ => exact (txStep_inv P tx ⟨w, rfl⟩).2

/-- the floor split itself, for any percentages and any escrow: what is credited plus what is
    burned (burn share + remainder of the division among the validators) is the escrow total -/
theorem distribution_conserves_value (b : L) (vs : List (Addr × ValRec)) (pr bo ex : Addr) (T : Int) (d : Dist) :
    total (payouts b vs pr bo ex T d).1 + (payouts b vs pr bo ex T d).2 = total b + T :=
  payouts_total b vs pr bo ex T d

end OLP.Props.C14

namespace OLP.Gov.Examples
open OLP OLP.Gov OLP.Ledger OLP.Props.C14

/-! ## Non-vacuity: the hypotheses are satisfiable on non-trivial states, and the counterexample -/

def dPass : Dist := { validators := 180000, proposer := 180000, bounty := 100000, exec := 180000, burn := 180000 }
def dFail : Dist := { validators := 100000, proposer := 0, bounty := 500000, exec := 200000, burn := 100000 }
def po (ex : Addr) (pass : Int) : POpt :=
  { initialFunding := 10, fundingGoal := 100, votingDeadline := 4, passPercent := pass,
    passedDist := dPass, failedDist := dFail, execAddr := ex }
def opts0 (pass : Int) : Opts :=
  { config := po "xc" pass, code := po "xk" pass, general := po "xg" pass, bountyAddr := "bounty",
    minFeeDecimal := 9, perBlockFees := 1, baseDomainPrice := 0, luhFee := 0, luhOns := 0, other := [] }
def vals0 : List (Addr × ValRec) :=
  [("v1", { power := 33, active := true, committed := true }), ("v2", { power := 33, active := true, committed := true }),
   ("v3", { power := 34, active := true, committed := true })]
def bal0 : L := [("alice", 1000), ("bob", 1000), ("mallory", 50)]
def g0 : St := { initSt (opts0 51) vals0 bal0 with height := 5 }

theorem optsOK0 : OptsOK (opts0 51) := by intro t; cases t <;> decide
theorem votingOK0 : VotingOK (opts0 51) := by intro t; cases t <;> decide
theorem wf_g0 : WF g0 := by
  exact { wf_init (opts0 51) vals0 bal0 optsOK0 votingOK0 with
    fresh := fun pid p ha => by simp [g0, initSt, St.item] at ha
    queue := fun pid hp => by simp [g0, initSt] at hp }

/-- alice creates a general proposal (funding deadline 9, voting deadline 13) -/
def g1 : St := run smallEnv g0 [.create "p" .general "alice" 20 9 100 13 51 "" 1]

/-- a full lifecycle: bob funds to the goal in block 6 (snapshot 33/33/34), v3 and v1 vote yes in
    block 7 (67 ≥ 51 %: passed), EndBlock 8 finalises and distributes the 100 units -/
def g2 : St := run smallEnv g1 [.beginBlock 6, .fund "p" "bob" 80 1, .endBlock]
def g3 : St := run smallEnv g2 [.beginBlock 7, .vote "p" "alice" "v3" .yes 1, .vote "p" "bob" "v1" .yes 1, .endBlock]
def g4 : St := run smallEnv g3 [.beginBlock 8, .endBlock]
/-- cancel and refund: alice cancels, then withdraws her 20 in two parts to bob and to herself -/
def c1 : St := run smallEnv g1 [.cancel "p" "alice" 1]
def c2 : St := run smallEnv c1 [.beginBlock 6, .withdraw "p" "alice" 5 "bob" 1, .withdraw "p" "alice" 15 "alice" 1]
/-- … and an internal expiry (voting deadline 10, block 11), finalised in block 12 -/
def e1 : St := run smallEnv g2 [.beginBlock 11]
def e2 : St := run smallEnv e1 [.endBlock, .beginBlock 12]
def pe : Proposal := { ptype := .general, status := .completed, outcome := .insufficientVotes, proposer := "alice", fundingDeadline := 9, fundingGoal := 100, votingDeadline := 10, passPercent := 51, cfg := "" }
def e3 : St := run smallEnv e2 [.endBlock]
/-- the same chain while no validator is marked active: voting begins with an empty snapshot -/
def vals1 : List (Addr × ValRec) :=
  [("v1", { power := 33, active := false, committed := true }), ("v2", { power := 67, active := false, committed := true })]
def n0 : St := { initSt (opts0 51) vals1 bal0 with height := 5 }
def n1 : St := run smallEnv n0 [.create "p" .general "alice" 20 9 100 13 51 "" 1, .beginBlock 6, .fund "p" "bob" 80 1, .endBlock,
  .beginBlock 11, .endBlock, .beginBlock 12]
def n2 : St := run smallEnv n1 [.endBlock]

end OLP.Gov.Examples

namespace OLP.Props.C14
open OLP OLP.Gov OLP.Ledger OLP.Gov.Examples
/-- regression for the repaired S19 (KF-C14-1): at height 5 the proposal is in its FUNDING stage,
    deadlines 9 and 13 ahead; mallory — neither proposer, funder nor validator — sends
    EXPIRE_VOTES: refused with "not in voting status", nothing changes, nothing is charged -/
theorem outsider_expiry_before_deadline_refused :
    ((g1.item "p").active.map (fun p => (p.status, p.fundingDeadline, p.votingDeadline))) = some (.funding, 9, 13) ∧
    g1.height = 5 ∧
    (step smallEnv g1 (.expire "p")).2 = .err .statusNotVoting ∧
    ((step smallEnv g1 (.expire "p")).1.item "p") = g1.item "p" ∧
    (step smallEnv g1 (.expire "p")).1.bal = g1.bal := by decide +kernel

/-- … also in the voting stage while the deadline (10) has not passed; at height 11 anybody may -/
theorem outsider_expiry_in_voting_stage :
    (step smallEnv (run smallEnv g2 [.beginBlock 10]) (.expire "p")).2 = .err .statusNotVoting ∧
    (step smallEnv (run smallEnv g2 [.beginBlock 11]) (.expire "p")).2 = .ok := by decide +kernel

/-- regression for the repaired tally (KF-C14-2): pass percentage 67, powers 33/33/34, one NO of
    power 33 is exactly the boundary (100−33)/100 = 67/100: the proposal stays undecided, and a
    second NO fails it -/
theorem boundary_vote_stays_undecided :
    decide3 0 33 100 0 67 = .tbd ∧ decide3 0 66 100 0 67 = .failed ∧ decide3 67 33 100 0 67 = .passed := by decide

example : (g2.item "p").active.map (·.status) = some .voting ∧ powers (g2.item "p").votes = [("v1", 33), ("v2", 33), ("v3", 34)] := by decide +kernel
example : (g3.item "p").passed.map (·.outcome) = some .completedYes ∧ (g3.item "p").rank = 3 := by decide +kernel
example : (g4.item "p").finalized.isSome ∧ (g4.item "p").total = 0 ∧ (g4.item "p").rank = 4 ∧
    bal g4.bal "v1" = 6 ∧ bal g4.bal "bounty" = 10 ∧ bal g4.bal "xg" = 18 ∧ g4.burned = 18 ∧
    value g4 + g4.burned = value g0 + g0.burned := by decide +kernel

/-- `WF`, `OptsOK`, `Dist.OK` hold of these states; the hypotheses of the theorems above are met -/
example : WF g3 := wf_reachable smallEnv _ _ (wf_reachable smallEnv _ _ (wf_reachable smallEnv g0 _ wf_g0))
example : (dPass).OK ∧ (dFail).OK := ⟨⟨by decide, by decide, by decide, by decide, by decide, by decide⟩,
  ⟨by decide, by decide, by decide, by decide, by decide, by decide⟩⟩
example : ∃ s', runTx smallEnv (beginBlock g3 8) (.finalize "p") = .ok s' ∧ (s'.item "p").finalized.isSome := by
  refine ⟨_, rfl, by decide⟩

example : (c1.item "p").queryAll.map (·.outcome) = some .cancelled ∧ (c1.item "p").total = 20 := by decide
example : (c2.item "p").total = 0 ∧ bal c2.bal "bob" = 1005 ∧ fundAmount (c2.item "p").funds "alice" = 0 := by decide +kernel
example : e1.qExpire = ["p"] ∧ ((step smallEnv e1 .endBlock).1.item "p").failed.map (·.outcome) = some .insufficientVotes := by decide +kernel

/-- regression for the repaired locked escrow (53b7f97): the proposal that expired in block 11 is
    queued in block 12 and finalised at its end with the failed distribution; value is conserved -/
theorem expired_proposal_is_finalised_next_block :
    e2.qFinalize = ["p"] ∧ (e2.item "p").total = 100 ∧
    (e3.item "p").finalized.isSome ∧ (e3.item "p").failed = none ∧ (e3.item "p").total = 0 ∧ (e3.item "p").funds = [] ∧
    bal e3.bal "bounty" = 50 ∧ value e3 + e3.burned = value g0 + g0.burned := by decide +kernel

/-- the hypotheses of `expired_finalisation_succeeds` / `endblock_finalises_expired` are met there -/
example : Expired (e2.item "p") pe ∧ "p" ∈ e2.qFinalize ∧ cvals e2.vals ≠ [] :=
  ⟨⟨by decide, by decide, by decide, by decide, by decide, by decide⟩, by decide, by decide⟩

/-- regression for ef9520b: voting began while no validator was active (no vote records at all);
    the expired proposal is finalised all the same -/
theorem expired_without_vote_records_is_finalised :
    (n1.item "p").votes = [] ∧ (n1.item "p").failed.map (·.outcome) = some .insufficientVotes ∧ n1.qFinalize = ["p"] ∧
    (n2.item "p").finalized.isSome ∧ (n2.item "p").total = 0 ∧ value n2 + n2.burned = value n0 + n0.burned := by decide +kernel

end OLP.Props.C14
