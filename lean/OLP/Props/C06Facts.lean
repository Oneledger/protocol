/-
  C06 — obligations over the REGENERATED fact tables (tie T3).
-/
import OLP.Props.SourceFacts

namespace OLP.Props.C06.Facts
open OLP.Expect

/-- DeliverTx: index lookup, BeginTxSession, ProcessDeliver, ProcessFee, and
    `if !(ok && feeOk) { Discard } else { Commit }` — the shape `OLP.Shell.deliverTx` models -/
theorem deliverer_discipline :
    OLP.Gen.sessionRule.filter (fun r => r.fn == "txDeliverer") =
    sessionRule.filter (fun r => r.fn == "txDeliverer") := by decide +kernel

/-- the only deliver-path writers of in-memory option copies are the governance update functions
    (run inside PROPOSAL_FINALIZE, which never fails after they ran) -/
theorem volatile_setters_as_classified : OLP.Gen.volatileSets = volatileSets := by rfl

/-- the ABCI entry points the shell model ports are unchanged since the port was validated -/
theorem entry_points_source_pinned :
    OLP.Expect.pinnedOf OLP.Gen.pinned (pinnedShell.map (fun r => r.fn)) = pinnedShell :=
  Source.entry_points_source_pinned

end OLP.Props.C06.Facts
