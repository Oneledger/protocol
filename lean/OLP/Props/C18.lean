/-
  C18 — No transaction input can crash or halt the node.
  Proof over a PARTIAL model: the crash sites of the coin arithmetic (data/balance/coin.go) and the
  guard idiom that protects them. Go runtime panics inside libraries (JSON / RLP / ABI decoding) are
  not modelled; they are searched by the child-process engine only (DESIGN §8).
-/
import OLP.Crash.Model

namespace OLP.Props.C18
open OLP.Crash

theorem toCoin_unknown (known : List String) (cur : String) (v : Int) (h : known.contains cur = false) :
    toCoin known cur v = { cur := "", amt := none } ∧ (toCoin known cur v).isValid = false := by
  have : toCoin known cur v = { cur := "", amt := none } := by
    unfold toCoin; rw [h]; rfl
  exact ⟨this, by rw [this]; rfl⟩

theorem minus_same_currency_never_crashes (a b : Coin) (hc : a.cur = b.cur) (hb : b.amt.isSome) :
    a.minus b ≠ .crash := by
  unfold Coin.minus
  cases hb' : b.amt with
  | none => simp [hb'] at hb
  | some y => simp [hc]; split <;> simp

theorem plus_same_currency_never_crashes (a b : Coin) (hc : a.cur = b.cur) (ha : a.amt.isSome)
    (hb : b.amt.isSome) : a.plus b ≠ .crash := by
  unfold Coin.plus
  cases ha' : a.amt with
  | none => simp [ha'] at ha
  | some x =>
    cases hb' : b.amt with
    | none => simp [hb'] at hb
    | some y => simp [hc]

/-- the guarded handler never crashes, whatever currency name and value the payload carries,
    provided the stored records are OLT coins with non-nil amounts (they are only ever written by
    these handlers, from valid OLT coins) -/
theorem guarded_undelegate_never_crashes (known : List String) (active pending : Coin) (cur : String)
    (v : Int) (ha : active.cur = "OLT") (hp : pending.cur = "OLT") (hpa : pending.amt.isSome) :
    undelegateGuarded known active pending cur v ≠ .crash := by
  unfold undelegateGuarded
  by_cases hv : (toCoin known cur v).isValid
  · by_cases ho : (toCoin known cur v).cur = "OLT"
    · simp only [hv, ho, Bool.not_true, bne_self_eq_false, Bool.false_eq_true, ↓reduceIte]
      unfold undelegateUnguarded
      have hsome : (toCoin known cur v).amt.isSome := by
        unfold Coin.isValid at hv
        cases h : (toCoin known cur v).amt with
        | none => simp [h] at hv
        | some _ => simp
      have h1 := minus_same_currency_never_crashes active (toCoin known cur v) (by rw [ha, ho]) hsome
      have h2 := plus_same_currency_never_crashes pending (toCoin known cur v) (by rw [hp, ho]) hpa hsome
      dsimp only
      split
      · exact absurd ‹_› h1
      · nofun
      · split
        · exact absurd ‹_› h2
        all_goals nofun
    · simp [hv, ho]
  · simp [hv]

/-- without the guard one correctly signed transaction with an unknown currency exits the process
    (the defect repaired by "validate the amount of undelegate, reward withdrawal and reinvest") -/
theorem unguarded_undelegate_crashes :
    undelegateUnguarded ["OLT", "VT"] { cur := "OLT", amt := some 10 } { cur := "OLT", amt := some 0 } "XYZ" 5
      = .crash := by rfl

theorem guarded_undelegate_rejects_unknown_currency :
    undelegateGuarded ["OLT", "VT"] { cur := "OLT", amt := some 10 } { cur := "OLT", amt := some 0 } "XYZ" 5
      = .err := by rfl

example : undelegateGuarded ["OLT"] { cur := "OLT", amt := some 10 } { cur := "OLT", amt := some 0 } "OLT" 4
    = .ok ({ cur := "OLT", amt := some 6 }, { cur := "OLT", amt := some 4 }) := by rfl

end OLP.Props.C18
