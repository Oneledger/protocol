/-
  C06 — Failed transactions are atomic no-ops.
  Statements about the shell model (OLP/Shell/Model.lean) for ARBITRARY handler programs.

  The gas carve-out: a failed transaction advances the running gas total of the block and nothing
  else (`failed_tx_noop`). Hence removing the failed transactions of a block changes nothing else
  (`remove_failed_same_block`): the block hooks run unmetered (359026c, fc77c5a), so the level the
  failed transactions left behind is seen by later TRANSACTIONS only, and one that did not fail ran
  below the limit throughout. The hypotheses on the handlers follow from their syntax
  (`RoomBlind.of_syntax`), a concrete block meets all of them (`remove_failed_instance`), and the
  block that was a counterexample while the EndBlock hooks were metered is none any more
  (`remove_failed_former_counterexample_holds`).
-/
import OLP.Shell.GasShift

namespace OLP.Props.C06
open OLP OLP.KV OLP.Shell

variable {K V C E T H D : Type} [DecidableEq K] [DecidableEq V] [DecidableEq C] [DecidableEq H]
variable (cfg : Cfg K V) (hs : Handlers K V C E T H D) (e : E)

/-- whatever the handler and fee programs did before failing, tree, block cache, check state,
    index and height are exactly as before; no session is left open -/
theorem failed_tx_keeps_store (n : Node K V C T H D) (tx : T)
    (hf : (deliverTx cfg hs e n tx).2.ok = false) :
    let n' := (deliverTx cfg hs e n tx).1
    n'.tree = n.tree ∧ n'.dlv.cache = n.dlv.cache ∧ n'.dlv.metered = n.dlv.metered ∧
    n'.dlv.gas.limit = n.dlv.gas.limit ∧ n'.chk = n.chk ∧ n'.idx = n.idx ∧ n'.height = n.height ∧
    (lookupIdx n.idx (hs.hash tx) = none → n'.dlv.sess = none) := by
  revert hf
  refine deliverTx_cases cfg hs e n tx
    (fun r h _ => ⟨rfl, rfl, rfl, rfl, rfl, rfl, rfl, fun h' => by rw [h] at h'; cases h'⟩)
    fun _ hf => ?_
  have f := deliverCore_frame cfg hs e n tx
  exact ⟨f.tree, f.cache hf, f.metered, f.limit, f.chk, f.idx, f.height, fun _ => f.sess⟩

/-- if, in addition, deliver-path programs write no volatile cell, the running gas total is the
    only thing a failed transaction advances -/
theorem failed_tx_noop (hnv : DeliverNoVset hs) (n : Node K V C T H D) (tx : T)
    (hs0 : n.dlv.sess = none) (hf : (deliverTx cfg hs e n tx).2.ok = false) :
    ∃ d, ShiftNode d n (deliverTx cfg hs e n tx).1 :=
  deliverTx_failed_shift cfg hs e hnv hs0 hf

/-- a transaction that succeeded lands in the block cache through `CommitTxSession` only: the
    tree itself is never touched before Commit -/
theorem deliver_never_touches_tree (n : Node K V C T H D) (tx : T) :
    (deliverTx cfg hs e n tx).1.tree = n.tree :=
  (deliverTx_frame cfg hs e n tx).tree

/-! ### removing the failed transactions

  The hypotheses are the ones real handlers meet (`RoomBlind`, which follows from the SYNTAX of the
  programs by `RoomBlind.of_syntax`: no `.gas` node outside the fee step, no negative `.burn`).
  Nothing is asked of the block hooks beyond `AllAimed`, and nothing of the block's gas meter: the
  hooks run on the unmetered view of the deliver state (`runHook`). All hypotheses are proved for a
  concrete block below (`Non-vacuity`). -/

/-- removing every failed transaction from a list of transactions yields the same results for
    the remaining ones and the same state up to the gas level, which the failed ones can only
    have advanced (`0 ≤ d`).

    No premise on the meter is needed here: since `txDeliverer` fails a transaction that ends
    with the block gas used up, a transaction that did NOT fail ran below the limit throughout,
    and so does its twin in the run without the failed ones, whose level is lower. Transactions
    delivered after the meter ran out have all failed and are removed with the others. -/
theorem remove_failed_deliverAll (hb : RoomBlind cfg hs) (hnv : DeliverNoVset hs)
    (n : Node K V C T H D) (hs0 : n.dlv.sess = none) (txs : List T) :
    let r := deliverAll cfg hs e n txs
    let r' := deliverAll cfg hs e n (survivors txs r.2)
    r'.2 = r.2.filter (·.ok) ∧ ∃ d, 0 ≤ d ∧ ShiftNode d r'.1 r.1 :=
  deliverAll_room_shift cfg hs e hb hnv txs 0 n n (Int.le_refl 0) (ShiftNode.rfl0 n) hs0

/-- EndBlock leaves the block's gas meter exactly where the last transaction left it, and
    BeginBlock hands the transactions a meter at 0: the block hooks run unmetered -/
theorem hooks_keep_meter (n : Node K V C T H D) :
    (endBlock cfg hs e n).dlv.gas = n.dlv.gas ∧ (endBlock cfg hs e n).dlv.metered = n.dlv.metered ∧
    (beginBlock cfg hs e n).dlv.gas = ⟨hs.gasLimit, 0⟩ ∧ (beginBlock cfg hs e n).dlv.metered = true :=
  ⟨(endBlock_gas cfg hs e n).1, (endBlock_gas cfg hs e n).2,
   hooks_gas cfg e _ { n with dlv := Ov.fresh hs.gasLimit }⟩

theorem blockEndGas_eq_after_txs (n : Node K V C T H D) (txs : List T) :
    blockEndGas cfg hs e n txs = (deliverAll cfg hs e (beginBlock cfg hs e n) txs).1.dlv.gas :=
  (endBlock_gas cfg hs e _).1

/-- only the EndBlock hooks need to be aimed at the deliver state (the BeginBlock hooks may be aimed
    anywhere: both blocks begin from the same node): the transactions are covered by
    `remove_failed_deliverAll`, the EndBlock hooks do the same from two nodes that differ in the
    level of the meter only (`endBlock_shift`), and Commit does not look at the meter -/
theorem remove_failed_of_endb_aimed (hb : RoomBlind cfg hs) (hnv : DeliverNoVset hs)
    (ha : ∀ h, ∀ hk ∈ hs.endb h, hk.1 = true) (n : Node K V C T H D) (txs : List T) :
    let r := execBlock cfg hs e n txs
    let r' := execBlock cfg hs e n (survivors txs r.2.results)
    r'.2.results = r.2.results.filter (·.ok) ∧ r'.2.log = r.2.log ∧
    r'.1.tree = r.1.tree ∧ r'.1.vol = r.1.vol ∧ r'.1.height = r.1.height := by
  obtain ⟨h1, d, _, h2⟩ := remove_failed_deliverAll cfg hs e hb hnv (beginBlock cfg hs e n)
    (beginBlock_sess cfg hs e n) txs
  obtain ⟨c1, c2, c3⟩ := commit_shift cfg hs (endBlock_shift cfg hs e ha h2)
  exact ⟨h1, congrArg (fun t : Tree K V => t.log.drop n.tree.log.length) c1.symm, c1.symm, c2.symm,
    c3.symm⟩

/-- block level: removing the failed transactions of a block gives the same surviving results,
    the same commit write log (hence the same application hash), the same tree, volatile memory and
    height — WHATEVER the level of the block's gas meter, used up or not.

    `AllAimed` is needed for the EndBlock hooks: the block without its failed transactions may
    deliver nothing at all, and a hook that does not re-aim its stores would then run against the
    check state instead. -/
theorem remove_failed_same_block (hb : RoomBlind cfg hs)
    (hnv : DeliverNoVset hs) (ha : AllAimed hs) (n : Node K V C T H D) (txs : List T) :
    let r := execBlock cfg hs e n txs
    let r' := execBlock cfg hs e n (survivors txs r.2.results)
    r'.2.results = r.2.results.filter (·.ok) ∧ r'.2.log = r.2.log ∧
    r'.1.tree = r.1.tree ∧ r'.1.vol = r.1.vol ∧ r'.1.height = r.1.height :=
  remove_failed_of_endb_aimed cfg hs e hb hnv (fun h => (ha h).2) n txs

/-- a block whose meter has room at its end had room after its last transaction (hence, by
    `deliverAll_mono`, after each one), whatever the hooks do: they run unmetered -/
theorem block_room_after_txs
    (n : Node K V C T H D) (txs : List T) (hroom : hasRoom (blockEndGas cfg hs e n txs)) :
    hasRoom (deliverAll cfg hs e (beginBlock cfg hs e n) txs).1.dlv.gas := by
  rw [← blockEndGas_eq_after_txs]
  exact hroom

/-- an application without EndBlock hooks does not even need `AllAimed` (its BeginBlock hooks may
    be aimed anywhere: both blocks begin from the same node) -/
theorem remove_failed_same_block_of_no_hooks (hb : RoomBlind cfg hs) (hnv : DeliverNoVset hs)
    (hne : ∀ h, hs.endb h = []) (n : Node K V C T H D) (txs : List T) :
    let r := execBlock cfg hs e n txs
    let r' := execBlock cfg hs e n (survivors txs r.2.results)
    r'.2.results = r.2.results.filter (·.ok) ∧ r'.2.log = r.2.log ∧
    r'.1.tree = r.1.tree ∧ r'.1.vol = r.1.vol ∧ r'.1.height = r.1.height :=
  remove_failed_of_endb_aimed cfg hs e hb hnv (fun h hk hm => by rw [hne] at hm; cases hm) n txs

/-! ## Non-vacuity -/

/-- a handler that writes key 1, then key 2, then fails if the transaction is 0 -/
def exH : Handlers Nat Nat Nat Unit Nat Nat Nat :=
  { hash := id, validate := fun _ => .ret (), check := fun _ => .ret 0,
    deliver := fun tx => .set 1 tx (fun _ => .set 2 tx (fun _ => if tx = 0 then .fail else .ret tx)),
    fee := fun _ g0 => .gas (fun g => .ret (g - g0)),
    begin := fun _ => [], endb := fun _ => [], gasLimit := 1000000 }
def exCfg : Cfg Nat Nat := { tomb := 0, vlen := fun _ => 1, lt := fun a b => decide (a < b) }
def exN : Node Nat Nat Nat Nat Nat Nat :=
  { tree := Tree.empty ⟨1, 0, 0⟩, dlv := Ov.fresh 1000000, chk := Ov.fresh 1000000, vol := fun _ => none,
    idx := [], aim := .check, height := 0, closed := false }

example : (deliverTx exCfg exH () exN 0).2.ok = false ∧ (deliverTx exCfg exH () exN 7).2.ok = true ∧
    (deliverTx exCfg exH () exN 7).1.dlv.cache = [(1, 7), (2, 7)] ∧
    (deliverTx exCfg exH () exN 0).1.dlv.cache = [] := by decide

/-! ### a concrete block that meets ALL hypotheses of `remove_failed_same_block`

  Transaction 0 fails after partial writes and a further burn. The fee step reports the gas used
  since the start level. One EndBlock hook, aimed at the deliver state, reads key 1 and records its
  value under key 9 (outside any session, on the unmetered view of the deliver state: served
  whatever the level of the block's meter, and charged to nobody). The block gas limit is a
  parameter. -/

def rmCfg : Cfg Nat Nat := { tomb := 0, vlen := fun _ => 1, lt := fun a b => decide (a < b) }

def rmH (limit : Int) : Handlers Nat Nat Nat Unit Nat Nat Nat :=
  { hash := id, validate := fun _ => .burn 5 (.ret ()), check := fun _ => .ret 0,
    deliver := fun tx => .get 1 (fun _ => .set 1 (tx + 1) (fun _ => .set 2 (tx + 1) (fun _ =>
      if tx = 0 then .burn 500 .fail else .ret tx))),
    fee := fun _ g0 => .gas (fun g => .ret (g - g0)),
    begin := fun _ => [],
    endb := fun _ => [(true, .get 1 (fun r => match r with
      | .val (some v) => .set 9 v (fun _ => .ret ())
      | _ => .ret ()))],
    gasLimit := limit }

def rmN (limit : Int) : Node Nat Nat Nat Nat Nat Nat :=
  { tree := Tree.empty ⟨1, 0, 0⟩, dlv := Ov.fresh limit, chk := Ov.fresh limit, vol := fun _ => none,
    idx := [], aim := .check, height := 0, closed := false }

/-- the handlers are `RoomBlind`, whatever the limit: by syntax -/
theorem rm_roomBlind (limit : Int) : RoomBlind rmCfg (rmH limit) :=
  RoomBlind.of_syntax rmCfg (rmH limit) (fun _ => ⟨trivial, by decide, trivial⟩)
    (fun tx => ⟨fun _ _ _ => by split <;> trivial,
      fun _ _ _ => by split <;> first | trivial | exact ⟨by decide, trivial⟩⟩)
    (fun _ x => .ret x) (fun _ _ => rfl) (fun _ _ => ⟨trivial, trivial⟩)

theorem rm_noVset (limit : Int) : DeliverNoVset (rmH limit) := fun tx =>
  ⟨trivial, fun _ _ _ => by split <;> trivial, fun _ _ => trivial⟩

theorem rm_aimed (limit : Int) : AllAimed (rmH limit) := fun _ =>
  ⟨fun _ hm => (by cases hm), fun _ hm => by rw [List.mem_singleton.mp hm]⟩

/-- what the block does: transaction 0 fails, after it wrote keys 1 and 2 into its session
    (which is discarded), the other two succeed; 25 + 527 + 27 units of gas are consumed by the
    transactions, none by the EndBlock hook -/
theorem rm_block_facts :
    let r := execBlock rmCfg (rmH 10000) () (rmN 10000) [5, 0, 7]
    r.2.results = [⟨true, some 5, 25⟩, ⟨false, none, 527⟩, ⟨true, some 7, 27⟩] ∧
    survivors [5, 0, 7] r.2.results = [5, 7] ∧
    (txRun rmCfg (rmH 10000) () 0 ((Ov.fresh 10000).toSt (rmN 10000).tree).begin (fun _ => none)).2.1.sess
      = some [(1, 1), (2, 1)] ∧
    r.2.log = [.set 1 8, .set 2 8, .set 9 8, .save] ∧
    blockEndGas rmCfg (rmH 10000) () (rmN 10000) [5, 0, 7] = ⟨10000, 579⟩ := by
  dsimp only
  decide +kernel

theorem remove_failed_instance :
    let r := execBlock rmCfg (rmH 10000) () (rmN 10000) [5, 0, 7]
    let r' := execBlock rmCfg (rmH 10000) () (rmN 10000) (survivors [5, 0, 7] r.2.results)
    r'.2.results = r.2.results.filter (·.ok) ∧ r'.2.log = r.2.log ∧
    r'.1.tree = r.1.tree ∧ r'.1.vol = r.1.vol ∧ r'.1.height = r.1.height :=
  remove_failed_same_block rmCfg (rmH 10000) () (rm_roomBlind 10000)
    (rm_noVset 10000) (rm_aimed 10000) (rmN 10000) [5, 0, 7]

/-- … and its conclusion, spelled out and recomputed: the block without transaction 0 -/
example :
    (execBlock rmCfg (rmH 10000) () (rmN 10000) [5, 7]).2.results =
      [⟨true, some 5, 25⟩, ⟨true, some 7, 27⟩] ∧
    (execBlock rmCfg (rmH 10000) () (rmN 10000) [5, 7]).2.log = [.set 1 8, .set 2 8, .set 9 8, .save] ∧
    blockEndGas rmCfg (rmH 10000) () (rmN 10000) [5, 7] = ⟨10000, 52⟩ := by
  decide

/-! ### no premise on the meter -/

/-- The block that WAS a counterexample while the EndBlock hooks were metered. Same handlers, block
    gas limit 300: the failed transaction 0 uses up the meter (552 of 300). The EndBlock hook's
    read used to be refused then, it wrote nothing, and the commit log of the full block lacked
    `.set 9 6`. The hook now runs unmetered: it is served with and without transaction 0, the two
    commit logs are the same list, and the conclusion of `remove_failed_same_block` holds although
    the meter has no room. -/
theorem remove_failed_former_counterexample_holds :
    let r := execBlock rmCfg (rmH 300) () (rmN 300) [5, 0]
    let r' := execBlock rmCfg (rmH 300) () (rmN 300) (survivors [5, 0] r.2.results)
    ¬ hasRoom (blockEndGas rmCfg (rmH 300) () (rmN 300) [5, 0]) ∧
    blockEndGas rmCfg (rmH 300) () (rmN 300) [5, 0] = ⟨300, 552⟩ ∧
    survivors [5, 0] r.2.results = [5] ∧
    r.2.results = [⟨true, some 5, 25⟩, ⟨false, none, 527⟩] ∧
    r'.2.results = r.2.results.filter (·.ok) ∧
    r.2.log = [.set 1 6, .set 2 6, .set 9 6, .save] ∧ r'.2.log = [.set 1 6, .set 2 6, .set 9 6, .save] ∧
    r'.2.log = r.2.log := by
  dsimp only
  decide +kernel

theorem remove_failed_former_counterexample_instance :
    let r := execBlock rmCfg (rmH 300) () (rmN 300) [5, 0]
    let r' := execBlock rmCfg (rmH 300) () (rmN 300) (survivors [5, 0] r.2.results)
    r'.2.results = r.2.results.filter (·.ok) ∧ r'.2.log = r.2.log ∧
    r'.1.tree = r.1.tree ∧ r'.1.vol = r.1.vol ∧ r'.1.height = r.1.height :=
  remove_failed_same_block rmCfg (rmH 300) () (rm_roomBlind 300)
    (rm_noVset 300) (rm_aimed 300) (rmN 300) [5, 0]

/-- why `failed_tx_noop` carves out the gas level: a failed transaction that uses up the meter
    makes a later TRANSACTION fail that succeeds without it (its read is refused, its handler still
    returns, and `txDeliverer` fails it because the block gas is used up). That later transaction
    has then failed too, and `remove_failed_*` remove it with the first: this is why the removal
    theorems remove ALL failed transactions while removing ONE would need a premise on the meter.
    (Transactions only: the block hooks are not starved, they run unmetered.) -/
theorem failed_tx_starves_later :
    let n := beginBlock rmCfg (rmH 300) () (rmN 300)
    (deliverAll rmCfg (rmH 300) () n [0, 7]).2 = [⟨false, none, 525⟩, ⟨false, some 7, 5⟩] ∧
    (deliverAll rmCfg (rmH 300) () n [7]).2 = [⟨true, some 7, 25⟩] := by
  dsimp only
  decide

end OLP.Props.C06
