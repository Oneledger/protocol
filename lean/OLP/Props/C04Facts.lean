/-
  C04 — obligations over the REGENERATED fact tables (tie T3, `olx` on /repo's working tree).

  `validateRows` has one row per Go type implementing `action.Tx` (so every handler that could
  ever be put into a router, not only the ones registered today), classified by the shape of its
  `Validate(ctx, signedTx)`:
    basic      `msg.Unmarshal(tx.Data)` and `action.ValidateBasic(tx.RawBytes(), msg.Signers(),
               tx.Signatures)`, each followed by `if err != nil { return false, … }`, at the top
               level of the body and before any `return true`
    ethSigner  the same with `msg.validateSigner(ctx, tx)` (OLVM, EIP-155 sender recovery)
    rejectAll  every return is `false, …` (unknownTx)
    unchecked  anything else
  `retsOK`: every return is `(false, non-nil)` or `(true, nil)`, so the `err != nil` test of
  txChecker and the `err != nil || !valid` test of txDeliverer see the same verdict.
  These rows are the syntactic content of premise `ValidatesSignatures` of
  `OLP.Props.C04.checkTx_admits_only_validated` / `deliverTx_executes_only_validated`.
-/
import OLP.Gen.Facts

namespace OLP.Props.C04.Facts
open OLP.Gen

def sigChecked (v : ValidateRow) : Bool :=
  (v.cls == "basic" ||
   (v.cls == "ethSigner" && v.handler == "action/olvm.olvmTx") ||
   (v.cls == "rejectAll" && v.handler == "action.unknownTx")) && v.retsOK

/-- every implementation of `action.Tx` checks signatures over `RawBytes()` against `Signers()`
    of the payload it parsed (OLVM: recovers the sender; unknownTx: rejects) before accepting -/
theorem every_handler_checks_signatures : validateRows.all sigChecked = true := by decide +kernel

/-- the one registration whose handler is not a literal: the loop over `ExtTxs` in
    `external_apps.RegisterExtApp`; its elements are the `common.ExtTx{…}` literals (rows `ext:`) -/
def dynamicRoute : RouteRow := ⟨"external_apps.RegisterExtApp", "tx.Msg.Type()", "dynamic:tx.Tx"⟩

/- The two facts that join `routeRows` to `validateRows` on the handler's name are decided in ONE
   evaluation. Nearly all of its cost is the kernel turning each string literal into its bytes the
   first time it is compared (quadratic in the length, then remembered until the evaluation ends), so
   the second fact comes almost for free beside the first and would cost as much again alone. -/
theorem routes_against_handlers :
    routeRows.all (fun r => r == dynamicRoute ||
      validateRows.any (fun v => v.handler == r.handler && sigChecked v)) = true ∧
    (routeRows.filter (fun r => r != dynamicRoute &&
      !validateRows.any (fun v => v.handler == r.handler && v.cls == "basic"))).map (·.kind) =
    ["action.OLVM"] := by decide +kernel

/-- every kind registered in a router (public, internal, external apps) is served by a handler
    whose `Validate` checks signatures -/
theorem every_registered_kind_validates :
    routeRows.all (fun r => r == dynamicRoute ||
      validateRows.any (fun v => v.handler == r.handler && sigChecked v)) = true :=
  routes_against_handlers.1

/-- the native kinds of the public router are all of class `basic`, OLVM is `ethSigner` -/
theorem olvm_is_the_only_non_basic_route :
    (routeRows.filter (fun r => r != dynamicRoute &&
      !validateRows.any (fun v => v.handler == r.handler && v.cls == "basic"))).map (·.kind) =
    ["action.OLVM"] := routes_against_handlers.2

/-- both entry points stop at a failing `Validate`: CheckTx answers `getCode(ok)` with the `ok`
    that came with the error (false, by `retsOK`), DeliverTx answers CodeNotOK -/
theorem validate_guards_present :
    validateGuards =
      [⟨"txChecker", "err != nil", "validate-guard", "getCode(ok).uint32()"⟩,
       ⟨"txDeliverer", "err != nil || !valid", "validate-guard", "CodeNotOK.uint32()"⟩] := by rfl

/-- …and `Validate` runs before ProcessCheck / ProcessDeliver / ProcessFee in both -/
theorem validate_precedes_processing :
    (sessionRule.filter (fun r => r.thenDo == "order")).map (fun r => (r.fn, r.cond)) =
      [("txChecker", "VerifyCache>BeginTxSession>Validate>ProcessCheck>ProcessFee"),
       ("txDeliverer", "GetTxFromCache>BeginTxSession>Validate>ProcessDeliver>ProcessFee")] := by decide +kernel

end OLP.Props.C04.Facts
