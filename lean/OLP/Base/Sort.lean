/-
  Insertion into a sorted list.  The models sort by insertion wherever Go sorts a slice or ranges
  over a map in key order (`KV.insertKey`, `Deleg.insertBy`, `Stake.insertByAddr`, Elect's `insUpd`,
  `insChg`, `insDelta`, `Gov.insertPid`), each with its own test `p`: the new element goes in front of the first
  element it passes the test against.  The lemmas take the two defining equations as hypotheses
  (`fun _ => rfl`, `fun _ _ _ => rfl` at every instance).
  Core-only, like the rest of `OLP/Base`.
-/
namespace OLP

variable {α : Type} {p : α → α → Prop} [DecidableRel p] (ins : α → List α → List α)
  (h0 : ∀ u, ins u [] = [u]) (h1 : ∀ u v t, ins u (v :: t) = if p u v then u :: v :: t else v :: ins u t)
include h0 h1

theorem ins_perm (u : α) (l : List α) : (ins u l).Perm (u :: l) := by
  induction l with
  | nil => rw [h0]
  | cons v t ih =>
    rw [h1]
    split
    · exact .refl _
    · exact (ih.cons v).trans (.swap u v t)

theorem foldr_ins_perm (l : List α) : (l.foldr ins []).Perm l := by
  induction l with
  | nil => exact .refl _
  | cons u t ih => exact (ins_perm ins h0 h1 u _).trans (ih.cons u)

variable {R : α → α → Prop} (hp : ∀ {u v}, p u v → R u v) (hn : ∀ {u v}, ¬ p u v → R v u)
  (tr : ∀ {u v w}, p u v → R v w → R u w)
include hp hn tr

/-- sorted by `R` stays sorted by `R`: an element that passes the test is `R`-below the one it is
    tested against (`hp`) and below whatever that one is below (`tr`); one that fails is above (`hn`).
    For a total preorder `R = p`; for a strict order `p`, `R a b = ¬ p b a` needs no totality. -/
theorem ins_pairwise (u : α) {l : List α} (hl : l.Pairwise R) : (ins u l).Pairwise R := by
  induction l with
  | nil => rw [h0]; exact List.pairwise_singleton R u
  | cons v t ih =>
    obtain ⟨hv, ht⟩ := List.pairwise_cons.mp hl
    rw [h1]
    split
    · next h =>
      exact List.pairwise_cons.mpr ⟨fun w hw => (List.mem_cons.mp hw).elim (· ▸ hp h) fun hw => tr h (hv w hw), hl⟩
    · next h =>
      exact List.pairwise_cons.mpr
        ⟨fun w hw => (List.mem_cons.mp ((ins_perm ins h0 h1 u t).mem_iff.mp hw)).elim (· ▸ hn h) (hv w), ih ht⟩

theorem foldr_ins_pairwise (l : List α) : (l.foldr ins []).Pairwise R := by
  induction l with
  | nil => exact .nil
  | cons u t ih => exact ins_pairwise ins h0 h1 hp hn tr u ih

end OLP
