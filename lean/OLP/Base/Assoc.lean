/-
  Association lists in first-write order: the shape of `storage.sessionCache`
  (`store` map + `keys` slice + `done` map).  `upsert` keeps the position of an
  existing key and appends a new one, exactly as `sessionCache.Set` does.
  Core-only (no Mathlib): this file is linked into the driver executable.
-/
import OLP.Base.Guard

namespace OLP

variable {K V : Type} [DecidableEq K]

/-- lookup by key (first match; keys are unique in every list we build) -/
def alookup (k : K) : List (K × V) → Option V
  | [] => none
  | (k', v) :: t => if k' = k then some v else alookup k t

/-- replace the value of an existing key in place, or append a new pair -/
def upsert : List (K × V) → K → V → List (K × V)
  | [], k, v => [(k, v)]
  | (k', v') :: t, k, v => if k' = k then (k, v) :: t else (k', v') :: upsert t k v

/-- remove a key -/
def aerase : List (K × V) → K → List (K × V)
  | [], _ => []
  | (k', v') :: t, k => if k' = k then aerase t k else (k', v') :: aerase t k

def akeys (l : List (K × V)) : List K := l.map (·.1)

/-! ### Lookup -/

@[simp] theorem alookup_nil (k : K) : alookup k ([] : List (K × V)) = none := rfl

/-- the equation of `alookup`, with the searched key on the left of the test as in the lemmas below -/
theorem alookup_cons (k k' : K) (v : V) (t : List (K × V)) :
    alookup k ((k', v) :: t) = if k = k' then some v else alookup k t := by
  simp only [alookup, eq_comm]

/-- `k` is the key written, `k'` the key looked up -/
theorem alookup_upsert (l : List (K × V)) (k k' : K) (v : V) :
    alookup k' (upsert l k v) = if k' = k then some v else alookup k' l := by
  induction l with
  | nil => exact alookup_cons ..
  | cons hd t ih =>
    obtain ⟨a, b⟩ := hd
    by_cases ha : a = k
    · rw [upsert, if_pos ha, alookup_cons, alookup_cons, ha]
      split <;> rfl
    · rw [upsert, if_neg ha, alookup_cons, alookup_cons, ih]
      by_cases h1 : k' = a
      · rw [if_pos h1, if_pos h1, if_neg (h1 ▸ ha)]
      · rw [if_neg h1, if_neg h1]

@[simp] theorem alookup_upsert_self (l : List (K × V)) (k : K) (v : V) :
    alookup k (upsert l k v) = some v := by
  rw [alookup_upsert, if_pos rfl]

theorem alookup_upsert_ne (l : List (K × V)) (k k' : K) (v : V) (h : k' ≠ k) :
    alookup k' (upsert l k v) = alookup k' l := by
  rw [alookup_upsert, if_neg h]

theorem getD_alookup_upsert (l : List (K × V)) (k k' : K) (v d : V) :
    (alookup k' (upsert l k v)).getD d = if k' = k then v else (alookup k' l).getD d := by
  rw [alookup_upsert]; exact apply_ite (Option.getD · d) ..

theorem alookup_aerase (l : List (K × V)) (k k' : K) :
    alookup k' (aerase l k) = if k' = k then none else alookup k' l := by
  induction l with
  | nil => exact (ite_self none).symm
  | cons hd t ih =>
    obtain ⟨a, b⟩ := hd
    by_cases ha : a = k
    · rw [aerase, if_pos ha, ih, alookup_cons, ha]
      split <;> rfl
    · rw [aerase, if_neg ha, alookup_cons, alookup_cons, ih]
      by_cases h1 : k' = a
      · rw [if_pos h1, if_pos h1, if_neg (h1 ▸ ha)]
      · rw [if_neg h1, if_neg h1]

@[simp] theorem alookup_aerase_self (l : List (K × V)) (k : K) : alookup k (aerase l k) = none := by
  rw [alookup_aerase, if_pos rfl]

theorem alookup_aerase_ne (l : List (K × V)) (k k' : K) (h : k' ≠ k) :
    alookup k' (aerase l k) = alookup k' l := by
  rw [alookup_aerase, if_neg h]

theorem alookup_of_alookup_aerase {l : List (K × V)} {k k' : K} {v : V}
    (h : alookup k' (aerase l k) = some v) : alookup k' l = some v :=
  (of_guard ((alookup_aerase l k k').symm.trans h)).2

theorem alookup_append (l₁ l₂ : List (K × V)) (k : K) :
    alookup k (l₁ ++ l₂) = (alookup k l₁).or (alookup k l₂) := by
  induction l₁ with
  | nil => rfl
  | cons hd t ih =>
    obtain ⟨k', v'⟩ := hd
    by_cases hk : k' = k <;> simp [alookup, hk, ih]

theorem alookup_map_val {W : Type} (l : List (K × V)) (f : V → W) (k : K) :
    alookup k (l.map fun kv => (kv.1, f kv.2)) = (alookup k l).map f := by
  induction l with
  | nil => rfl
  | cons hd t ih =>
    rw [List.map_cons, alookup_cons, alookup_cons, ih]
    split <;> rfl

/-! ### Keys -/

omit [DecidableEq K] in
theorem mem_akeys_cons (k k' : K) (v : V) (t : List (K × V)) :
    k ∈ akeys ((k', v) :: t) ↔ k = k' ∨ k ∈ akeys t := List.mem_cons

theorem mem_akeys_iff_alookup (l : List (K × V)) (k : K) :
    k ∈ akeys l ↔ (alookup k l).isSome := by
  induction l with
  | nil => exact ⟨nofun, nofun⟩
  | cons hd t ih =>
    rw [mem_akeys_cons, alookup_cons, ih]
    split
    · exact ⟨fun _ => rfl, fun _ => .inl ‹_›⟩
    · exact or_iff_right ‹_›

theorem mem_akeys_of_alookup {l : List (K × V)} {k : K} {v : V} (h : alookup k l = some v) :
    k ∈ akeys l :=
  (mem_akeys_iff_alookup l k).mpr (h ▸ rfl)

theorem alookup_eq_none_iff (l : List (K × V)) (k : K) : alookup k l = none ↔ k ∉ akeys l := by
  rw [mem_akeys_iff_alookup]; exact Option.not_isSome_iff_eq_none.symm

theorem alookup_of_not_mem (l : List (K × V)) (k : K) (h : k ∉ akeys l) :
    alookup k l = none :=
  (alookup_eq_none_iff l k).mpr h

theorem akeys_upsert (l : List (K × V)) (k : K) (v : V) :
    akeys (upsert l k v) = if k ∈ akeys l then akeys l else akeys l ++ [k] := by
  induction l with
  | nil => rfl
  | cons hd t ih =>
    obtain ⟨a, b⟩ := hd
    rw [upsert]
    by_cases ha : a = k
    · rw [if_pos ha, if_pos ((mem_akeys_cons ..).mpr (.inl ha.symm)), ha]; rfl
    · rw [if_neg ha, show akeys ((a, b) :: upsert t k v) = a :: akeys (upsert t k v) from rfl, ih,
        apply_ite (a :: ·)]
      simp only [mem_akeys_cons, or_iff_right (Ne.symm ha)]; rfl

theorem akeys_upsert_of_mem (l : List (K × V)) (k : K) (v : V) (h : k ∈ akeys l) :
    akeys (upsert l k v) = akeys l := by
  rw [akeys_upsert, if_pos h]

theorem akeys_upsert_of_not_mem (l : List (K × V)) (k : K) (v : V) (h : k ∉ akeys l) :
    akeys (upsert l k v) = akeys l ++ [k] := by
  rw [akeys_upsert, if_neg h]

/-- `k` is the key written, `k'` the key asked about -/
theorem mem_akeys_upsert (l : List (K × V)) (k k' : K) (v : V) :
    k' ∈ akeys (upsert l k v) ↔ k' = k ∨ k' ∈ akeys l := by
  rw [mem_akeys_iff_alookup, mem_akeys_iff_alookup, alookup_upsert]
  split
  · exact ⟨fun _ => .inl ‹_›, fun _ => rfl⟩
  · exact (or_iff_right ‹_›).symm

theorem nodup_akeys_upsert (l : List (K × V)) (k : K) (v : V) (h : (akeys l).Nodup) :
    (akeys (upsert l k v)).Nodup := by
  rw [akeys_upsert]
  split
  · exact h
  · exact List.nodup_append.mpr ⟨h, List.nodup_cons.mpr ⟨List.not_mem_nil, .nil⟩,
      fun a ha b hb e => ‹k ∉ akeys l› (List.mem_singleton.mp hb ▸ e ▸ ha)⟩

omit [DecidableEq K] in
theorem akeys_map_val {W : Type} (l : List (K × V)) (f : V → W) :
    akeys (l.map fun kv => (kv.1, f kv.2)) = akeys l := by
  simp [akeys, List.map_map, Function.comp_def]

/-! ### Filter -/

theorem alookup_filter_key (p : K → Bool) (l : List (K × V)) (k : K) :
    alookup k (l.filter fun x => p x.1) = if p k then alookup k l else none := by
  induction l with
  | nil => exact (ite_self none).symm
  | cons hd t ih =>
    obtain ⟨a, b⟩ := hd
    rw [List.filter_cons, alookup_cons]
    by_cases ha : k = a
    · rw [← ha, if_pos rfl]
      by_cases hp : p k = true
      · rw [if_pos hp, if_pos hp, alookup_cons, if_pos rfl]
      · rw [if_neg hp, if_neg hp, ih, if_neg hp]
    · rw [if_neg ha, ← ih]
      by_cases hp : p a = true
      · rw [if_pos hp, alookup_cons, if_neg ha]
      · rw [if_neg hp]

/-- a test that also reads the value needs distinct keys (`alookup_filter_key` does not) -/
theorem alookup_filter (p : K × V → Bool) (l : List (K × V)) (hn : (akeys l).Nodup) (k : K) :
    alookup k (l.filter p) = (alookup k l).filter (fun v => p (k, v)) := by
  induction l with
  | nil => rfl
  | cons hd t ih =>
    obtain ⟨a, b⟩ := hd
    have hnd : a ∉ akeys t ∧ (akeys t).Nodup := List.nodup_cons.mp hn
    rw [List.filter_cons, alookup_cons]
    by_cases ha : k = a
    · subst ha
      rw [if_pos rfl, Option.filter_some]
      by_cases hp : p (k, b) = true
      · rw [if_pos hp, if_pos hp, alookup_cons, if_pos rfl]
      · rw [if_neg hp, if_neg hp, ih hnd.2, alookup_of_not_mem t k hnd.1]; rfl
    · rw [if_neg ha, ← ih hnd.2]
      by_cases hp : p (a, b) = true
      · rw [if_pos hp, alookup_cons, if_neg ha]
      · rw [if_neg hp]

omit [DecidableEq K] in
theorem nodup_akeys_filter (p : K × V → Bool) (l : List (K × V)) (h : (akeys l).Nodup) :
    (akeys (l.filter p)).Nodup :=
  h.sublist (List.Sublist.map _ List.filter_sublist)

/-! ### The list after `aerase` and `upsert` -/

theorem aerase_sublist (l : List (K × V)) (k : K) : (aerase l k).Sublist l := by
  induction l with
  | nil => exact .slnil
  | cons hd t ih =>
    unfold aerase
    split
    · exact ih.cons _
    · exact ih.cons_cons _

theorem akeys_aerase (l : List (K × V)) (k : K) :
    akeys (aerase l k) = (akeys l).filter (fun x => decide (x ≠ k)) := by
  induction l with
  | nil => rfl
  | cons hd t ih =>
    have ih' : List.map (·.1) (aerase t k) = List.filter (fun x => decide (x ≠ k)) (List.map (·.1) t) := ih
    by_cases hk : hd.1 = k <;> simp [aerase, akeys, hk, ih']

theorem nodup_akeys_aerase (l : List (K × V)) (k : K) (h : (akeys l).Nodup) : (akeys (aerase l k)).Nodup :=
  h.sublist ((aerase_sublist l k).map _)

theorem aerase_of_not_mem (l : List (K × V)) (k : K) (h : k ∉ akeys l) : aerase l k = l := by
  induction l with
  | nil => rfl
  | cons hd t ih =>
    have h1 : ¬ hd.1 = k := fun e => h (e ▸ List.mem_cons_self)
    simp only [aerase, h1, if_false, ih (fun m => h (List.mem_cons_of_mem _ m))]

theorem upsert_ne_nil (l : List (K × V)) (k : K) (v : V) : upsert l k v ≠ [] := by
  cases l with
  | nil => exact List.cons_ne_nil _ _
  | cons hd t =>
    rw [upsert]
    exact ite_ind (P := (· ≠ [])) (fun _ => List.cons_ne_nil _ _) fun _ => List.cons_ne_nil _ _

theorem upsert_upsert (l : List (K × V)) (k : K) (v v' : V) :
    upsert (upsert l k v) k v' = upsert l k v' := by
  induction l with
  | nil => exact if_pos rfl
  | cons hd t ih =>
    obtain ⟨a, b⟩ := hd
    by_cases ha : a = k <;> simp only [upsert, ha, ↓reduceIte, ih]

/-! ### Pairs, and what holds of every entry -/

theorem mem_of_alookup {l : List (K × V)} {k : K} {v : V} (h : alookup k l = some v) : (k, v) ∈ l := by
  induction l with
  | nil => cases h
  | cons hd t ih =>
    rcases ite_eq_iff.mp ((alookup_cons ..).symm.trans h) with ⟨rfl, e⟩ | ⟨_, e⟩
    · cases e; exact List.mem_cons_self
    · exact List.mem_cons_of_mem _ (ih e)

theorem alookup_of_mem {l : List (K × V)} (hn : (akeys l).Nodup) {p : K × V} (hp : p ∈ l) :
    alookup p.1 l = some p.2 := by
  induction l with
  | nil => cases hp
  | cons hd t ih =>
    have ⟨hnot, hn'⟩ : hd.1 ∉ akeys t ∧ (akeys t).Nodup := List.nodup_cons.mp hn
    rw [alookup_cons]
    rcases List.mem_cons.mp hp with rfl | h
    · exact if_pos rfl
    · rw [if_neg fun e : p.1 = hd.1 => hnot (e ▸ List.mem_map_of_mem h)]; exact ih hn' h

theorem mem_of_mem_upsert {l : List (K × V)} {k : K} {v : V} {p : K × V} (h : p ∈ upsert l k v) :
    p ∈ l ∨ p = (k, v) := by
  induction l with
  | nil => exact Or.inr (List.mem_singleton.mp h)
  | cons hd t ih =>
    obtain ⟨a, b⟩ := hd
    rw [upsert] at h
    split at h <;> rcases List.mem_cons.mp h with h | h
    · exact .inr h
    · exact .inl (List.mem_cons_of_mem _ h)
    · exact .inl (h ▸ List.mem_cons_self)
    · exact (ih h).imp_left (List.mem_cons_of_mem _)

theorem forall_mem_upsert {p : K × V → Prop} {l : List (K × V)} {k : K} {v : V}
    (hl : ∀ e ∈ l, p e) (hv : p (k, v)) : ∀ e ∈ upsert l k v, p e :=
  fun e he => (mem_of_mem_upsert he).elim (hl e) (· ▸ hv)

theorem forall_mem_akeys_upsert {p : K → Prop} {l : List (K × V)} {k : K} (v : V)
    (hl : ∀ x ∈ akeys l, p x) (hk : p k) : ∀ x ∈ akeys (upsert l k v), p x :=
  fun x hx => ((mem_akeys_upsert l k x v).mp hx).elim (· ▸ hk) (hl x)

theorem forall_alookup_upsert {p : K → V → Prop} {l : List (K × V)} {k : K} {v : V}
    (hl : ∀ k' v', alookup k' l = some v' → p k' v') (hv : p k v) :
    ∀ k' v', alookup k' (upsert l k v) = some v' → p k' v' := fun k' v' h => by
  rcases ite_eq_iff.mp ((alookup_upsert ..).symm.trans h) with ⟨rfl, e⟩ | ⟨_, e⟩
  · cases e; exact hv
  · exact hl k' v' e

theorem forall_alookup_aerase {p : K → V → Prop} {l : List (K × V)} (k : K)
    (hl : ∀ k' v', alookup k' l = some v' → p k' v') :
    ∀ k' v', alookup k' (aerase l k) = some v' → p k' v' :=
  fun k' v' h => hl k' v' (alookup_of_alookup_aerase h)

/-! ### Amounts: an absent key reads as 0

Every balance store of the models (`Ledger.bal`, `Ons.bal`, `Bid.bal`, `Deleg.getD`, `Alleg.getI`, `Eth.balGet`,
`Rewards.balGet`) unfolds to `(alookup k l).getD 0`, its credit to `upsert l k (… + x)`, its debit to `upsert l k (… - x)`
behind a guard: the lemmas here apply to all of them as they stand. -/

theorem alookup_getD_nonneg {l : List (K × Int)} {k : K} (hn : ∀ p ∈ l, 0 ≤ p.2) :
    0 ≤ (alookup k l).getD 0 := by
  cases h : alookup k l with
  | none => exact Int.le_refl 0
  | some v => exact hn _ (mem_of_alookup h)

/-- `k` is the key credited, `k'` the key read -/
theorem getD_alookup_credit (l : List (K × Int)) (k k' : K) (x : Int) :
    (alookup k' (upsert l k ((alookup k l).getD 0 + x))).getD 0 = (alookup k' l).getD 0 + if k' = k then x else 0 := by
  rw [getD_alookup_upsert]
  by_cases e : k' = k
  · rw [if_pos e, if_pos e, e]
  · rw [if_neg e, if_neg e, Int.add_zero]

theorem getD_alookup_debit (l : List (K × Int)) (k k' : K) (x : Int) :
    (alookup k' (upsert l k ((alookup k l).getD 0 - x))).getD 0 = (alookup k' l).getD 0 - if k' = k then x else 0 := by
  rw [Int.sub_eq_add_neg, getD_alookup_credit, Int.sub_eq_add_neg, apply_ite Neg.neg, Int.neg_zero]

theorem forall_nonneg_credit {l : List (K × Int)} {k : K} {x : Int} (hn : ∀ p ∈ l, 0 ≤ p.2) (hx : 0 ≤ x) :
    ∀ p ∈ upsert l k ((alookup k l).getD 0 + x), 0 ≤ p.2 :=
  forall_mem_upsert hn (Int.add_nonneg (alookup_getD_nonneg hn) hx)

/-! ### Folds of single-key writes -/

/-- folding, over entries with distinct keys, a step that changes what is observed at the key of
    its entry only: each key sees its own entry applied, once -/
theorem foldl_keyed {σ β : Type} {step : σ → K × V → σ} (obs : σ → K → β) (f : β → V → β)
    (hstep : ∀ w p k, obs (step w p) k = if k = p.1 then f (obs w k) p.2 else obs w k)
    {c : List (K × V)} (hn : (akeys c).Nodup) (w : σ) (k : K) :
    obs (c.foldl step w) k =
      match alookup k c with
      | some v => f (obs w k) v
      | none => obs w k := by
  induction c generalizing w with
  | nil => rfl
  | cons p t ih =>
    have hn' : p.1 ∉ akeys t ∧ (akeys t).Nodup := List.nodup_cons.mp hn
    rw [List.foldl_cons, ih hn'.2, hstep, alookup_cons]
    by_cases hk : k = p.1
    · rw [if_pos hk, if_pos hk, hk, alookup_of_not_mem t p.1 hn'.1]
    · rw [if_neg hk, if_neg hk]

/-- replaying `o` into `l` with `upsert` (the shape of `cacheSession.Commit`) -/
theorem alookup_foldl_upsert (o l : List (K × V)) (hn : (akeys o).Nodup) (k : K) :
    alookup k (o.foldl (fun acc p => upsert acc p.1 p.2) l) =
      match alookup k o with
      | some v => some v
      | none => alookup k l :=
  foldl_keyed (fun l k => alookup k l) (fun _ v => some v) (fun w p k => alookup_upsert w p.1 k p.2) hn l k

theorem nodup_akeys_foldl_upsert (o l : List (K × V)) (h : (akeys l).Nodup) :
    (akeys (o.foldl (fun acc p => upsert acc p.1 p.2) l)).Nodup := by
  induction o generalizing l with
  | nil => exact h
  | cons hd t ih => exact ih _ (nodup_akeys_upsert l hd.1 hd.2 h)

theorem akeys_foldl_upsert (o l : List (K × V)) (hn : (akeys o).Nodup) :
    akeys (o.foldl (fun acc p => upsert acc p.1 p.2) l) =
      akeys l ++ (akeys o).filter (fun k => decide (k ∉ akeys l)) := by
  induction o generalizing l with
  | nil => exact (List.append_nil _).symm
  | cons hd t ih =>
    obtain ⟨k1, v1⟩ := hd
    have hn' : k1 ∉ akeys t ∧ (akeys t).Nodup := List.nodup_cons.mp hn
    rw [List.foldl_cons, ih _ hn'.2, akeys_upsert, show akeys ((k1, v1) :: t) = k1 :: akeys t from rfl,
      List.filter_cons]
    by_cases hk : k1 ∈ akeys l
    · rw [if_pos hk, if_neg (not_not_intro hk ∘ of_decide_eq_true)]
    · rw [if_neg hk, if_pos (decide_eq_true hk), List.append_assoc, List.singleton_append]
      congr 2
      exact List.filter_congr fun x hx => by
        have : x ≠ k1 := fun e => hn'.1 (e ▸ hx)
        simp [this]

/-- without distinct keys: a lookup after a fold whose step overwrites one key (`upsert`, a sorted
    insert, …) finds the value of some step for that key, or the old value when no step names it -/
theorem alookup_foldl_cases {β : Type} {step : List (K × V) → β → List (K × V)} {key : β → K}
    {val : β → V} (hstep : ∀ m b k, alookup k (step m b) = if k = key b then some (val b) else alookup k m)
    (w : List β) (m : List (K × V)) (a : K) :
    (alookup a (w.foldl step m) = alookup a m ∧ ∀ b ∈ w, key b ≠ a) ∨
    (∃ b ∈ w, key b = a ∧ alookup a (w.foldl step m) = some (val b)) := by
  induction w generalizing m with
  | nil => exact Or.inl ⟨rfl, nofun⟩
  | cons q t ih =>
    rw [List.foldl_cons]
    rcases ih (step m q) with ⟨e, hno⟩ | ⟨b, hb, e1, e2⟩
    · rw [hstep] at e
      by_cases hq : a = key q
      · exact Or.inr ⟨q, List.mem_cons_self .., hq.symm, by rw [e, if_pos hq]⟩
      · exact Or.inl ⟨by rw [e, if_neg hq], fun b hb => (List.mem_cons.mp hb).elim (· ▸ Ne.symm hq) (hno b)⟩
    · exact Or.inr ⟨b, List.mem_cons_of_mem _ hb, e1, e2⟩

/-! ### Sums over the stored values -/

/-- the sum of `f key value` over the list -/
def asum (f : K → V → Int) : List (K × V) → Int
  | [] => 0
  | (k, v) :: t => f k v + asum f t

/-- holds for every list, duplicates included: `upsert` replaces exactly the entry `alookup` reads -/
theorem asum_upsert (f : K → V → Int) (l : List (K × V)) (k : K) (v : V) :
    asum f (upsert l k v) = asum f l - (alookup k l).elim 0 (f k) + f k v := by
  induction l with
  | nil => simp [upsert, asum, alookup]
  | cons hd t ih =>
    obtain ⟨k', v'⟩ := hd
    by_cases hk : k' = k
    · subst hk
      simp only [upsert, asum, alookup, if_true, Option.elim_some]
      rw [Int.add_comm (f k' v'), Int.add_sub_cancel, Int.add_comm]
    · simp only [upsert, asum, alookup, hk, if_false, ih]
      rw [← Int.add_assoc, ← Int.add_sub_assoc]

theorem asum_aerase (f : K → V → Int) (l : List (K × V)) (k : K) (hn : (akeys l).Nodup) :
    asum f (aerase l k) = asum f l - (alookup k l).elim 0 (f k) := by
  induction l with
  | nil => rfl
  | cons hd t ih =>
    obtain ⟨k', v'⟩ := hd
    have ⟨hnot, hn'⟩ : k' ∉ akeys t ∧ (akeys t).Nodup := List.nodup_cons.mp hn
    by_cases hk : k' = k
    · subst hk
      simp only [aerase, asum, alookup, if_true, Option.elim_some, aerase_of_not_mem t k' hnot]
      rw [Int.add_comm, Int.add_sub_cancel]
    · simp only [aerase, asum, alookup, hk, if_false, ih hn']
      rw [← Int.add_sub_assoc]

omit [DecidableEq K] in
theorem asum_congr {f g : K → V → Int} {l : List (K × V)} (h : ∀ p ∈ l, f p.1 p.2 = g p.1 p.2) : asum f l = asum g l := by
  induction l with
  | nil => rfl
  | cons hd t ih =>
    simp only [asum, h hd List.mem_cons_self, ih (fun p hp => h p (List.mem_cons_of_mem _ hp))]

end OLP
