/-
  Conditionals, without `split`.

  The handlers of the models are chains `if g₁ then .error e₁ else if g₂ then … else .ok s'`. From
  `h : handler … = .ok s'` every lemma about the success path first needs `¬ g₁`, `¬ g₂`, … .
  `split` finds them, but it abstracts over the whole remaining body at every guard and is slow to
  check; unifying with one of the lemmas below is not.  `of_guard` is for a hypothesis one of
  whose branches cannot be the result (`ite_error_eq_ok`: the same as a rewrite rule), `ite_eq_iff`
  for one with two live branches, `ite_ind` for a goal.
-/
namespace OLP

theorem of_guard {α : Type} {p : Prop} [Decidable p] {x k y : α} (h : (if p then x else k) = y)
    (hx : x ≠ y := by nofun) : ¬ p ∧ k = y := by
  by_cases hp : p
  · rw [if_pos hp] at h; exact absurd h hx
  · rw [if_neg hp] at h; exact ⟨hp, h⟩

/-- `.mp` takes a hypothesis apart; `simp only` with it goes down a whole chain of guards -/
theorem ite_eq_iff {α : Sort _} {p : Prop} [Decidable p] {a b c : α} :
    (if p then a else b) = c ↔ p ∧ a = c ∨ ¬ p ∧ b = c := by
  by_cases hp : p <;> simp [hp]

theorem ite_ind {α : Sort _} {P : α → Prop} {c : Prop} [Decidable c] {x y : α}
    (hx : c → P x) (hy : ¬ c → P y) : P (if c then x else y) := by
  by_cases hc : c
  · rw [if_pos hc]; exact hx hc
  · rw [if_neg hc]; exact hy hc

/-- `of_guard` as an equivalence: `simp only` with it turns a handler equation into its guards -/
theorem ite_error_eq_ok {ε α : Type} {p : Prop} [Decidable p] {e : ε} {x : Except ε α} {y : α} :
    (if p then .error e else x) = .ok y ↔ ¬ p ∧ x = .ok y :=
  ⟨fun h => of_guard h, fun ⟨hp, h⟩ => (if_neg hp).trans h⟩

end OLP
