/-
  Plain lists of integers: a sum of floor shares does not exceed what is shared out.  Block
  rewards and block fees are both distributed as `⌊T·pᵢ/P⌋`.
  Core-only, like the rest of `OLP/Base`.
-/
namespace OLP

/-- one floor share -/
theorem mul_ediv_bounds {T p P : Int} (hT : 0 ≤ T) (hp : 0 ≤ p) (hpP : p ≤ P) (hP : 0 < P) :
    0 ≤ T * p / P ∧ T * p / P ≤ T :=
  ⟨Int.ediv_nonneg (Int.mul_nonneg hT hp) (Int.le_of_lt hP),
    Int.ediv_le_of_le_mul hP (Int.mul_le_mul_of_nonneg_left hpP hT)⟩

theorem sum_mul_ediv_mul_le (T P : Int) (ps : List Int) (hP : P ≠ 0) :
    (ps.map (fun p => T * p / P)).sum * P ≤ T * ps.sum := by
  induction ps with
  | nil => simp
  | cons a t ih =>
    simp only [List.map_cons, List.sum_cons, Int.add_mul, Int.mul_add]
    have := Int.ediv_mul_le (T * a) hP
    omega

/-- the divisor may be zero (`x / 0 = 0`) -/
theorem sum_mul_ediv_le (T P : Int) (ps : List Int) (hT : 0 ≤ T) (hP : 0 ≤ P) (hs : ps.sum ≤ P) :
    (ps.map (fun p => T * p / P)).sum ≤ T := by
  by_cases h0 : P = 0
  · have hz : (ps.map (fun p => T * p / P)).sum = 0 := by
      clear hs
      induction ps with
      | nil => rfl
      | cons a t ih => rw [List.map_cons, List.sum_cons, ih, h0, Int.ediv_zero]; rfl
    omega
  · have h1 := sum_mul_ediv_mul_le T P ps h0
    have h2 : T * ps.sum ≤ T * P := Int.mul_le_mul_of_nonneg_left hs hT
    exact Int.le_of_mul_le_mul_right (Int.le_trans h1 h2) (by omega)

end OLP
