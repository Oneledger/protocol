/-
  The election's list in front of Tendermint, block after block: the invariant that ties the purge
  heights to the three pending sets, its preservation (`run_induct` for what else holds along a
  history), and what quiet blocks converge to.
-/
import OLP.Elect.Election
import OLP.Elect.TM

namespace OLP.Elect

/-- the public key of every record hashes to the record's own address (what STAKE does not check) -/
def Bound (addrOf : Nat → Nat) (recs : List Rec) : Prop := ∀ r ∈ recs, addrOf r.pub = r.addr

theorem isNone_iff_not_isSome {α : Type} {o : Option α} : o.isNone = true ↔ ¬ o.isSome = true := by
  cases o <;> simp

/-! ### one block in front of a validator set -/

section
variable {addrOf : Nat → Nat} {inp : Input} (h : 1 < inp.height) (hb : Bound addrOf inp.recs)
include h hb

/-- with bound keys the changes are keyed by the records' own addresses -/
theorem tmChanges_perm :
    (tmChanges addrOf (elect inp).updates).Perm
      ((electedRecs inp).map (fun r => ⟨r.addr, r.ktype, r.power⟩) ++
        (purged inp).map (fun r => ⟨r.addr, r.ktype, 0⟩)) := by
  refine ((updates_perm inp h).map _).trans (.of_eq ?_)
  rw [List.map_append, List.map_map, List.map_map]
  congr 1 <;> apply List.map_congr_left <;> intro r hr
  · exact congrArg (TM.Chg.mk · r.ktype r.power) (hb r (mem_electedRecs hr).1)
  · exact congrArg (TM.Chg.mk · r.ktype 0) (hb r (mem_purged_recs hr))

theorem forall_mem_tmChanges {P : TM.Chg → Prop} :
    (∀ c ∈ tmChanges addrOf (elect inp).updates, P c) ↔
      (∀ r ∈ electedRecs inp, P ⟨r.addr, r.ktype, r.power⟩) ∧ (∀ r ∈ purged inp, P ⟨r.addr, r.ktype, 0⟩) := by
  simp only [(tmChanges_perm h hb).mem_iff, List.forall_mem_append, List.forall_mem_map]

theorem tmKeys_perm :
    ((tmChanges addrOf (elect inp).updates).map (·.key)).Perm ((electedRecs inp ++ purged inp).map (·.addr)) := by
  refine ((tmChanges_perm h hb).map _).trans (.of_eq ?_)
  rw [List.map_append, List.map_map, List.map_map, List.map_append]; rfl

end

/-- the validator set `s'` that results from applying the list of `inp` to `s` -/
structure Applied (inp : Input) (s s' : TM.VSet) : Prop where
  removed : ∀ r ∈ purged inp, alookup r.addr s' = none
  written : ∀ r ∈ electedRecs inp, alookup r.addr s' = some r.power
  kept : ∀ k, k ∉ (electedRecs inp).map (·.addr) → k ∉ (purged inp).map (·.addr) →
    alookup k s' = alookup k s
  nonneg : ∀ x ∈ s', 0 ≤ x.2

theorem elect_tm_ok (addrOf : Nat → Nat) (inp : Input) (s : TM.VSet) (h : 1 < inp.height)
    (hn : (inp.recs.map (·.addr)).Nodup) (hb : Bound addrOf inp.recs)
    (hkt : ∀ r ∈ inp.recs, r.ktype = 0) (hmin : 0 < inp.minSelf)
    (hin : ∀ r ∈ purged inp, (alookup r.addr s).isSome)
    (hs : ∀ x ∈ s, 0 ≤ x.2)
    (htot : TM.total s + TM.sumPow (tmChanges addrOf (elect inp).updates) ≤ TM.maxTotal) :
    ∃ s', TM.apply s (tmChanges addrOf (elect inp).updates) = .ok s' ∧ Applied inp s s' := by
  by_cases hE : electedRecs inp = []
  · -- nobody elected: no updates, the set stays
    obtain ⟨hp, hu⟩ := elect_nobody inp hE
    exact ⟨s, by rw [hu]; rfl, fun r hr => absurd (hp ▸ hr) List.not_mem_nil,
      fun r hr => absurd (hE ▸ hr) List.not_mem_nil, fun _ _ _ => rfl, hs⟩
  · obtain ⟨r0, hr0⟩ := List.exists_mem_of_ne_nil _ hE
    have F := @forall_mem_tmChanges addrOf inp h hb
    have K := tmKeys_perm h hb
    have hEpos : ∀ r ∈ electedRecs inp, 0 < r.power := fun r hr =>
      Int.lt_of_lt_of_le hmin (mem_electedRecs hr).2.1
    obtain ⟨s', ok, hrem, hwr, hkeep, hnn⟩ := TM.apply_ok s (K.nodup_iff.mpr (elected_purged_addr_nodup inp hn))
      (F.mpr ⟨fun r hr => Int.le_of_lt (hEpos r hr), fun _ _ => Int.le_refl 0⟩)
      (F.mpr ⟨fun r hr _ => hkt r (mem_electedRecs hr).1, fun r hr _ => hkt r (mem_purged_recs hr)⟩)
      (F.mpr ⟨fun r hr hz => absurd hz (Int.ne_of_gt (hEpos r hr)), fun r hr _ => hin r hr⟩)
      ⟨_, (tmChanges_perm h hb).mem_iff.mpr (List.mem_append_left _ (List.mem_map_of_mem hr0)), hEpos r0 hr0⟩ hs htot
    exact ⟨s', ok, fun r hr => (F.mp hrem).2 r hr rfl, fun r hr => (F.mp hwr).1 r hr (hEpos r hr),
      fun k h1 h2 => hkeep k fun hk => (List.mem_append.mp (List.map_append ▸ K.mem_iff.mp hk)).elim h1 h2, hnn⟩

theorem Applied.cases {inp : Input} {s s' : TM.VSet} (hA : Applied inp s s') (k : Nat) :
    (∃ r ∈ electedRecs inp, r.addr = k ∧ alookup k s' = some r.power) ∨
    (k ∈ (purged inp).map (·.addr) ∧ alookup k s' = none) ∨
    (k ∉ (electedRecs inp).map (·.addr) ∧ k ∉ (purged inp).map (·.addr) ∧ alookup k s' = alookup k s) := by
  by_cases he : k ∈ (electedRecs inp).map (·.addr)
  · obtain ⟨r, hr, rfl⟩ := List.mem_map.mp he
    exact Or.inl ⟨r, hr, rfl, hA.written r hr⟩
  · by_cases hp : k ∈ (purged inp).map (·.addr)
    · obtain ⟨r, hr, rfl⟩ := List.mem_map.mp hp
      exact Or.inr (Or.inl ⟨hp, hA.removed r hr⟩)
    · exact Or.inr (Or.inr ⟨he, hp, hA.kept k he hp⟩)

theorem Applied.entered {inp : Input} {s s' : TM.VSet} (hA : Applied inp s s') {k : Nat}
    (h1 : (alookup k s').isSome) (h2 : (alookup k s).isNone) : ∃ r ∈ electedRecs inp, r.addr = k := by
  rcases hA.cases k with ⟨r, hr, e, _⟩ | ⟨_, e⟩ | ⟨_, _, e⟩
  · exact ⟨r, hr, e⟩
  · rw [e] at h1; cases h1
  · exact absurd (e ▸ h1) (isNone_iff_not_isSome.mp h2)

/-! ### several blocks -/

/-- the invariant of application + Tendermint between two blocks:
    * `i1`–`i3`: a validator that is in an earlier of the three pending sets but not in the next one
      was purged in the block that removed it (ties the purge heights to the +2 delay),
    * `i5`: the powers in `vN` are non-negative (there is no `i4`),
    * `addrs`/`bound`/`ktype`: every committed record carries the ed25519 key of its own address,
    * `m1`/`m2`: a validator on its way into the set has an active (or just flipped) status,
    * `recd`: every member of a pending set has a record. -/
structure Inv (addrOf : Nat → Nat) (s : Chain) : Prop where
  next_ge : 2 ≤ s.next
  i1 : ∀ a, (alookup a s.vC).isSome → (alookup a s.vN).isNone → alookup a s.purge = some (s.next - 1)
  i2 : ∀ a, (alookup a s.vP).isSome → (alookup a s.vC).isNone → ∃ p, alookup a s.purge = some p ∧ s.next - 2 ≤ p
  i3 : ∀ a p, alookup a s.purge = some p → 0 < p ∧ p ≤ s.next - 1
  i5 : ∀ x ∈ s.vN, 0 ≤ x.2
  addrs : (s.recs.map (·.addr)).Nodup
  bound : Bound addrOf s.recs
  ktype : ∀ r ∈ s.recs, r.ktype = 0
  m1 : ∀ a, (alookup a s.vN).isSome → (alookup a s.vC).isNone →
        ∃ x, alookup a s.status = some x ∧ x.active = true
  m2 : ∀ a, (alookup a s.vC).isSome → (alookup a s.vP).isNone →
        ∃ x, alookup a s.status = some x ∧ (x.active = true ∨ s.next - 1 ≤ x.height)
  recd : ∀ a, ((alookup a s.vP).isSome ∨ (alookup a s.vC).isSome ∨ (alookup a s.vN).isSome) →
        ∃ r ∈ s.recs, r.addr = a

theorem Inv.one_lt_next {addrOf : Nat → Nat} {s : Chain} (hI : Inv addrOf s) : 1 < s.next :=
  Int.lt_of_lt_of_le (by decide) hI.next_ge

/-- what a block must satisfy.  `addrs`, `persist`, `keys` are facts about the transaction
    handlers (records are keyed by address; no handler deletes a record; a new record comes from a
    STAKE, whose key is the ed25519 key of the validator address, and no writer changes the key of
    an existing record) — the engine monitors them on every block.  `minpos` and `total` are the
    two hypotheses that remain about the data. -/
structure BlockOK (addrOf : Nat → Nat) (s : Chain) (b : BlockIn) : Prop where
  addrs : (b.after.map (·.addr)).Nodup
  persist : ∀ r ∈ s.recs, ∃ r' ∈ b.after, r'.addr = r.addr
  keys : ∀ r' ∈ b.after, (∃ r ∈ s.recs, r.addr = r'.addr ∧ r.pub = r'.pub ∧ r.ktype = r'.ktype) ∨
          (addrOf r'.pub = r'.addr ∧ r'.ktype = 0)
  minpos : 0 < b.minSelf
  total : TM.total s.vN + TM.sumPow (tmChanges addrOf (elect (inputOf s b)).updates) ≤ TM.maxTotal

/-- the chain after block `b` when Tendermint answers the block's list with the set `v` -/
def Chain.after (s : Chain) (b : BlockIn) (v : TM.VSet) : Chain :=
  { next := s.next + 1, vP := s.vC, vC := s.vN, vN := v
    purge := applyWrites s.purge (elect (inputOf s b)).purgeW
    status := applyWrites s.status (elect (inputOf s b)).statusW
    recs := recsAfter b (elect (inputOf s b)).deleted }

section
variable {addrOf : Nat → Nat} {s : Chain} {b : BlockIn} {v : TM.VSet}

theorem step_of_apply (h : TM.apply s.vN (tmChanges addrOf (elect (inputOf s b)).updates) = .ok v) :
    step addrOf s b = .ok (s.after b v) := by
  rw [step, h]; rfl

theorem alookup_after_purge (s : Chain) (b : BlockIn) (v : TM.VSet) (h : 1 < s.next) (k : Nat) :
    alookup k (s.after b v).purge =
      if k ∈ (purged (inputOf s b)).map (·.addr) then some s.next else alookup k s.purge := by
  show alookup k (applyWrites s.purge (elect (inputOf s b)).purgeW) = _
  rcases alookup_applyWrites_cases (elect (inputOf s b)).purgeW s.purge k with ⟨e, hno⟩ | ⟨p, hp, e1, e2⟩
  · rw [e, if_neg]
    exact fun hk => (List.mem_map.mp hk).elim fun r hr => hno _ (mem_purgeW.mpr ⟨h, r, hr.1, rfl⟩) hr.2
  · obtain ⟨_, r, hr, rfl⟩ := mem_purgeW.mp hp
    rw [e2, if_pos (List.mem_map.mpr ⟨r, hr, e1⟩)]; rfl

theorem purged_in_next_set (hI : Inv addrOf s) (b : BlockIn) :
    ∀ r ∈ purged (inputOf s b), (alookup r.addr s.vN).isSome := by
  intro r hr
  have h := hI.next_ge
  obtain ⟨_, hla, hg⟩ := mem_purged hr
  have hP : (alookup r.addr s.vP).isSome := (mem_akeys_iff_alookup _ _).mp hla
  -- not guarded: no purge height, or one that is more than two blocks old
  have hg' : ¬ (0 < (alookup r.addr s.purge).getD 0 ∧ s.next ≤ (alookup r.addr s.purge).getD 0 + 2) :=
    fun h => Bool.false_ne_true (hg.symm.trans (guarded_iff.mpr h))
  refine Classical.byContradiction fun hN => ?_
  by_cases hC : (alookup r.addr s.vC).isSome = true
  · rw [hI.i1 _ hC (isNone_iff_not_isSome.mpr hN), Option.getD_some] at hg'
    omega
  · obtain ⟨p, e, hp⟩ := hI.i2 _ hP (isNone_iff_not_isSome.mpr hC)
    have := hI.i3 _ _ e
    rw [e, Option.getD_some] at hg'
    omega

/-- the status of a deleted record has been inactive for more than two blocks, while a validator on
    its way into the set has an active or a fresh one -/
theorem deleted_not_pending (hI : Inv addrOf s) (hA : Applied (inputOf s b) s.vN v) {k : Nat}
    (hk : k ∈ (elect (inputOf s b)).deleted) :
    (alookup k s.vC).isNone ∧ (alookup k s.vN).isNone ∧ (alookup k v).isNone := by
  obtain ⟨hla, hne, _, x, hx, hact, hh⟩ := deleted_facts (inputOf s b) hI.addrs hk
  have hPn : (alookup k s.vP).isNone := Option.isNone_iff_eq_none.mpr (alookup_of_not_mem _ _ hla)
  have hCn : (alookup k s.vC).isNone := isNone_iff_not_isSome.mpr fun hC => by
    obtain ⟨y, hy, hy2⟩ := hI.m2 k hC hPn
    cases hx.symm.trans hy
    rcases hy2 with h1 | h1
    · exact absurd (hact.symm.trans h1) Bool.false_ne_true
    · exact absurd hh (by show ¬ x.height + 2 < s.next; omega)
  have hNn : (alookup k s.vN).isNone := isNone_iff_not_isSome.mpr fun hN => by
    obtain ⟨y, hy, hy2⟩ := hI.m1 k hN hCn
    cases hx.symm.trans hy
    exact absurd (hact.symm.trans hy2) Bool.false_ne_true
  refine ⟨hCn, hNn, isNone_iff_not_isSome.mpr fun hv => ?_⟩
  obtain ⟨r, hr, e⟩ := hA.entered hv hNn
  exact hne (List.mem_map.mpr ⟨r, hr, e⟩)

theorem Inv.after (hI : Inv addrOf s) (hB : BlockOK addrOf s b) (hA : Applied (inputOf s b) s.vN v) :
    Inv addrOf (s.after b v) := by
  have h := hI.one_lt_next
  have hpl := alookup_after_purge s b v h
  have keeps : ∀ r ∈ s.recs, r.addr ∉ (elect (inputOf s b)).deleted →
      ∃ r' ∈ (s.after b v).recs, r'.addr = r.addr := by
    intro r hr hnd
    obtain ⟨r', hr', e⟩ := hB.persist r hr
    exact ⟨r', List.mem_filter.mpr ⟨hr', by simpa [e] using hnd⟩, e⟩
  -- a record is an old one with its key, or comes from a STAKE
  have keys : ∀ r' ∈ (s.after b v).recs, addrOf r'.pub = r'.addr ∧ r'.ktype = 0 := fun r' hr' => by
    rcases hB.keys r' (List.mem_filter.mp hr').1 with ⟨r, hr, e1, e2, e3⟩ | h
    · exact ⟨e2 ▸ e1 ▸ hI.bound r hr, e3 ▸ hI.ktype r hr⟩
    · exact h
  constructor
  · show 2 ≤ s.next + 1; omega
  · -- i1: whoever leaves the pending set was purged by this block
    intro k hk1 hk2
    rw [hpl]
    rcases hA.cases k with ⟨r, _, _, e⟩ | ⟨hp, _⟩ | ⟨_, _, e⟩
    · exact absurd (show (alookup k v).isNone = true from hk2) (by rw [e]; exact Bool.false_ne_true)
    · rw [if_pos hp]; exact congrArg some (by show s.next = s.next + 1 - 1; omega)
    · exact absurd (e ▸ hk1 : (alookup k v).isSome = true) (isNone_iff_not_isSome.mp hk2)
  · -- i2
    intro k hk1 hk2
    rw [hpl]
    split
    · exact ⟨s.next, rfl, by show s.next + 1 - 2 ≤ s.next; omega⟩
    · exact ⟨s.next - 1, hI.i1 k hk1 hk2, by show s.next + 1 - 2 ≤ s.next - 1; omega⟩
  · -- i3
    intro k p hk
    rw [hpl] at hk
    show 0 < p ∧ p ≤ s.next + 1 - 1
    split at hk
    · cases hk; omega
    · have := hI.i3 k p hk; omega
  · exact hA.nonneg
  · exact (List.filter_sublist.map _).nodup hB.addrs
  · exact fun r' hr' => (keys r' hr').1
  · exact fun r' hr' => (keys r' hr').2
  · -- m1: a new member was elected, so its status is active
    intro k hk1 hk2
    obtain ⟨r, hr, rfl⟩ := hA.entered hk1 hk2
    exact status_after_elected (inputOf s b) h hI.addrs hr
  · -- m2: last block's new member keeps its status or gets one of this height
    intro k hk1 hk2
    obtain ⟨x, hx, ha⟩ := hI.m1 k hk1 hk2
    rcases status_after_cases (inputOf s b) h k with e | ⟨y, hy, hh⟩
    · exact ⟨x, e.trans hx, Or.inl ha⟩
    · exact ⟨y, hy, Or.inr (by show s.next + 1 - 1 ≤ y.height; have : y.height = s.next := hh; omega)⟩
  · -- recd: a member of the old sets keeps its record, a new one is an elected record
    intro k hk
    by_cases hO : (alookup k s.vC).isSome ∨ (alookup k s.vN).isSome
    · obtain ⟨r, hr, rfl⟩ := hI.recd k (Or.inr hO)
      exact keeps r hr fun hd => hO.elim (isNone_iff_not_isSome.mp (deleted_not_pending hI hA hd).1)
        (isNone_iff_not_isSome.mp (deleted_not_pending hI hA hd).2.1)
    · have hv : (alookup k v).isSome := (or_assoc.mpr hk).resolve_left hO
      obtain ⟨r, hr, rfl⟩ := hA.entered hv (isNone_iff_not_isSome.mpr fun h => hO (Or.inr h))
      exact keeps r (mem_electedRecs hr).1 fun hd => isNone_iff_not_isSome.mp (deleted_not_pending hI hA hd).2.2 hv

theorem step_ok (hI : Inv addrOf s) (hB : BlockOK addrOf s b) :
    ∃ v, step addrOf s b = .ok (s.after b v) ∧ Applied (inputOf s b) s.vN v ∧ Inv addrOf (s.after b v) := by
  obtain ⟨v, ok, hA⟩ := elect_tm_ok addrOf (inputOf s b) s.vN
    hI.one_lt_next hI.addrs hI.bound hI.ktype hB.minpos
    (purged_in_next_set hI b) hI.i5 hB.total
  exact ⟨v, step_of_apply ok, hA, hI.after hB hA⟩

end

/-- side conditions along a whole history -/
def SideAll (addrOf : Nat → Nat) : Chain → List BlockIn → Prop
  | _, [] => True
  | s, b :: bs => BlockOK addrOf s b ∧ ∀ s', step addrOf s b = .ok s' → SideAll addrOf s' bs

theorem run_induct {addrOf : Nat → Nat} {P : Chain → Prop}
    (hstep : ∀ {s b v}, Inv addrOf s → BlockOK addrOf s b → Applied (inputOf s b) s.vN v → P s → P (s.after b v))
    (bs : List BlockIn) (s : Chain) (hI : Inv addrOf s) (hS : SideAll addrOf s bs) (hP : P s) :
    ∃ s', run addrOf s bs = .ok s' ∧ Inv addrOf s' ∧ P s' := by
  induction bs generalizing s with
  | nil => exact ⟨s, rfl, hI, hP⟩
  | cons b t ih =>
    obtain ⟨hB, hrest⟩ := hS
    obtain ⟨v, ok, hA, hI1⟩ := step_ok hI hB
    obtain ⟨s2, ok2, h2⟩ := ih _ hI1 (hrest _ ok) (hstep hI hB hA hP)
    exact ⟨s2, by rw [run, ok]; exact ok2, h2⟩

theorem run_ok (addrOf : Nat → Nat) (bs : List BlockIn) (s : Chain) (hI : Inv addrOf s)
    (hS : SideAll addrOf s bs) : ∃ s', run addrOf s bs = .ok s' ∧ Inv addrOf s' :=
  let ⟨s', ok, hI', _⟩ := run_induct (P := fun _ => True) (fun _ _ _ _ => trivial) bs s hI hS trivial
  ⟨s', ok, hI'⟩

/-- the chain after block 1 (which returns no updates): the sets of blocks 1, 2, 3 are the genesis
    set, the committed records are the genesis stakes plus what block 1 did -/
def startChain (g : TM.VSet) (recs : List Rec) : Chain := ⟨2, g, g, g, [], [], recs⟩

/-- what the genesis document has to provide (InitChain checks none of it except `members`) -/
structure GenesisOK (addrOf : Nat → Nat) (g : TM.VSet) (recs : List Rec) : Prop where
  pow : ∀ x ∈ g, 0 ≤ x.2
  addrs : (recs.map (·.addr)).Nodup
  bound : Bound addrOf recs
  ktype : ∀ r ∈ recs, r.ktype = 0
  members : ∀ a, (alookup a g).isSome → ∃ r ∈ recs, r.addr = a

/-- the election of committed records under a block's options and malicious set.
    `electionOf s.recs b` is `electedRecs (inputOf s b)` by unfolding: `electedRecs` reads only
    `recs`, `minSelf`, `top`, `malicious`, so the other fields (height 2, empty lists) do not matter -/
def electionOf (recs : List Rec) (b : BlockIn) : List Rec :=
  electedRecs ⟨2, b.minSelf, b.top, recs, [], b.malicious, [], [], []⟩

/-- the voting power the election gives an address -/
def electionMap (recs : List Rec) (b : BlockIn) (a : Nat) : Option Int :=
  (findRec (electionOf recs b) a).map (·.power)

/-- a quiet block: no transaction touched a record and the hook deleted none -/
def Quiet (s : Chain) (b : BlockIn) : Prop := b.after = s.recs ∧ (elect (inputOf s b)).deleted = []

/-- quiet side conditions along a run of the same block -/
def QuietAll (addrOf : Nat → Nat) (b : BlockIn) : Chain → Nat → Prop
  | _, 0 => True
  | s, n + 1 => BlockOK addrOf s b ∧ Quiet s b ∧ ∀ s', step addrOf s b = .ok s' → QuietAll addrOf b s' n

section
variable {addrOf : Nat → Nat} {s : Chain} {b : BlockIn}

theorem quiet_step {n : Nat} (hI : Inv addrOf s) (hS : QuietAll addrOf b s (n + 1)) :
    ∃ v, step addrOf s b = .ok (s.after b v) ∧ Applied (inputOf s b) s.vN v ∧ Inv addrOf (s.after b v) ∧
      QuietAll addrOf b (s.after b v) n ∧ (s.after b v).recs = s.recs := by
  obtain ⟨hB, ⟨hrecs, hdel⟩, hrest⟩ := hS
  obtain ⟨v, ok, hA, hI'⟩ := step_ok hI hB
  exact ⟨v, ok, hA, hI', hrest _ ok, by simp [Chain.after, recsAfter, hrecs, hdel]⟩

theorem electionMap_of_mem {recs : List Rec} {b : BlockIn} (hn : (recs.map (·.addr)).Nodup) {r : Rec}
    (hr : r ∈ electionOf recs b) : electionMap recs b r.addr = some r.power := by
  have hE : ((electionOf recs b).map (·.addr)).Nodup :=
    (loop_addr_nodup _ hn).1
  rw [electionMap, findRec_self hE hr]; rfl

theorem electionMap_of_not_mem {recs : List Rec} {b : BlockIn} {a : Nat}
    (ha : a ∉ (electionOf recs b).map (·.addr)) : electionMap recs b a = none := by
  rw [electionMap, findRec_none ha]; rfl

theorem Applied.fixed {v : TM.VSet} (hA : Applied (inputOf s b) s.vN v)
    (hn : (s.recs.map (·.addr)).Nodup) (a : Nat) (h : alookup a s.vN = electionMap s.recs b a) :
    alookup a v = electionMap s.recs b a := by
  rcases hA.cases a with ⟨r, hr, rfl, e⟩ | ⟨hp, e⟩ | ⟨_, _, e⟩
  · exact e.trans (electionMap_of_mem hn hr).symm
  · -- purged, so not elected
    have hd := elected_purged_addr_nodup (inputOf s b) hn
    rw [List.map_append, List.nodup_append] at hd
    exact e.trans (electionMap_of_not_mem fun he => hd.2.2 a he a hp rfl).symm
  · exact e.trans h

/-- a validator the election does not name and that survives a block in the pending set: nothing
    about it changed, and if it voted in the last commit it is still guarded by a recent purge -/
theorem Applied.stale {v : TM.VSet} (hI : Inv addrOf s)
    (hA : Applied (inputOf s b) s.vN v) (hE : electionOf s.recs b ≠ []) {a : Nat}
    (ha : a ∉ (electionOf s.recs b).map (·.addr)) (hv : alookup a v ≠ none) :
    alookup a v = alookup a s.vN ∧ alookup a (s.after b v).purge = alookup a s.purge ∧
      ((alookup a s.vP).isSome → (alookup a s.vN).isSome →
        0 < (alookup a s.purge).getD 0 ∧ s.next ≤ (alookup a s.purge).getD 0 + 2) := by
  rcases hA.cases a with ⟨r, hr, e, _⟩ | ⟨_, e⟩ | ⟨_, hp, e⟩
  · exact absurd (List.mem_map.mpr ⟨r, hr, e⟩) ha
  · exact absurd e hv
  · refine ⟨e, by rw [alookup_after_purge s b v hI.one_lt_next, if_neg hp], fun hP hN => ?_⟩
    -- it has a record, is not elected, voted, and was not purged: it must be guarded
    obtain ⟨r, hr, rfl⟩ := hI.recd _ (Or.inr (Or.inr hN))
    cases hg : guarded (inputOf s b) r.addr with
    | true => exact guarded_iff.mp hg
    | false =>
      exact absurd (List.mem_map_of_mem (purged_complete (inputOf s b) hI.addrs hE hr
        (fun hm => ha (List.mem_map_of_mem hm)) ((mem_akeys_iff_alookup _ _).mpr hP) hg)) hp

theorem stale_gone {v0 v1 v2 : TM.VSet} (hI : Inv addrOf s)
    (hE : electionOf s.recs b ≠ [])
    (A0 : Applied (inputOf s b) s.vN v0) (I1 : Inv addrOf (s.after b v0)) (r1 : (s.after b v0).recs = s.recs)
    (A1 : Applied (inputOf (s.after b v0) b) v0 v1) (I2 : Inv addrOf ((s.after b v0).after b v1))
    (r2 : ((s.after b v0).after b v1).recs = s.recs)
    (A2 : Applied (inputOf ((s.after b v0).after b v1) b) v1 v2)
    {a : Nat} (ha : a ∉ (electionOf s.recs b).map (·.addr)) : alookup a v2 = none := by
  apply Classical.byContradiction
  intro h2
  obtain ⟨e2, q2, g2⟩ := A2.stale I2 (r2 ▸ hE) (r2 ▸ ha) h2
  obtain ⟨e1, q1, _⟩ := A1.stale I1 (r1 ▸ hE) (r1 ▸ ha) (e2 ▸ h2)
  obtain ⟨e0, q0, _⟩ := A0.stale hI hE ha (e1 ▸ e2 ▸ h2)
  -- the set of the last commit of the third block is the pending set of the start
  have h0 : (alookup a s.vN).isSome := Option.isSome_iff_ne_none.mpr (e0 ▸ e1 ▸ e2 ▸ h2)
  have g := g2 h0 (Option.isSome_iff_ne_none.mpr (e2 ▸ h2))
  rw [q1, q0] at g
  cases hx : alookup a s.purge with
  | none => rw [hx] at g; exact absurd g.1 (Int.lt_irrefl 0)
  | some p =>
    rw [hx, Option.getD_some] at g
    have := hI.i3 a p hx
    have : ((s.after b v0).after b v1).next = s.next + 1 + 1 := rfl
    omega

end

/-- where the 5 comes from: three blocks until the pending set is right (`stale_gone`), two more
    until the other two have caught up (`Applied.fixed`) -/
theorem converge (addrOf : Nat → Nat) (b : BlockIn) (n : Nat) (s0 : Chain) (hI : Inv addrOf s0)
    (hS : QuietAll addrOf b s0 (n + 5)) (hE : electionOf s0.recs b ≠ []) :
    ∃ s', run addrOf s0 (List.replicate (n + 5) b) = .ok s' ∧ s'.recs = s0.recs ∧
      ∀ a, alookup a s'.vP = electionMap s0.recs b a ∧ alookup a s'.vC = electionMap s0.recs b a ∧
        alookup a s'.vN = electionMap s0.recs b a := by
  induction n generalizing s0 with
  | succ n ih =>
    -- the first block changes neither the records nor the hypotheses
    obtain ⟨v, ok, _, I1, S1, r1⟩ := quiet_step hI hS
    obtain ⟨s', ok', r', h'⟩ := ih _ I1 S1 (r1.symm ▸ hE)
    exact ⟨s', by show run addrOf s0 (b :: List.replicate (n + 5) b) = _; rw [run, ok]; exact ok',
      r'.trans r1, fun a => r1 ▸ h' a⟩
  | zero =>
    obtain ⟨v0, ok0, A0, I1, S1, r1⟩ := quiet_step hI hS
    obtain ⟨v1, ok1, A1, I2, S2, r2⟩ := quiet_step I1 S1
    obtain ⟨v2, ok2, A2, I3, S3, r3⟩ := quiet_step I2 S2
    obtain ⟨v3, ok3, A3, I4, S4, r4⟩ := quiet_step I3 S3
    obtain ⟨v4, ok4, A4, I5, _, r5⟩ := quiet_step I4 S4
    rw [r1] at r2; rw [r2] at r3; rw [r3] at r4; rw [r4] at r5
    refine ⟨_, by simp only [List.replicate, run, ok0, ok1, ok2, ok3, ok4], r5, fun a => ?_⟩
    -- the sets of the last three blocks are `v2`, `v3`, `v4`
    have h2 : alookup a v2 = electionMap s0.recs b a := by
      by_cases ha : a ∈ (electionOf s0.recs b).map (·.addr)
      · obtain ⟨r, hr, rfl⟩ := List.mem_map.mp ha
        exact (A2.written r (show r ∈ electionOf ((s0.after b v0).after b v1).recs b from r2.symm ▸ hr)).trans
          (electionMap_of_mem hI.addrs hr).symm
      · exact (stale_gone hI hE A0 I1 r1 A1 I2 r2 A2 ha).trans (electionMap_of_not_mem ha).symm
    have h3 := r3 ▸ A3.fixed I3.addrs a (r3.symm ▸ h2)
    exact ⟨h2, h3, r4 ▸ A4.fixed I4.addrs a (r4.symm ▸ h3)⟩

end OLP.Elect
