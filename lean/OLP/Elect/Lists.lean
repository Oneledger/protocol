/-
  List facts the election and the validator-set rule share; none of them mentions the model.
-/
namespace OLP.Elect

theorem inj_on_of_nodup_map {α β : Type} {f : α → β} {l : List α} (hn : (l.map f).Nodup) :
    ∀ a ∈ l, ∀ b ∈ l, f a = f b → a = b := by
  have h := List.pairwise_map.mp hn
  exact fun a ha b hb => List.Pairwise.forall_of_forall_of_flip (R := fun a b => f a = f b → a = b)
    (fun _ _ _ => rfl) (h.imp fun hne e => absurd e hne) (h.imp fun hne e => absurd e.symm hne) ha hb

theorem nodup_map_of_subset {α β : Type} {f : α → β} {l l' : List α} (hn : (l.map f).Nodup) (hl : l'.Nodup)
    (hs : ∀ a ∈ l', a ∈ l) : (l'.map f).Nodup :=
  List.pairwise_map.mpr (hl.imp_of_mem fun ha hb hne e =>
    hne (inj_on_of_nodup_map hn _ (hs _ ha) _ (hs _ hb) e))

theorem nodup_of_nodup_map {α β : Type} (f : α → β) {l : List α} (hn : (l.map f).Nodup) : l.Nodup :=
  (List.pairwise_map.mp hn).imp fun hne e => hne (congrArg f e)

theorem mem_ite_snoc {α : Type} {c : Prop} [Decidable c] {l : List α} {a x : α}
    (h : x ∈ (if c then l ++ [a] else l)) : x ∈ l ∨ (c ∧ x = a) := by
  split at h
  · exact (List.mem_append.mp h).imp_right fun h => ⟨‹c›, List.mem_singleton.mp h⟩
  · exact Or.inl h

/-- a loop that appends `x` under the test by which `f` keeps `a` has consumed `a` -/
theorem ite_snoc_filterMap {α β : Type} {f : α → Option β} {c : Bool} {a : α} {x : β}
    (hf : f a = if c then some x else none) (l : List β) (t : List α) :
    (if c then l ++ [x] else l) ++ t.filterMap f = l ++ (a :: t).filterMap f := by
  rw [List.filterMap_cons, hf]
  cases c
  · rfl
  · exact List.append_assoc ..

theorem filterMap_eq_self {α : Type} {f : α → Option α} {l : List α} (h : ∀ a ∈ l, f a = some a) :
    l.filterMap f = l := by
  induction l with
  | nil => rfl
  | cons a t ih =>
    rw [List.filterMap_cons, h a (List.mem_cons_self ..), ih fun b hb => h b (List.mem_cons_of_mem _ hb)]

theorem map_filterMap_sublist {α β : Type} {f : α → Option β} {g : β → α}
    (hf : ∀ a b, f a = some b → g b = a) (l : List α) : ((l.filterMap f).map g).Sublist l := by
  induction l with
  | nil => exact List.Sublist.slnil
  | cons a t ih =>
    rw [List.filterMap_cons]
    cases h : f a with
    | none => exact ih.cons a
    | some b => rw [List.map_cons, hf a b h]; exact ih.cons_cons a

end OLP.Elect
