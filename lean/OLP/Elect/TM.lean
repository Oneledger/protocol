/-
  Tendermint's change-set rule: when `TM.apply` accepts a list and what the new set is (`apply_ok`).
  One lemma per check of `UpdateWithChangeSet`, about arbitrary lists; `apply` itself is unfolded in
  `apply_of_scan` only.
-/
import OLP.Elect.Model
import OLP.Elect.Lists
import OLP.Base.Sort

namespace OLP.Elect

/-- results of `TM.apply` / `run` can be compared by evaluation (used by the concrete examples) -/
instance {ε α : Type} [DecidableEq ε] [DecidableEq α] : DecidableEq (Except ε α)
  | .ok a, .ok b => decidable_of_iff (a = b) ⟨congrArg _, Except.ok.inj⟩
  | .error a, .error b => decidable_of_iff (a = b) ⟨congrArg _, Except.error.inj⟩
  | .ok _, .error _ => isFalse nofun
  | .error _, .ok _ => isFalse nofun

namespace TM

def sumPow : List Chg → Int
  | [] => 0
  | c :: t => c.power + sumPow t

theorem sumPow_perm {l₁ l₂ : List Chg} (h : l₁.Perm l₂) : sumPow l₁ = sumPow l₂ := by
  induction h with
  | nil => rfl
  | cons x _ ih => simp [sumPow, ih]
  | swap x y l => simp only [sumPow]; omega
  | trans _ _ ih1 ih2 => exact ih1.trans ih2

theorem sumPow_sublist_le {l' l : List Chg} (hs : l'.Sublist l) (h : ∀ c ∈ l, 0 ≤ c.power) :
    sumPow l' ≤ sumPow l := by
  induction hs with
  | slnil => exact Int.le_refl _
  | cons a _ ih =>
    have := List.forall_mem_cons.mp h
    exact Int.le_trans (ih this.2) (Int.le_add_of_nonneg_left this.1)
  | cons_cons a _ ih => exact Int.add_le_add_left (ih (List.forall_mem_cons.mp h).2) _

theorem sumPow_nonneg {l : List Chg} (h : ∀ c ∈ l, 0 ≤ c.power) : 0 ≤ sumPow l :=
  sumPow_sublist_le (List.nil_sublist l) h

theorem le_sumPow {l : List Chg} (h : ∀ c ∈ l, 0 ≤ c.power) {c : Chg} (hc : c ∈ l) : c.power ≤ sumPow l :=
  Int.le_trans (Int.le_of_eq (Int.add_zero _).symm) (sumPow_sublist_le (List.singleton_sublist.mpr hc) h)

theorem total_nonneg {s : VSet} (h : ∀ x ∈ s, 0 ≤ x.2) : 0 ≤ total s := by
  induction s with
  | nil => simp [total]
  | cons x t ih =>
    obtain ⟨k, p⟩ := x
    have := List.forall_mem_cons.mp h
    exact Int.add_nonneg this.1 (ih this.2)

/-! ### the individual checks -/

theorem validate_ok {cs : List Chg} (hpow : ∀ c ∈ cs, 0 ≤ c.power)
    (hkt : ∀ c ∈ cs, 0 < c.power → c.ktype = 0) : validate cs = .ok () := by
  induction cs with
  | nil => rfl
  | cons c t ih =>
    obtain ⟨h1, ht1⟩ := List.forall_mem_cons.mp hpow
    obtain ⟨h2, ht2⟩ := List.forall_mem_cons.mp hkt
    rw [validate, if_neg (Int.not_lt.mpr h1), ih ht1 ht2]
    by_cases hz : c.power = 0
    · rw [if_pos hz]
    · rw [if_neg hz, if_neg (not_not_intro (h2 (by omega)))]

theorem scan_ok {l : List Chg} (prev : Option Nat)
    (hs : l.Pairwise (fun a b => a.key < b.key))
    (hprev : ∀ p, prev = some p → ∀ c ∈ l, p < c.key)
    (hpow : ∀ c ∈ l, 0 ≤ c.power ∧ c.power ≤ maxTotal) :
    scan prev l = .ok (l.filter (fun c => decide (c.power ≠ 0)), l.filter (fun c => decide (c.power = 0))) := by
  induction l generalizing prev with
  | nil => rfl
  | cons u t ih =>
    obtain ⟨hu, ht⟩ := List.forall_mem_cons.mp hpow
    have hs := List.pairwise_cons.mp hs
    have n0 : ¬ prev = some u.key := fun e => Nat.lt_irrefl _ (hprev u.key e u (List.mem_cons_self ..))
    rw [scan, if_neg n0, if_neg (Int.not_lt.mpr hu.1), if_neg (Int.not_lt.mpr hu.2),
      ih (some u.key) hs.2 (fun p hp c hc => Option.some.inj hp ▸ hs.1 c hc) ht]
    by_cases hz : u.power = 0 <;> simp [hz]

theorem sortChg_spec (l : List Chg) :
    (sortChg l).Perm l ∧ (sortChg l).Pairwise (fun a b => a.key ≤ b.key) :=
  ⟨foldr_ins_perm insChg (fun _ => rfl) (fun _ _ _ => rfl) l,
    foldr_ins_pairwise insChg (fun _ => rfl) (fun _ _ _ => rfl) id Nat.le_of_not_le Nat.le_trans l⟩

theorem sortChg_strict {l : List Chg} (hn : (l.map (·.key)).Nodup) :
    (sortChg l).Pairwise (fun a b => a.key < b.key) :=
  ((sortChg_spec l).2.and (List.pairwise_map.mp ((((sortChg_spec l).1.map (·.key)).nodup_iff).mpr hn))).imp
    fun ⟨a, b⟩ => Nat.lt_of_le_of_ne a b

theorem scan_sortChg {cs : List Chg} (hkeys : (cs.map (·.key)).Nodup)
    (hpow : ∀ c ∈ cs, 0 ≤ c.power ∧ c.power ≤ maxTotal) :
    ∃ ups dels, scan none (sortChg cs) = .ok (ups, dels) ∧
      ups.Perm (cs.filter fun c => decide (c.power ≠ 0)) ∧ dels.Perm (cs.filter fun c => decide (c.power = 0)) :=
  ⟨_, _, scan_ok none (sortChg_strict hkeys) (fun _ hp => nomatch hp)
      (fun c hc => hpow c ((sortChg_spec cs).1.mem_iff.mp hc)),
    (sortChg_spec cs).1.filter _, (sortChg_spec cs).1.filter _⟩

/-- the empty-set test `numNew == 0 && len(set) == len(deletes)` fails as soon as one change `c0` is
    not a removal: it is new, or it is a member that none of the (distinct) removals names -/
theorem not_emptySet {s : VSet} {ups dels : List Chg} {c0 : Chg} (hc0 : c0 ∈ ups)
    (hn : ((c0 :: dels).map (·.key)).Nodup) (hdel : ∀ d ∈ dels, (alookup d.key s).isSome) :
    ¬ ((ups.filter fun u => (alookup u.key s).isNone).length = 0 ∧ s.length = dels.length) := by
  rintro ⟨h1, h2⟩
  cases hl : (alookup c0.key s).isNone with
  | true => exact absurd h1 (Nat.ne_of_gt (List.length_pos_of_mem (List.mem_filter.mpr ⟨hc0, hl⟩)))
  | false =>
    have := hn.length_le_of_subset (l₂ := akeys s) fun k hk => by
      obtain ⟨d, hd, rfl⟩ := List.mem_map.mp hk
      rcases List.mem_cons.mp hd with rfl | hd
      · exact (mem_akeys_iff_alookup s _).mpr (Option.isNone_eq_false_iff.mp hl)
      · exact (mem_akeys_iff_alookup s _).mpr (hdel d hd)
    simp only [List.length_map, List.length_cons, akeys] at this
    omega

theorem sortDelta_perm (s : VSet) (l : List Chg) : (l.foldr (insDelta s) []).Perm l :=
  foldr_ins_perm (insDelta s) (fun _ => rfl) (fun _ _ _ => rfl) l

theorem delta_le {s : VSet} (hs : ∀ x ∈ s, 0 ≤ x.2) (u : Chg) : delta s u ≤ u.power := by
  unfold delta
  split
  · have := hs _ (mem_of_alookup ‹_›); omega
  · exact Int.le_refl _

/-- `verifyUpdates`: no delta exceeds the power of its change and no power is negative, so the running
    total stays below its end value whatever the order -/
theorem verify_ok {s : VSet} (hs : ∀ x ∈ s, 0 ≤ x.2) {l : List Chg} (hl : ∀ u ∈ l, 0 ≤ u.power) {x : Int}
    (hx : x + sumPow l ≤ maxTotal) : verifyUpdates s x l = true := by
  induction l generalizing x with
  | nil => rfl
  | cons u t ih =>
    obtain ⟨h1, ht⟩ := List.forall_mem_cons.mp hl
    have := sumPow_nonneg ht
    have := delta_le hs u
    rw [sumPow] at hx
    rw [verifyUpdates, if_neg (by omega)]
    exact ih ht (by omega)

/-- the power taken out by the removals, as `verifyUpdates` is started with it -/
theorem removed_nonneg {s : VSet} (hs : ∀ x ∈ s, 0 ≤ x.2) (dels : List Chg) :
    0 ≤ (dels.map fun d => (alookup d.key s).getD 0).foldl (· + ·) 0 := by
  suffices ∀ a : Int, 0 ≤ a → 0 ≤ (dels.map fun d => (alookup d.key s).getD 0).foldl (· + ·) a from
    this 0 (Int.le_refl 0)
  induction dels with
  | nil => exact fun a ha => ha
  | cons d t ih => exact fun a ha => ih _ (Int.add_nonneg ha (alookup_getD_nonneg hs))

/-! ### the new set -/

theorem alookup_insVal (k k' : Nat) (p : Int) (l : VSet) :
    alookup k (insVal k' p l) = if k = k' then some p else alookup k l := by
  induction l with
  | nil => rw [insVal, alookup_cons]
  | cons x t ih =>
    obtain ⟨k'', p''⟩ := x
    rw [insVal]
    by_cases h1 : k' < k''
    · rw [if_pos h1, alookup_cons]
    · rw [if_neg h1]
      by_cases h2 : k' = k''
      · rw [if_pos h2, alookup_cons, alookup_cons, ← h2]
        by_cases e : k = k'
        · rw [if_pos e, if_pos e]
        · rw [if_neg e, if_neg e, if_neg e]
      · rw [if_neg h2, alookup_cons, ih, alookup_cons]
        by_cases e : k = k'
        · rw [if_pos e, if_pos e, if_neg (e ▸ h2)]
        · rw [if_neg e, if_neg e]

theorem mem_insVal {x : Nat × Int} {k : Nat} {p : Int} {l : VSet} (h : x ∈ insVal k p l) :
    x = (k, p) ∨ x ∈ l := by
  induction l with
  | nil => exact Or.inl (List.mem_singleton.mp h)
  | cons y t ih =>
    unfold insVal at h
    split at h
    · exact List.mem_cons.mp h
    · split at h
      · exact (List.mem_cons.mp h).imp_right (List.mem_cons_of_mem _)
      · exact (List.mem_cons.mp h).elim (fun e => Or.inr (e ▸ List.mem_cons_self ..))
          fun e => (ih e).imp_right (List.mem_cons_of_mem _)

theorem alookup_foldl_insVal (ups : List Chg) (s : VSet) (k : Nat) :
    (alookup k (ups.foldl (fun a u => insVal u.key u.power a) s) = alookup k s ∧ ∀ u ∈ ups, u.key ≠ k) ∨
    (∃ u ∈ ups, u.key = k ∧ alookup k (ups.foldl (fun a u => insVal u.key u.power a) s) = some u.power) :=
  alookup_foldl_cases (fun m u k => alookup_insVal k u.key u.power m) ups s k

theorem foldl_insVal_nonneg {ups : List Chg} (hu : ∀ u ∈ ups, 0 ≤ u.power) {s : VSet} (hs : ∀ x ∈ s, 0 ≤ x.2) :
    ∀ x ∈ ups.foldl (fun a u => insVal u.key u.power a) s, 0 ≤ x.2 := by
  induction ups generalizing s with
  | nil => exact hs
  | cons v t ih =>
    obtain ⟨hv, ht⟩ := List.forall_mem_cons.mp hu
    exact ih ht fun x hx => (mem_insVal hx).elim (· ▸ hv) (hs x)

/-- the last step of `apply`: whoever a removal names is gone, the others stay -/
theorem alookup_not_any (dels : List Chg) (k : Nat) (l : VSet) :
    alookup k (l.filter fun kv => !(dels.any fun d => d.key == kv.1)) =
      if k ∈ dels.map (·.key) then none else alookup k l := by
  rw [alookup_filter_key (fun k => !(dels.any fun d => d.key == k))]
  by_cases h : k ∈ dels.map (·.key)
  · obtain ⟨d, hd, e⟩ := List.mem_map.mp h
    rw [if_pos h, if_neg]
    rw [List.any_eq_true.mpr ⟨d, hd, by simpa using e⟩]; exact Bool.false_ne_true
  · rw [if_neg h, if_pos]
    rw [List.any_eq_false.mpr fun d hd => by simpa using fun e => h (List.mem_map.mpr ⟨d, hd, e⟩)]; rfl

/-! ### acceptance -/

theorem apply_of_scan {s : VSet} {cs ups dels : List Chg} (hv : validate cs = .ok ()) (hne : cs ≠ [])
    (hscan : scan none (sortChg cs) = .ok (ups, dels))
    (hempty : ¬ ((ups.filter fun u => (alookup u.key s).isNone).length = 0 ∧ s.length = dels.length))
    (hdel : ∀ d ∈ dels, (alookup d.key s).isSome)
    (hver : verifyUpdates s (total s - (dels.map fun d => (alookup d.key s).getD 0).foldl (· + ·) 0)
      (ups.foldr (insDelta s) []) = true) :
    apply s cs = .ok ((ups.foldl (fun a u => insVal u.key u.power a) s).filter
      fun kv => !(dels.any fun d => d.key == kv.1)) := by
  have hany : dels.any (fun d => (alookup d.key s).isNone) = false :=
    List.any_eq_false.mpr fun d hd => by rw [Option.isNone_eq_false_iff.mpr (hdel d hd)]; exact Bool.false_ne_true
  simp only [apply, hv, List.isEmpty_iff, hne, hscan, Bool.and_eq_true, decide_eq_true_eq, hempty, hany, hver,
    Bool.not_true, Bool.false_eq_true, if_false]

theorem apply_ok (s : VSet) {cs : List Chg}
    (hkeys : (cs.map (·.key)).Nodup)
    (hpow : ∀ c ∈ cs, 0 ≤ c.power)
    (hkt : ∀ c ∈ cs, 0 < c.power → c.ktype = 0)
    (hdel : ∀ c ∈ cs, c.power = 0 → (alookup c.key s).isSome)
    (hpos : ∃ c ∈ cs, 0 < c.power)
    (hs : ∀ x ∈ s, 0 ≤ x.2)
    (htot : total s + sumPow cs ≤ maxTotal) :
    ∃ s', apply s cs = .ok s' ∧
      (∀ c ∈ cs, c.power = 0 → alookup c.key s' = none) ∧
      (∀ c ∈ cs, 0 < c.power → alookup c.key s' = some c.power) ∧
      (∀ k, k ∉ cs.map (·.key) → alookup k s' = alookup k s) ∧
      (∀ x ∈ s', 0 ≤ x.2) := by
  obtain ⟨c0, hc0, hc0p⟩ := hpos
  have htn := total_nonneg hs
  -- the scan: `ups` are the positive changes, `dels` the removals
  obtain ⟨ups, dels, hscan, pu, pd⟩ := scan_sortChg hkeys fun c hc =>
    ⟨hpow c hc, by have := le_sumPow hpow hc; omega⟩
  have mups : ∀ {c}, c ∈ ups ↔ c ∈ cs ∧ c.power ≠ 0 := by
    intro c; rw [pu.mem_iff, List.mem_filter, decide_eq_true_eq]
  have mdels : ∀ {c}, c ∈ dels ↔ c ∈ cs ∧ c.power = 0 := by
    intro c; rw [pd.mem_iff, List.mem_filter, decide_eq_true_eq]
  have hinj := inj_on_of_nodup_map hkeys
  have notdel : ∀ c ∈ cs, c.power ≠ 0 → c.key ∉ dels.map (·.key) := fun c hc hp hk => by
    obtain ⟨d, hd, e⟩ := List.mem_map.mp hk
    exact hp (hinj d (mdels.mp hd).1 c hc e ▸ (mdels.mp hd).2)
  have hdel' : ∀ d ∈ dels, (alookup d.key s).isSome := fun d hd => hdel d (mdels.mp hd).1 (mdels.mp hd).2
  have hupow : ∀ u ∈ ups, 0 ≤ u.power := fun u hu => hpow u (mups.mp hu).1
  -- the empty-set test: `c0` stays
  have hempty := not_emptySet (s := s) (mups.mpr ⟨hc0, Int.ne_of_gt hc0p⟩)
    (List.nodup_cons.mpr ⟨notdel c0 hc0 (Int.ne_of_gt hc0p),
      ((pd.map _).nodup_iff).mpr ((List.filter_sublist.map _).nodup hkeys)⟩) hdel'
  -- the total: what is removed is not negative, what is written is part of `cs`
  have hrem := removed_nonneg hs dels
  have hsum : sumPow ups ≤ sumPow cs := sumPow_perm pu ▸ sumPow_sublist_le List.filter_sublist hpow
  refine ⟨_, apply_of_scan (validate_ok hpow hkt) (List.ne_nil_of_mem hc0) hscan hempty hdel'
      (verify_ok hs (fun u hu => hupow u ((sortDelta_perm s ups).mem_iff.mp hu))
        (by rw [sumPow_perm (sortDelta_perm s ups)]; omega)),
    fun c hc hz => ?_, fun c hc hp => ?_, fun k hk => ?_,
    fun x hx => foldl_insVal_nonneg hupow hs x (List.mem_filter.mp hx).1⟩
  · rw [alookup_not_any, if_pos (List.mem_map_of_mem (mdels.mpr ⟨hc, hz⟩))]
  · rw [alookup_not_any, if_neg (notdel c hc (Int.ne_of_gt hp))]
    rcases alookup_foldl_insVal ups s c.key with ⟨_, hno⟩ | ⟨u, hu, e, h⟩
    · exact absurd rfl (hno c (mups.mpr ⟨hc, Int.ne_of_gt hp⟩))
    · rw [h, hinj u (mups.mp hu).1 c hc e]
  · rw [alookup_not_any, if_neg fun h => (List.mem_map.mp h).elim fun d hd =>
      hk (List.mem_map.mpr ⟨d, (mdels.mp hd.1).1, hd.2⟩)]
    rcases alookup_foldl_insVal ups s k with ⟨h, _⟩ | ⟨u, hu, e, _⟩
    · exact h
    · exact absurd (List.mem_map.mpr ⟨u, (mups.mp hu).1, e⟩) hk

end TM
end OLP.Elect
