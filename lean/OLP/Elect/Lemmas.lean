import OLP.Elect.Heap
import OLP.Elect.Election
import OLP.Elect.TM
import OLP.Elect.Chain
