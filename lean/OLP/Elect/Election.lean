/-
  The election of one block in closed form.  The pop loop is its list of verdicts (`verdicts`: every
  record it finds, with the flag `updateTendermint`); every field of its state is a projection of that
  list (`foldl_popStep`, `runLoop_eq`), so a fact about the loop is read off the list and needs no
  induction of its own.  It elects the first `TopValidatorCount` eligible records in pop order
  (`runLoop_elected`), the purge loop is a `filterMap` over the sorted keys (`purged_eq`), and above
  height 1 `elect` is one equation in these two (`elect_eq`).  `popStep` is unfolded in
  `popStep_none` / `popStep_some` only.  `inp` is explicit where a hypothesis names it through a field
  only (`Chain` has `s.recs`, `s.next` there).
-/
import OLP.Elect.Heap
import OLP.Elect.Lists
import OLP.Base.Sort

namespace OLP.Elect

/-! ### `sort.Slice` by public key, `sort.Strings` over the keys of `lastActive` -/

theorem sortUpd_spec (l : List Upd) :
    (sortUpd l).Perm l ∧ (sortUpd l).Pairwise (fun a b => a.pub ≤ b.pub) :=
  ⟨foldr_ins_perm insUpd (fun _ => rfl) (fun _ _ _ => rfl) l,
    foldr_ins_pairwise insUpd (fun _ => rfl) (fun _ _ _ => rfl) id Nat.le_of_not_le Nat.le_trans l⟩

theorem mem_insKey {a b : Nat} {l : List Nat} : b ∈ insKey a l ↔ b = a ∨ b ∈ l := by
  induction l with
  | nil => simp [insKey]
  | cons c t ih =>
    unfold insKey
    split
    · simp
    · split
      · rename_i e; subst e; simp
      · simp only [List.mem_cons, ih, or_left_comm]

theorem mem_sortKeys {b : Nat} {l : List Nat} : b ∈ sortKeys l ↔ b ∈ l := by
  induction l with
  | nil => simp [sortKeys]
  | cons a t ih => rw [sortKeys, List.foldr_cons, mem_insKey, ← sortKeys, ih, List.mem_cons]

theorem insKey_sorted (a : Nat) (l : List Nat) (hs : l.Pairwise (· < ·)) : (insKey a l).Pairwise (· < ·) := by
  induction l with
  | nil => simp [insKey]
  | cons c t ih =>
    have hc := List.pairwise_cons.mp hs
    unfold insKey
    split
    · exact List.pairwise_cons.mpr
        ⟨fun w hw => (List.mem_cons.mp hw).elim (· ▸ ‹a < c›) fun hw => Nat.lt_trans ‹a < c› (hc.1 w hw), hs⟩
    · split
      · exact hs
      · exact List.pairwise_cons.mpr
          ⟨fun w hw => (mem_insKey.mp hw).elim (fun e => by omega) (hc.1 w), ih hc.2⟩

theorem sortKeys_nodup (l : List Nat) : (sortKeys l).Nodup := by
  have : (sortKeys l).Pairwise (· < ·) := by
    induction l with
    | nil => exact List.Pairwise.nil
    | cons a t ih => exact insKey_sorted a _ ih
  exact this.imp Nat.ne_of_lt

/-! ### `findRec` -/

theorem findRec_some {recs : List Rec} {a : Nat} {r : Rec} (h : findRec recs a = some r) :
    r ∈ recs ∧ r.addr = a :=
  ⟨List.mem_of_find?_eq_some h, by simpa using List.find?_some h⟩

theorem findRec_none {recs : List Rec} {a : Nat} (h : a ∉ recs.map (·.addr)) : findRec recs a = none :=
  List.find?_eq_none.mpr fun r hr e => h (List.mem_map.mpr ⟨r, hr, by simpa using e⟩)

theorem findRec_self {recs : List Rec} (hn : (recs.map (·.addr)).Nodup) {r : Rec} (hr : r ∈ recs) :
    findRec recs r.addr = some r := by
  induction recs with
  | nil => cases hr
  | cons x t ih =>
    rw [List.map_cons, List.nodup_cons] at hn
    rw [findRec, List.find?_cons]
    rcases List.mem_cons.mp hr with rfl | hr'
    · simp
    · have hne : (x.addr == r.addr) = false :=
        beq_eq_false_iff_ne.mpr fun e => hn.1 (e ▸ List.mem_map_of_mem hr')
      rw [hne]
      exact ih hn.2 hr'

/-! ### the pop loop as a list of verdicts -/

/-- the loop's `updateTendermint`: the record is eligible and a seat is free (`c` seats are taken) -/
def seated (inp : Input) (c : Int) (r : Rec) : Bool := eligible inp r && decide (c < inp.top)

/-- the loop's `requiredStatusUpdate`: no status yet, or one that differs from `upd` -/
def statusDue (inp : Input) (r : Rec) (upd : Bool) : Bool :=
  match alookup r.addr inp.status with
  | none => true
  | some s => s.active != upd

/-- what the loop decides, in pop order: every record it finds, with its `updateTendermint` flag.
    Nothing else of the loop's state enters a round, so every field of the state is a projection of
    this list (`foldl_popStep`) and a fact about the loop is read off it. -/
def verdicts (inp : Input) : Int → List Item → List (Rec × Bool)
  | _, [] => []
  | c, it :: t =>
    match findRec inp.recs it.val with
    | none => verdicts inp c t
    | some r => (r, seated inp c r) :: verdicts inp (if seated inp c r then c + 1 else c) t

/-- the `SetValidatorStatus` call a verdict leads to -/
def statusWrite (inp : Input) (v : Rec × Bool) : Option (Nat × Status) :=
  if statusDue inp v.1 v.2 then some (v.1.addr, ⟨v.2, inp.height⟩) else none

/-- the deletion a verdict leads to -/
def deletion (inp : Input) (v : Rec × Bool) : Option Nat :=
  if deletable inp v.1 (statusDue inp v.1 v.2) then some v.1.addr else none

theorem eligible_iff {inp : Input} {r : Rec} :
    eligible inp r = true ↔ r.power ≥ inp.minSelf ∧ r.addr ∉ inp.malicious := by
  simp [eligible]

theorem statusDue_false {inp : Input} {r : Rec} {upd : Bool} (h : statusDue inp r upd = false) :
    ∃ x, alookup r.addr inp.status = some x ∧ x.active = upd := by
  unfold statusDue at h
  split at h
  · cases h
  · exact ⟨_, ‹_›, by simpa using h⟩

theorem popStep_none {inp : Input} {it : Item} (st : Loop) (hf : findRec inp.recs it.val = none) :
    popStep inp st it = st := by
  rw [popStep, hf]

theorem popStep_some {inp : Input} {it : Item} {r : Rec} (st : Loop) (hf : findRec inp.recs it.val = some r) :
    popStep inp st it =
      { cnt := if seated inp st.cnt r then st.cnt + 1 else st.cnt
        elected := if seated inp st.cnt r then st.elected ++ [r] else st.elected
        nonTop := if seated inp st.cnt r then st.nonTop else r :: st.nonTop
        statusW := if statusDue inp r (seated inp st.cnt r)
          then st.statusW ++ [(r.addr, ⟨seated inp st.cnt r, inp.height⟩)] else st.statusW
        deleted := if deletable inp r (statusDue inp r (seated inp st.cnt r))
          then st.deleted ++ [r.addr] else st.deleted } := by
  rw [popStep, hf]; rfl

theorem foldl_popStep (inp : Input) (post : List Item) (st : Loop) :
    post.foldl (popStep inp) st =
      { cnt := st.cnt + ((verdicts inp st.cnt post).filter (·.2)).length
        elected := st.elected ++ ((verdicts inp st.cnt post).filter (·.2)).map (·.1)
        nonTop := (((verdicts inp st.cnt post).filter (!·.2)).map (·.1)).reverse ++ st.nonTop
        statusW := st.statusW ++ (verdicts inp st.cnt post).filterMap (statusWrite inp)
        deleted := st.deleted ++ (verdicts inp st.cnt post).filterMap (deletion inp) } := by
  induction post generalizing st with
  | nil => simp [verdicts]
  | cons it t ih =>
    rw [List.foldl_cons, ih, verdicts]
    cases hf : findRec inp.recs it.val with
    | none => rw [popStep_none st hf]
    | some r =>
      -- the two optional writes of the round are the heads of the two `filterMap`s
      rw [popStep_some st hf, ite_snoc_filterMap (f := statusWrite inp) (a := (r, seated inp st.cnt r)) rfl,
        ite_snoc_filterMap (f := deletion inp) (a := (r, seated inp st.cnt r)) rfl]
      cases hs : seated inp st.cnt r <;> simp [hs, Int.add_assoc, Int.add_comm 1]

/-! ### closed form of the pop loop -/

def eligOf (inp : Input) (it : Item) : Option Rec := (findRec inp.recs it.val).filter (eligible inp)

def eligInOrder (inp : Input) : List Rec := (popOrder inp).filterMap (eligOf inp)

/-- the records the loop elects: the first `TopValidatorCount` eligible ones in pop order -/
def electedRecs (inp : Input) : List Rec := (eligInOrder inp).take inp.top.toNat

theorem verdicts_fst (inp : Input) (c : Int) (l : List Item) :
    (verdicts inp c l).map (·.1) = l.filterMap fun it => findRec inp.recs it.val := by
  induction l generalizing c with
  | nil => rfl
  | cons it t ih =>
    rw [verdicts, List.filterMap_cons]
    cases findRec inp.recs it.val with
    | none => exact ih c
    | some r => exact congrArg (r :: ·) (ih _)

/-- the loop stops electing when the seats are taken -/
theorem verdicts_elected (inp : Input) (c : Int) (l : List Item) :
    ((verdicts inp c l).filter (·.2)).map (·.1) = (l.filterMap (eligOf inp)).take (inp.top - c).toNat := by
  induction l generalizing c with
  | nil => exact List.take_nil.symm
  | cons it t ih =>
    rw [verdicts, List.filterMap_cons, eligOf]
    cases findRec inp.recs it.val with
    | none => exact ih c
    | some r =>
      dsimp only
      rw [Option.filter_some, seated]
      by_cases he : eligible inp r = true
      · rw [he, if_pos rfl, Bool.true_and]
        by_cases hlt : c < inp.top
        · rw [decide_eq_true hlt, show inp.top - c = inp.top - (c + 1) + 1 by omega,
            Int.toNat_add (by omega) (by decide)]
          exact congrArg (r :: ·) (ih _)
        · rw [decide_eq_false hlt]
          exact (ih c).trans (by rw [Int.toNat_eq_zero.mpr (Int.sub_nonpos_of_le (Int.not_lt.mp hlt))]; rfl)
      · rw [(Bool.not_eq_true _).mp he]
        exact ih c

theorem runLoop_eq (inp : Input) : runLoop inp =
    { cnt := (((verdicts inp 0 (popOrder inp)).filter (·.2)).length : Int)
      elected := ((verdicts inp 0 (popOrder inp)).filter (·.2)).map (·.1)
      nonTop := (((verdicts inp 0 (popOrder inp)).filter (!·.2)).map (·.1)).reverse
      statusW := (verdicts inp 0 (popOrder inp)).filterMap (statusWrite inp)
      deleted := (verdicts inp 0 (popOrder inp)).filterMap (deletion inp) } :=
  (foldl_popStep inp (popOrder inp) {}).trans (by simp)

theorem runLoop_elected (inp : Input) : (runLoop inp).elected = electedRecs inp := by
  rw [runLoop_eq, electedRecs, ← Int.sub_zero inp.top]
  exact verdicts_elected inp 0 _

theorem runLoop_cnt (inp : Input) : (runLoop inp).cnt = ((electedRecs inp).length : Int) := by
  rw [← runLoop_elected, runLoop_eq, List.length_map]

theorem mem_electedRecs_iff {inp : Input} {r : Rec} :
    r ∈ electedRecs inp ↔ (r, true) ∈ verdicts inp 0 (popOrder inp) := by
  rw [← runLoop_elected, runLoop_eq]
  simp

theorem mem_nonTop_iff {inp : Input} {r : Rec} :
    r ∈ (runLoop inp).nonTop ↔ (r, false) ∈ verdicts inp 0 (popOrder inp) := by
  rw [runLoop_eq]
  simp

theorem mem_statusW {inp : Input} {p : Nat × Status} : p ∈ (runLoop inp).statusW ↔
    ∃ v ∈ verdicts inp 0 (popOrder inp), statusDue inp v.1 v.2 = true ∧ (v.1.addr, ⟨v.2, inp.height⟩) = p := by
  simp only [runLoop_eq, List.mem_filterMap, statusWrite, Option.ite_none_right_eq_some, Option.some.injEq]

theorem mem_deleted {inp : Input} {a : Nat} : a ∈ (runLoop inp).deleted ↔
    ∃ v ∈ verdicts inp 0 (popOrder inp), deletable inp v.1 (statusDue inp v.1 v.2) = true ∧ v.1.addr = a := by
  simp only [runLoop_eq, List.mem_filterMap, deletion, Option.ite_none_right_eq_some, Option.some.injEq]

theorem runLoop_perm (inp : Input) : ((runLoop inp).elected ++ (runLoop inp).nonTop).Perm
    ((popOrder inp).filterMap fun it => findRec inp.recs it.val) := by
  rw [runLoop_eq, ← verdicts_fst inp 0]
  dsimp only
  exact ((List.reverse_perm _).append_left _).trans
    ((List.Perm.of_eq List.map_append.symm).trans ((List.filter_append_perm _ _).map _))

theorem runLoop_sound (inp : Input) : ∀ r, r ∈ (runLoop inp).elected ++ (runLoop inp).nonTop → r ∈ inp.recs := by
  intro r hr
  obtain ⟨it, _, e⟩ := List.mem_filterMap.mp ((runLoop_perm inp).mem_iff.mp hr)
  exact (findRec_some e).1

theorem runLoop_split (inp : Input) (hn : (inp.recs.map (·.addr)).Nodup) :
    ((runLoop inp).elected ++ (runLoop inp).nonTop).Perm inp.recs := by
  refine (runLoop_perm inp).trans ((List.Perm.filterMap _ (Heap.drain_spec _).1).trans ?_)
  rw [List.filterMap_map, filterMap_eq_self]
  exact fun r hr => findRec_self hn hr

theorem loop_addr_nodup (inp : Input) (hn : (inp.recs.map (·.addr)).Nodup) :
    ((electedRecs inp).map (·.addr)).Nodup ∧ ((runLoop inp).nonTop.map (·.addr)).Nodup ∧
      ∀ r ∈ electedRecs inp, ∀ r' ∈ (runLoop inp).nonTop, r.addr ≠ r'.addr := by
  have h := ((runLoop_split inp hn).map (·.addr)).nodup_iff.mpr hn
  rw [runLoop_elected, List.map_append, List.nodup_append] at h
  exact ⟨h.1, h.2.1, fun r hr r' hr' => h.2.2 _ (List.mem_map_of_mem hr) _ (List.mem_map_of_mem hr')⟩

theorem mem_electedRecs {inp : Input} {r : Rec} (hr : r ∈ electedRecs inp) :
    r ∈ inp.recs ∧ r.power ≥ inp.minSelf ∧ r.addr ∉ inp.malicious := by
  obtain ⟨it, _, e⟩ := List.mem_filterMap.mp (List.mem_of_mem_take hr)
  obtain ⟨hf, he⟩ := Option.filter_eq_some_iff.mp e
  exact ⟨(findRec_some hf).1, eligible_iff.mp he⟩

theorem findRec_popOrder {inp : Input} (hn : (inp.recs.map (·.addr)).Nodup) {it : Item} (hit : it ∈ popOrder inp) :
    ∃ r ∈ inp.recs, findRec inp.recs it.val = some r ∧ it.prio = r.power := by
  obtain ⟨r, hr, e⟩ := List.mem_map.mp ((Heap.drain_spec _).1.mem_iff.mp hit)
  exact ⟨r, hr, e ▸ findRec_self hn hr, e ▸ rfl⟩

theorem eligInOrder_sorted (inp : Input) (hn : (inp.recs.map (·.addr)).Nodup) :
    (eligInOrder inp).Pairwise (fun a b => a.power ≥ b.power) := by
  -- `Pairwise.filterMap` carries over the relation alone, so membership in `popOrder` goes into it
  refine ((Heap.drain_spec _).2.imp_of_mem fun ha hb h => And.intro ha (And.intro hb h)).filterMap _ ?_
  rintro a a' ⟨ha, ha', hR⟩ b hb b' hb'
  obtain ⟨r, _, e, p⟩ := findRec_popOrder hn ha
  obtain ⟨r', _, e', p'⟩ := findRec_popOrder hn ha'
  rw [eligOf, e] at hb
  rw [eligOf, e'] at hb'
  cases (Option.filter_eq_some_iff.mp hb).1
  cases (Option.filter_eq_some_iff.mp hb').1
  exact p ▸ p' ▸ hR

theorem mem_eligInOrder (inp : Input) (hn : (inp.recs.map (·.addr)).Nodup) {r : Rec} (hr : r ∈ inp.recs)
    (hp : r.power ≥ inp.minSelf) (hm : r.addr ∉ inp.malicious) : r ∈ eligInOrder inp :=
  List.mem_filterMap.mpr ⟨⟨r.addr, r.power⟩,
    (Heap.drain_spec _).1.mem_iff.mpr (List.mem_map.mpr ⟨r, hr, rfl⟩),
    Option.filter_eq_some_iff.mpr ⟨findRec_self hn hr, eligible_iff.mpr ⟨hp, hm⟩⟩⟩

/-! ### the purge loop -/

theorem guarded_iff {inp : Input} {a : Nat} : guarded inp a = true ↔
    0 < (alookup a inp.purge).getD 0 ∧ inp.height ≤ (alookup a inp.purge).getD 0 + 2 := by
  simp [guarded]

theorem foldl_purgeStep (inp : Input) (nonTop : List Rec) (keys : List Nat) (acc : List Rec) :
    keys.foldl (purgeStep inp nonTop) acc =
      acc ++ keys.filterMap (fun a => (findRec nonTop a).filter (fun _ => !guarded inp a)) := by
  induction keys generalizing acc with
  | nil => simp
  | cons a t ih =>
    rw [List.foldl_cons, ih, List.filterMap_cons, purgeStep]
    cases findRec nonTop a with
    | none => simp
    | some r => cases guarded inp a <;> simp [Option.filter_some]

theorem purged_eq (inp : Input) : purged inp = if (runLoop inp).cnt = 0 then [] else
    (sortKeys inp.lastActive).filterMap
      (fun a => (findRec (runLoop inp).nonTop a).filter (fun _ => !guarded inp a)) := by
  rw [purged, foldl_purgeStep, List.nil_append]

theorem mem_purged {inp : Input} {r : Rec} (hr : r ∈ purged inp) :
    r ∈ (runLoop inp).nonTop ∧ r.addr ∈ inp.lastActive ∧ guarded inp r.addr = false := by
  rw [purged_eq] at hr
  split at hr
  · cases hr
  · obtain ⟨a, ha, e⟩ := List.mem_filterMap.mp hr
    obtain ⟨hf, hg⟩ := Option.filter_eq_some_iff.mp e
    obtain ⟨m, rfl⟩ := findRec_some hf
    exact ⟨m, mem_sortKeys.mp ha, by simpa using hg⟩

theorem mem_purged_recs {inp : Input} {r : Rec} (hr : r ∈ purged inp) : r ∈ inp.recs :=
  runLoop_sound inp r (List.mem_append_right _ (mem_purged hr).1)

theorem purged_addr_nodup (inp : Input) : ((purged inp).map (·.addr)).Nodup := by
  rw [purged_eq]
  split
  · exact List.nodup_nil
  · exact (map_filterMap_sublist (fun a r e => (findRec_some (Option.filter_eq_some_iff.mp e).1).2) _).nodup
      (sortKeys_nodup _)

theorem purged_complete (inp : Input) (hn : (inp.recs.map (·.addr)).Nodup) (hE : electedRecs inp ≠ [])
    {r : Rec} (hr : r ∈ inp.recs)
    (hne : r ∉ electedRecs inp) (hla : r.addr ∈ inp.lastActive) (hg : guarded inp r.addr = false) :
    r ∈ purged inp := by
  have hnt : r ∈ (runLoop inp).nonTop :=
    (List.mem_append.mp ((runLoop_elected inp ▸ runLoop_split inp hn).mem_iff.mpr hr)).resolve_left hne
  rw [purged_eq, runLoop_cnt, if_neg (by simpa using hE)]
  exact List.mem_filterMap.mpr ⟨r.addr, mem_sortKeys.mpr hla,
    Option.filter_eq_some_iff.mpr ⟨findRec_self (loop_addr_nodup inp hn).2.1 hnt, by simp [hg]⟩⟩

theorem elected_purged_addr_nodup (inp : Input) (hn : (inp.recs.map (·.addr)).Nodup) :
    ((electedRecs inp ++ purged inp).map (·.addr)).Nodup := by
  rw [List.map_append, List.nodup_append]
  refine ⟨(loop_addr_nodup inp hn).1, purged_addr_nodup inp, fun a ha b hb => ?_⟩
  obtain ⟨r, hr, rfl⟩ := List.mem_map.mp ha
  obtain ⟨r', hr', rfl⟩ := List.mem_map.mp hb
  exact (loop_addr_nodup inp hn).2.2 r hr r' (mem_purged hr').1

/-! ### the output of `elect` -/

theorem elect_low (inp : Input) (h : ¬ 1 < inp.height) : elect inp = ⟨[], [], [], [], 0⟩ := by
  rw [elect, if_pos (Int.not_lt.mp h)]

theorem elect_eq (inp : Input) (h : 1 < inp.height) : elect inp =
    { updates := sortUpd ((electedRecs inp).map Rec.upd ++ (purged inp).map Rec.removal)
      statusW := (runLoop inp).statusW
      deleted := (runLoop inp).deleted
      purgeW := (purged inp).map fun r => (r.addr, inp.height)
      activeCount := (electedRecs inp).length } := by
  simp only [elect, if_neg (Int.not_le.mpr h), runLoop_elected, runLoop_cnt]

theorem updates_perm (inp : Input) (h : 1 < inp.height) :
    (elect inp).updates.Perm ((electedRecs inp).map Rec.upd ++ (purged inp).map Rec.removal) := by
  rw [elect_eq inp h]; exact (sortUpd_spec _).1

theorem mem_updates {inp : Input} {u : Upd} : u ∈ (elect inp).updates ↔
    1 < inp.height ∧ ((∃ r ∈ electedRecs inp, r.upd = u) ∨ (∃ r ∈ purged inp, r.removal = u)) := by
  by_cases h : 1 < inp.height
  · rw [(updates_perm inp h).mem_iff, List.mem_append, List.mem_map, List.mem_map, and_iff_right h]
  · rw [elect_low inp h]
    exact ⟨nofun, fun hu => absurd hu.1 h⟩

theorem mem_purgeW {inp : Input} {p : Nat × Int} : p ∈ (elect inp).purgeW ↔
    1 < inp.height ∧ ∃ r ∈ purged inp, (r.addr, inp.height) = p := by
  by_cases h : 1 < inp.height
  · rw [elect_eq inp h, List.mem_map, and_iff_right h]
  · rw [elect_low inp h]
    exact ⟨nofun, fun hp => absurd hp.1 h⟩

theorem elect_nobody (inp : Input) (hE : electedRecs inp = []) :
    purged inp = [] ∧ (elect inp).updates = [] := by
  have hp : purged inp = [] := by rw [purged_eq, runLoop_cnt, hE]; rfl
  refine ⟨hp, ?_⟩
  by_cases h : 1 < inp.height
  · rw [elect_eq inp h, hE, hp]; rfl
  · rw [elect_low inp h]

/-! ### the status writes and deletions of one block -/

theorem alookup_applyWrites_cases {α : Type} (w : List (Nat × α)) (m : List (Nat × α)) (a : Nat) :
    (alookup a (applyWrites m w) = alookup a m ∧ ∀ p ∈ w, p.1 ≠ a) ∨
    (∃ p ∈ w, p.1 = a ∧ alookup a (applyWrites m w) = some p.2) :=
  alookup_foldl_cases (key := Prod.fst) (val := Prod.snd) (fun m p k => alookup_upsert m p.1 k p.2) w m a

theorem status_after_cases (inp : Input) (h : 1 < inp.height) (a : Nat) :
    alookup a (applyWrites inp.status (elect inp).statusW) = alookup a inp.status ∨
    ∃ x, alookup a (applyWrites inp.status (elect inp).statusW) = some x ∧ x.height = inp.height := by
  rw [elect_eq inp h]
  rcases alookup_applyWrites_cases (runLoop inp).statusW inp.status a with ⟨e1, _⟩ | ⟨p, hp, _, e2⟩
  · exact Or.inl e1
  · obtain ⟨v, _, _, rfl⟩ := mem_statusW.mp hp
    exact Or.inr ⟨_, e2, rfl⟩

theorem status_after_elected (inp : Input) (h : 1 < inp.height) (hn : (inp.recs.map (·.addr)).Nodup)
    {r : Rec} (hr : r ∈ electedRecs inp) :
    ∃ x, alookup r.addr (applyWrites inp.status (elect inp).statusW) = some x ∧ x.active = true := by
  rw [elect_eq inp h]
  rcases alookup_applyWrites_cases (runLoop inp).statusW inp.status r.addr with ⟨e1, hno⟩ | ⟨p, hp, e1, e2⟩
  · -- no write for the address: the status was active already
    cases hd : statusDue inp r true
    · exact (statusDue_false hd).imp fun x hx => ⟨e1.trans hx.1, hx.2⟩
    · exact absurd rfl (hno _ (mem_statusW.mpr ⟨(r, true), mem_electedRecs_iff.mp hr, hd, rfl⟩))
  · -- the last write for the address: were it inactive, the address would also be in `nonTop`
    obtain ⟨⟨r', u⟩, hv, _, rfl⟩ := mem_statusW.mp hp
    refine ⟨_, e2, ?_⟩
    cases u
    · exact absurd e1.symm ((loop_addr_nodup inp hn).2.2 r hr r' (mem_nonTop_iff.mpr hv))
    · rfl

theorem deleted_facts (inp : Input) (hn : (inp.recs.map (·.addr)).Nodup) {a : Nat}
    (ha : a ∈ (elect inp).deleted) :
    a ∉ inp.lastActive ∧ a ∉ (electedRecs inp).map (·.addr) ∧
    (∃ r ∈ inp.recs, r.addr = a ∧ r.power ≤ 0) ∧
    ∃ x, alookup a inp.status = some x ∧ x.active = false ∧ x.height + 2 < inp.height := by
  by_cases h : 1 < inp.height
  · rw [elect_eq inp h] at ha
    obtain ⟨⟨r, u⟩, hv, hd, rfl⟩ := mem_deleted.mp ha
    -- the deletion test says: inactive, no update needed, so not elected now
    simp only [deletable, settled, Bool.and_eq_true, decide_eq_true_eq, Bool.not_eq_true',
      List.contains_eq_mem, decide_eq_false_iff_not] at hd
    obtain ⟨⟨⟨hpw, _⟩, hla⟩, hset⟩ := hd
    split at hset
    · cases hset
    · rename_i x hx
      simp only [Bool.and_eq_true, Bool.not_eq_true', decide_eq_true_eq] at hset
      obtain ⟨y, hy, e⟩ := statusDue_false hset.1.2
      cases hx.symm.trans hy
      cases e.symm.trans hset.1.1
      have hnt := mem_nonTop_iff.mpr hv
      exact ⟨hla, fun hm => (List.mem_map.mp hm).elim fun r' h' => (loop_addr_nodup inp hn).2.2 r' h'.1 r hnt h'.2,
        ⟨r, runLoop_sound inp r (List.mem_append_right _ hnt), rfl, hpw⟩, x, hx, hset.1.1, by omega⟩
  · rw [elect_low inp h] at ha; cases ha

end OLP.Elect
