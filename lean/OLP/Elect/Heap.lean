/-
  container/heap on the priority queue: `up` and `down` restore the heap order around the one
  position that was exchanged, every operation permutes the elements, popping everything is sorted.
-/
import OLP.Elect.Model

namespace OLP.Elect.Heap

theorem getD_swap {h : H} {i j : Nat} (k : Nat) (hi : i < h.size) (hj : j < h.size) (d : Item) :
    (h.swapIfInBounds i j).getD k d =
      if j = k then h.getD i d else if i = k then h.getD j d else h.getD k d := by
  simp only [Array.getD_eq_getD_getElem?, Array.swapIfInBounds, hi, hj, dite_true, Array.getElem?_swap,
    apply_ite (Option.getD · d), Array.getElem?_eq_getElem, Option.getD_some]

theorem prioAt_swap {h : H} {i j : Nat} (k : Nat) (hi : i < h.size) (hj : j < h.size) :
    prioAt (h.swapIfInBounds i j) k =
      if j = k then prioAt h i else if i = k then prioAt h j else prioAt h k := by
  unfold prioAt
  rw [getD_swap k hi hj, apply_ite Item.prio, apply_ite Item.prio]

theorem swap_perm {h : H} {i j : Nat} : (h.swapIfInBounds i j).toList.Perm h.toList := by
  unfold Array.swapIfInBounds
  split
  · split
    · exact Array.perm_iff_toList_perm.mp (Array.swap_perm _ _)
    · exact List.Perm.refl _
  · exact List.Perm.refl _

theorem size_eq_of_perm {a b : H} (p : a.toList.Perm b.toList) : a.size = b.size := by
  rw [← Array.length_toList, p.length_eq, Array.length_toList]

theorem par_lt {k : Nat} (h : 0 < k) : (k - 1) / 2 < k :=
  Nat.lt_of_le_of_lt (Nat.div_le_self _ _) (Nat.sub_lt h Nat.one_pos)

theorem par_eq_iff {k i : Nat} (h : 0 < k) : (k - 1) / 2 = i ↔ k = 2 * i + 1 ∨ k = 2 * i + 1 + 1 := by
  constructor
  · intro e; omega
  · rintro (rfl | rfl)
    · rw [Nat.add_sub_cancel, Nat.mul_div_cancel_left _ (by decide)]
    · rw [Nat.add_sub_cancel, Nat.mul_add_div (by decide)]; rfl

/-- `omega` is slow with `(k - 1) / 2` in sight, so `e` is cleared first -/
theorem child_lt {k i n : Nat} (k0 : 0 < k) (hk : k < n) (e : (k - 1) / 2 = i) : 2 * i + 1 < n := by
  have := (par_eq_iff k0).mp e; clear e; omega

/-! ### the heap invariant on a prefix of length `n` -/

def IsHeap (h : H) (n : Nat) : Prop :=
  ∀ k, 0 < k → k < n → prioAt h ((k - 1) / 2) ≥ prioAt h k

/-- heap except possibly for the edge between `j` and its parent; the children of `j` already
    respect the parent of `j` -/
def UpInv (h : H) (n j : Nat) : Prop :=
  (∀ k, 0 < k → k < n → k ≠ j → prioAt h ((k - 1) / 2) ≥ prioAt h k) ∧
  (∀ k, 0 < k → k < n → (k - 1) / 2 = j → 0 < j → prioAt h ((j - 1) / 2) ≥ prioAt h k)

/-- heap except possibly for the edges from `i` to its children; the children of `i` already
    respect the parent of `i` -/
def DownInv (h : H) (n i : Nat) : Prop :=
  (∀ k, 0 < k → k < n → (k - 1) / 2 ≠ i → prioAt h ((k - 1) / 2) ≥ prioAt h k) ∧
  (∀ k, 0 < k → k < n → (k - 1) / 2 = i → 0 < i → prioAt h ((i - 1) / 2) ≥ prioAt h k)

theorem IsHeap.upInv {h : H} {n : Nat} (hh : IsHeap h n) (j : Nat) : UpInv h n j :=
  ⟨fun k h0 hk _ => hh k h0 hk, fun k h0 hk hp hj => by
    have h1 := hh k h0 hk
    have h2 := hh j hj (hp ▸ Nat.lt_trans (par_lt h0) hk)
    rw [hp] at h1
    exact Int.le_trans h1 h2⟩

theorem root_max {h : H} {n : Nat} (hh : IsHeap h n) (k : Nat) (hk : k < n) : prioAt h 0 ≥ prioAt h k := by
  induction k using Nat.strongRecOn with
  | _ k ih =>
    by_cases h0 : k = 0
    · rw [h0]; exact Int.le_refl _
    · have k0 := Nat.pos_of_ne_zero h0
      exact Int.le_trans (hh k k0 hk) (ih _ (par_lt k0) (Nat.lt_trans (par_lt k0) hk))

/-! ### `up` -/

theorem up_succ (h : H) (j fuel : Nat) : up h j (fuel + 1) =
    if (j - 1) / 2 = j ∨ prioAt h j ≤ prioAt h ((j - 1) / 2) then h
    else up (h.swapIfInBounds ((j - 1) / 2) j) ((j - 1) / 2) fuel := by
  simp only [up, less, Bool.or_eq_true, beq_iff_eq, Bool.not_eq_true', decide_eq_false_iff_not, Int.not_lt]

theorem up_perm {h : H} {j fuel : Nat} : (up h j fuel).toList.Perm h.toList := by
  induction fuel generalizing h j with
  | zero => exact List.Perm.refl _
  | succ f ih =>
    rw [up_succ]
    split
    · exact List.Perm.refl _
    · exact ih.trans swap_perm

theorem UpInv.swap {h : H} {n j : Nat} (hinv : UpInv h n j) (hn : n ≤ h.size) (hj : j < n) (h0 : 0 < j)
    (hgt : prioAt h ((j - 1) / 2) ≤ prioAt h j) :
    UpInv (h.swapIfInBounds ((j - 1) / 2) j) n ((j - 1) / 2) := by
  have hp := par_lt h0
  have P := fun k => prioAt_swap k (Nat.lt_trans hp (Nat.lt_of_lt_of_le hj hn)) (Nat.lt_of_lt_of_le hj hn)
  constructor
  · intro k k0 hk hkp
    rw [P k, if_neg (Ne.symm hkp), P]
    by_cases hkj : j = k
    · rw [if_pos hkj, ← hkj, if_neg (Nat.ne_of_gt hp), if_pos rfl]
      exact hgt
    · rw [if_neg hkj]
      have e1 := hinv.1 k k0 hk (Ne.symm hkj)
      split
      · rename_i e; exact hinv.2 k k0 hk e.symm h0
      · split
        · rename_i e; rw [← e] at e1; exact Int.le_trans e1 hgt
        · exact e1
  · intro k k0 hk hkp p0
    have hpp := par_lt p0
    have e1 := hinv.1 _ p0 (Nat.lt_trans hp hj) (Nat.ne_of_lt hp)
    rw [P, if_neg (Nat.ne_of_gt (Nat.lt_trans hpp hp)), if_neg (Nat.ne_of_gt hpp), P,
      if_neg (fun e => Nat.ne_of_lt (par_lt k0) (hkp.trans e))]
    split
    · exact e1
    · rename_i hkj
      have e2 := hinv.1 k k0 hk (Ne.symm hkj)
      rw [hkp] at e2
      exact Int.le_trans e2 e1

theorem up_heap {h : H} {n j fuel : Nat} (hn : n ≤ h.size) (hj : j < n) (hf : j < fuel)
    (hinv : UpInv h n j) : IsHeap (up h j fuel) n := by
  induction fuel generalizing h j with
  | zero => exact absurd hf (Nat.not_lt_zero _)
  | succ f ih =>
    rw [up_succ]
    split
    · -- stop: `j` is the root, or `j` does not exceed its parent
      rename_i hstop
      intro k k0 hk
      by_cases hkj : k = j
      · rcases hstop with hroot | hle
        · exact absurd (hkj ▸ hroot) (Nat.ne_of_lt (par_lt k0))
        · rw [hkj]; exact hle
      · exact hinv.1 k k0 hk hkj
    · rename_i hgo
      have j0 : 0 < j := Nat.pos_of_ne_zero fun e => hgo (Or.inl (by rw [e]))
      have hp := par_lt j0
      exact ih (by rw [Array.size_swapIfInBounds]; exact hn) (Nat.lt_trans hp hj)
        (Nat.lt_of_lt_of_le hp (Nat.le_of_lt_succ hf))
        (hinv.swap hn hj j0 (Int.le_of_lt (Int.not_le.mp fun e => hgo (Or.inr e))))

/-! ### `down` -/

theorem down_succ (h : H) (i n fuel : Nat) : down h i n (fuel + 1) =
    if n ≤ 2 * i + 1 ∨ prioAt h (bigChild h i n) ≤ prioAt h i then h
    else down (h.swapIfInBounds i (bigChild h i n)) (bigChild h i n) n fuel := by
  by_cases hc : n ≤ 2 * i + 1 <;>
    simp only [down, less, ge_iff_le, hc, Bool.not_eq_true', decide_eq_false_iff_not, Int.not_lt, if_true,
      true_or, false_or, if_false]

theorem bigChild_spec (h : H) {i n : Nat} (hc : 2 * i + 1 < n) :
    bigChild h i n < n ∧ i < bigChild h i n ∧ (bigChild h i n - 1) / 2 = i ∧
      ∀ k, 0 < k → k < n → (k - 1) / 2 = i → prioAt h (bigChild h i n) ≥ prioAt h k := by
  unfold bigChild
  split
  · rename_i hx
    simp only [less, Bool.and_eq_true, decide_eq_true_eq] at hx
    refine ⟨hx.1, by omega, (par_eq_iff (Nat.succ_pos _)).mpr (Or.inr rfl), fun k k0 _ hp => ?_⟩
    rcases (par_eq_iff k0).mp hp with e | e <;> subst e
    · exact Int.le_of_lt hx.2
    · exact Int.le_refl _
  · rename_i hx
    simp only [less, Bool.and_eq_true, decide_eq_true_eq, not_and] at hx
    refine ⟨hc, by omega, (par_eq_iff (Nat.succ_pos _)).mpr (Or.inl rfl), fun k k0 hk hp => ?_⟩
    rcases (par_eq_iff k0).mp hp with e | e <;> subst e
    · exact Int.le_refl _
    · exact Int.not_lt.mp (hx hk)

theorem down_perm {h : H} {i n fuel : Nat} : (down h i n fuel).toList.Perm h.toList := by
  induction fuel generalizing h i with
  | zero => exact List.Perm.refl _
  | succ f ih =>
    rw [down_succ]
    split
    · exact List.Perm.refl _
    · exact ih.trans swap_perm

theorem down_getD_ge {h : H} {i n k : Nat} (fuel : Nat) (hn : n ≤ h.size) (hi : i < n) (hk : n ≤ k) (d : Item) :
    (down h i n fuel).getD k d = h.getD k d := by
  induction fuel generalizing h i with
  | zero => rfl
  | succ f ih =>
    rw [down_succ]
    split
    · rfl
    · have hjn := (bigChild_spec h (i := i) (n := n) (by omega)).1
      rw [ih (by rw [Array.size_swapIfInBounds]; exact hn) hjn,
        getD_swap k (Nat.lt_of_lt_of_le hi hn) (Nat.lt_of_lt_of_le hjn hn),
        if_neg (Nat.ne_of_lt (Nat.lt_of_lt_of_le hjn hk)), if_neg (Nat.ne_of_lt (Nat.lt_of_lt_of_le hi hk))]

theorem DownInv.swap {h : H} {n i j : Nat} (hinv : DownInv h n i) (hn : n ≤ h.size) (hj : j < n)
    (hij : i < j) (hpj : (j - 1) / 2 = i) (hgt : prioAt h i ≤ prioAt h j)
    (hmax : ∀ k, 0 < k → k < n → (k - 1) / 2 = i → prioAt h j ≥ prioAt h k) :
    DownInv (h.swapIfInBounds i j) n j := by
  have j0 := Nat.zero_lt_of_lt hij
  have P := fun k => prioAt_swap k (Nat.lt_trans hij (Nat.lt_of_lt_of_le hj hn)) (Nat.lt_of_lt_of_le hj hn)
  constructor
  · intro k k0 hk hkp
    rw [P ((k - 1) / 2), if_neg (Ne.symm hkp), P k]
    by_cases hki : i = k
    · -- the edge above `i`
      subst hki
      rw [if_neg (Nat.ne_of_gt hij), if_pos rfl, if_neg (Nat.ne_of_gt (par_lt k0))]
      exact hinv.2 j j0 hj hpj k0
    · rw [if_neg hki]
      by_cases hpi : i = (k - 1) / 2
      · -- a child of `i`: `j` itself or its sibling
        rw [if_pos hpi]
        split
        · exact hgt
        · exact hmax k k0 hk hpi.symm
      · rw [if_neg hpi, if_neg (fun e => hpi (by rw [← e, hpj]))]
        exact hinv.1 k k0 hk (Ne.symm hpi)
  · intro k k0 hk hkp _
    have hjk : j < k := hkp ▸ par_lt k0
    rw [hpj, P, if_neg (Nat.ne_of_gt hij), if_pos rfl, P, if_neg (Nat.ne_of_lt hjk),
      if_neg (Nat.ne_of_lt (Nat.lt_trans hij hjk))]
    have := hinv.1 k k0 hk (by rw [hkp]; exact Nat.ne_of_gt hij)
    rwa [hkp] at this

theorem DownInv.stop {h : H} {n i : Nat} (hinv : DownInv h n i)
    (hch : ∀ k, 0 < k → k < n → (k - 1) / 2 = i → prioAt h i ≥ prioAt h k) : IsHeap h n :=
  fun k k0 hk => if hp : (k - 1) / 2 = i then hp ▸ hch k k0 hk hp else hinv.1 k k0 hk hp

theorem down_heap {h : H} {n i fuel : Nat} (hn : n ≤ h.size) (hf : n ≤ i + fuel)
    (hinv : DownInv h n i) : IsHeap (down h i n fuel) n := by
  induction fuel generalizing h i with
  | zero => exact hinv.stop fun k k0 hk e => by have := child_lt k0 hk e; clear e; omega
  | succ f ih =>
    rw [down_succ]
    split
    · -- stop: no child of `i` below `n` exceeds `i`
      rename_i hstop
      refine hinv.stop fun k k0 hk hp => ?_
      have hc := child_lt k0 hk hp
      exact Int.le_trans ((bigChild_spec h hc).2.2.2 k k0 hk hp) (hstop.resolve_left (Nat.not_le.mpr hc))
    · rename_i hgo
      obtain ⟨hjn, hij, hpj, hmax⟩ := bigChild_spec h (i := i) (n := n) (Nat.not_le.mp fun e => hgo (Or.inl e))
      exact ih (by rw [Array.size_swapIfInBounds]; exact hn) (by omega)
        (hinv.swap hn hjn hij hpj (Int.le_of_lt (Int.not_le.mp fun e => hgo (Or.inr e))) hmax)

/-! ### `Push`, `Init`, `Pop` -/

theorem prioAt_push_lt {h : H} {x : Item} {k : Nat} (hk : k < h.size) :
    prioAt (h.push x) k = prioAt h k := by
  unfold prioAt
  simp [Array.getD_eq_getD_getElem?, Array.getElem?_push, Nat.ne_of_lt hk]

theorem push_perm (h : H) (x : Item) : (push h x).toList.Perm (x :: h.toList) := by
  unfold push
  refine up_perm.trans ?_
  rw [Array.toList_push]
  exact List.perm_append_singleton _ _

theorem push_heap (h : H) (x : Item) (hh : IsHeap h h.size) : IsHeap (push h x) (h.size + 1) := by
  unfold push
  simp only [Array.size_push, Nat.add_sub_cancel]
  refine up_heap (by simp) (Nat.lt_succ_self _) (Nat.lt_succ_self _) ⟨?_, ?_⟩
  · intro k k0 hk hkj
    have hk' : k < h.size := Nat.lt_of_le_of_ne (Nat.le_of_lt_succ hk) hkj
    rw [prioAt_push_lt hk', prioAt_push_lt (Nat.lt_trans (par_lt k0) hk')]
    exact hh k k0 hk'
  · -- the new last element has no children
    have : ¬ 2 * h.size + 1 < h.size + 1 := by omega
    exact fun k k0 hk hp => absurd (child_lt k0 hk hp) this

theorem foldl_push (l : List Item) (h : H) (hh : IsHeap h h.size) :
    IsHeap (l.foldl push h) (l.foldl push h).size ∧ (l.foldl push h).toList.Perm (l.reverse ++ h.toList) := by
  induction l generalizing h with
  | nil => exact ⟨hh, by simp⟩
  | cons x t ih =>
    have hs : (push h x).size = h.size + 1 := by rw [size_eq_of_perm (push_perm h x)]; simp
    obtain ⟨a, b⟩ := ih (push h x) (hs ▸ push_heap h x hh)
    refine ⟨a, ?_⟩
    simp only [List.foldl_cons, List.reverse_cons, List.append_assoc, List.singleton_append]
    exact b.trans (List.Perm.append_left _ (push_perm h x))

theorem down_of_isHeap {h : H} {n : Nat} (hh : IsHeap h n) (i fuel : Nat) : down h i n fuel = h := by
  cases fuel with
  | zero => rfl
  | succ f =>
    rw [down_succ, if_pos]
    by_cases hc : n ≤ 2 * i + 1
    · exact Or.inl hc
    · obtain ⟨hjn, hij, hpj, _⟩ := bigChild_spec h (Nat.not_le.mp hc)
      have := hh _ (Nat.zero_lt_of_lt hij) hjn
      rw [hpj] at this
      exact Or.inr this

/-- `Init` after the pushes of `InitValidatorQueue` changes nothing -/
theorem init_of_isHeap {h : H} (hh : IsHeap h h.size) : init h = h := by
  unfold init
  induction (List.range (h.size / 2)).reverse with
  | nil => rfl
  | cons i t ih => rw [List.foldl_cons, down_of_isHeap hh, ih]

theorem build_spec (l : List Item) :
    IsHeap (build l) (build l).size ∧ (build l).toList.Perm l := by
  unfold build
  obtain ⟨a, b⟩ := foldl_push l #[] (fun k _ hk => absurd hk (Nat.not_lt_zero k))
  rw [init_of_isHeap a]
  exact ⟨a, b.trans (List.append_nil _ ▸ List.reverse_perm l)⟩

theorem mem_toList_prio {h : H} {x : Item} (hx : x ∈ h.toList) : ∃ k, k < h.size ∧ prioAt h k = x.prio := by
  obtain ⟨i, hi, e⟩ := List.mem_iff_getElem.mp hx
  have hi' : i < h.size := by simpa using hi
  refine ⟨i, hi', ?_⟩
  simp [prioAt, hi', ← e]

theorem toList_eq_pop_append (h : H) (hs : h.size ≠ 0) :
    h.toList = h.pop.toList ++ [h.getD (h.size - 1) ⟨0, 0⟩] :=
  (congrArg Array.toList (Array.eq_push_pop_back!_of_size_ne_zero hs)).trans
    (Array.toList_push.trans (congrArg (h.pop.toList ++ [·]) Array.getElem!_eq_getD))

theorem prioAt_pop (h : H) {k : Nat} (hk : k < h.size - 1) : prioAt h.pop k = prioAt h k := by
  unfold prioAt
  rw [Array.getD_eq_getD_getElem?, Array.getD_eq_getD_getElem?, Array.getElem?_pop, if_pos hk]

/-- the first two statements of `Pop`: the root goes to the last position and stays there, the rest
    is a heap again -/
theorem pop_down (h : H) (n : Nat) (hn : n < h.size) (hh : IsHeap h h.size) :
    (down (h.swapIfInBounds 0 n) 0 n n).toList.Perm h.toList ∧
    (down (h.swapIfInBounds 0 n) 0 n n).getD n ⟨0, 0⟩ = h.getD 0 ⟨0, 0⟩ ∧
    IsHeap (down (h.swapIfInBounds 0 n) 0 n n) n := by
  have h0 := Nat.zero_lt_of_lt hn
  have hsz : n ≤ (h.swapIfInBounds 0 n).size := by rw [Array.size_swapIfInBounds]; exact Nat.le_of_lt hn
  refine ⟨down_perm.trans swap_perm, ?_, ?_⟩
  · have e : (down (h.swapIfInBounds 0 n) 0 n n).getD n ⟨0, 0⟩ = (h.swapIfInBounds 0 n).getD n ⟨0, 0⟩ := by
      by_cases hn0 : n = 0
      · rw [hn0]; rfl
      · exact down_getD_ge n hsz (Nat.pos_of_ne_zero hn0) (Nat.le_refl _) _
    rw [e, getD_swap n h0 hn, if_pos rfl]
  · refine down_heap hsz (Nat.le_add_left _ _)
      ⟨fun k k0 hk hp => ?_, fun _ _ _ _ h => absurd h (Nat.lt_irrefl 0)⟩
    -- neither `k` nor its parent is one of the exchanged positions `0`, `n`
    rw [prioAt_swap _ h0 hn, prioAt_swap k h0 hn, if_neg (Nat.ne_of_gt (Nat.lt_trans (par_lt k0) hk)),
      if_neg (Ne.symm hp), if_neg (Nat.ne_of_gt hk), if_neg (Nat.ne_of_lt k0)]
    exact hh k k0 (Nat.lt_trans hk hn)

theorem pop_spec (h : H) (hs : 0 < h.size) (hh : IsHeap h h.size) :
    ∃ x h', pop h = some (x, h') ∧ h'.size = h.size - 1 ∧ IsHeap h' h'.size ∧
      h.toList.Perm (x :: h'.toList) ∧ ∀ y ∈ h'.toList, x.prio ≥ y.prio := by
  obtain ⟨p, g, hd⟩ := pop_down h (h.size - 1) (Nat.sub_lt hs Nat.one_pos) hh
  have hs2 := size_eq_of_perm p
  refine ⟨_, _, by unfold pop; rw [if_neg (Nat.ne_of_gt hs)], ?_, ?_, ?_, ?_⟩
  all_goals generalize down (h.swapIfInBounds 0 (h.size - 1)) 0 (h.size - 1) (h.size - 1) = h2 at *
  · rw [Array.size_pop, hs2]
  · rw [Array.size_pop, hs2]
    exact fun k k0 hk => by
      rw [prioAt_pop h2 (k := k) (hs2 ▸ hk), prioAt_pop h2 (hs2 ▸ Nat.lt_trans (par_lt k0) hk)]
      exact hd k k0 hk
  · rw [← hs2] at g ⊢
    exact (p.symm.trans (toList_eq_pop_append h2 (by omega) ▸ List.Perm.refl _)).trans
      (List.perm_append_singleton _ _)
  · -- the popped element is the old root; whatever is left was in the heap before
    intro y hy
    rw [Array.toList_pop] at hy
    obtain ⟨k, hk, e⟩ := mem_toList_prio (p.mem_iff.mp (List.dropLast_subset _ hy))
    rw [← e, g]
    exact root_max hh k hk

theorem popAll_spec (fuel : Nat) (h : H) (hf : h.size ≤ fuel) (hh : IsHeap h h.size) :
    (popAll h fuel).Perm h.toList ∧ (popAll h fuel).Pairwise (fun a b => a.prio ≥ b.prio) := by
  induction fuel generalizing h with
  | zero =>
    obtain rfl := Array.size_eq_zero_iff.mp (Nat.le_zero.mp hf)
    exact ⟨List.Perm.refl _, List.Pairwise.nil⟩
  | succ f ih =>
    by_cases hs : h.size = 0
    · obtain rfl := Array.size_eq_zero_iff.mp hs
      exact ⟨List.Perm.refl _, List.Pairwise.nil⟩
    · obtain ⟨x, h', hp, hsz, hh', hperm, hmax⟩ := pop_spec h (by omega) hh
      obtain ⟨p1, p2⟩ := ih h' (by omega) hh'
      simp only [popAll, hp]
      exact ⟨(List.Perm.cons x p1).trans hperm.symm,
        List.pairwise_cons.mpr ⟨fun y hy => hmax y (p1.mem_iff.mp hy), p2⟩⟩

theorem drain_spec (l : List Item) :
    (drain l).Perm l ∧ (drain l).Pairwise (fun a b => a.prio ≥ b.prio) := by
  unfold drain
  obtain ⟨a, b⟩ := build_spec l
  obtain ⟨c, d⟩ := popAll_spec (build l).size (build l) (Nat.le_refl _) a
  exact ⟨c.trans b, d⟩

end OLP.Elect.Heap
