/-
  Every successful handler of the bid model is a short sequence of a few updates of the state: an
  active offer is deactivated (with or without giving its amount back), the conversation is closed or
  opened, a new offer is recorded, an amount is taken from a balance.  `Eff` says of one such update,
  or a sequence of them, everything the properties (OLP/Props/C02Bid.lean) need; `handler_sound` puts
  the updates of each handler together.
-/
import OLP.Base.Guard
import OLP.Bid.Model
import OLP.Ledger.Lemmas

namespace OLP.Bid
open OLP

/-! ## balances

`bal` and `NonNegBals` unfold to `Ledger.bal` and `Ledger.NonNeg`, and `Ledger.setBal` is `upsert`: the Ledger lemmas
apply as they stand. -/

section balances
variable {b b1 : List (Addr × Int)} {a : Addr} {x : Int}

theorem sumV_eq_total (b : List (Addr × Int)) : sumV b = Ledger.total b := by
  induction b with
  | nil => rfl
  | cons hd t ih => simp only [sumV, Ledger.total, ih]

theorem _root_.OLP.Ledger.Change.sumV {b b' : List (Addr × Int)} {d : Addr → Int} {t : Int} (m : Ledger.Change b b' d t) : sumV b' = sumV b + t := by
  rw [sumV_eq_total, sumV_eq_total, m.total]

@[simp] theorem ifEq_zero (a b : Addr) : ifEq a b 0 = 0 := ite_self 0

/-- `credit` is `Ledger.addTo` -/
theorem change_credit (b : List (Addr × Int)) (a : Addr) (hx : 0 ≤ x) : Ledger.Change b (credit b a x) (fun y => ifEq y a x) x :=
  .addTo b a hx

/-- `debit` is `Ledger.minusFrom` -/
theorem change_debit (h : debit b a x = some b1) : Ledger.Change b b1 (fun y => - ifEq y a x) (-x) := by
  obtain ⟨hlt, h⟩ := of_guard h
  cases h
  exact .minusFrom (if_neg hlt)

theorem bal_debit (h : debit b a x = some b1) (y : Addr) : bal b1 y = bal b y - ifEq y a x :=
  (change_debit h).bal y

end balances

/-! ## locked offers -/

theorem lockedAmt_of_bid {o : Offer} (h : o.otype = tBid) : lockedAmt o = o.amount := if_pos h

theorem lockedAmt_of_counter {o : Offer} (h : o.otype = tCounter) : lockedAmt o = 0 :=
  if_neg (by rw [h]; decide)

section locked
variable (act : List (ConvId × Conv)) (a : Addr) (l : List (ConvId × Offer)) (k : ConvId)

theorem lockedSum_eq_asum : lockedSum l = asum (fun _ o => lockedAmt o) l := by
  induction l with
  | nil => rfl
  | cons hd t ih => simp only [lockedSum, asum, ih]

theorem lockedSum_upsert (o : Offer) :
    lockedSum (upsert l k o) = lockedSum l - (alookup k l).elim 0 lockedAmt + lockedAmt o := by
  simp only [lockedSum_eq_asum, asum_upsert]

theorem lockedSum_aerase (hn : (akeys l).Nodup) :
    lockedSum (aerase l k) = lockedSum l - (alookup k l).elim 0 lockedAmt := by
  simp only [lockedSum_eq_asum, asum_aerase _ _ _ hn]

/-- the summand of `lockedOf` -/
def contrib (o : Offer) : Int :=
  match alookup k act with
  | some c => if c.bidder = a then lockedAmt o else 0
  | none => 0

theorem contrib_of_active {act : List (ConvId × Conv)} {k : ConvId} {c : Conv} (hc : alookup k act = some c) (a : Addr) (o : Offer) :
    contrib act a k o = ifEq a c.bidder (lockedAmt o) := by
  unfold contrib ifEq; rw [hc]; dsimp only
  by_cases h : a = c.bidder
  · rw [if_pos h, if_pos h.symm]
  · rw [if_neg h, if_neg (Ne.symm h)]

theorem lockedOf_eq_asum : lockedOf act a l = asum (contrib act a) l := by
  induction l with
  | nil => rfl
  | cons hd t ih =>
    show contrib act a hd.1 hd.2 + lockedOf act a t = contrib act a hd.1 hd.2 + asum (contrib act a) t
    rw [ih]

theorem lockedOf_upsert (o : Offer) :
    lockedOf act a (upsert l k o) = lockedOf act a l - (alookup k l).elim 0 (contrib act a k) + contrib act a k o := by
  simp only [lockedOf_eq_asum, asum_upsert]

theorem lockedOf_aerase (hn : (akeys l).Nodup) :
    lockedOf act a (aerase l k) = lockedOf act a l - (alookup k l).elim 0 (contrib act a k) := by
  simp only [lockedOf_eq_asum, asum_aerase _ _ _ hn]

theorem lockedOf_act_change {act act' : List (ConvId × Conv)} {l : List (ConvId × Offer)} {k : ConvId}
    (hn : (akeys l).Nodup) (hact : ∀ k', k' ≠ k → alookup k' act' = alookup k' act)
    (hk : (alookup k l).elim 0 lockedAmt = 0) (a : Addr) : lockedOf act' a l = lockedOf act a l := by
  rw [lockedOf_eq_asum, lockedOf_eq_asum]
  refine asum_congr fun p hp => ?_
  unfold contrib
  by_cases hpk : p.1 = k
  · rw [← hpk, alookup_of_mem hn hp] at hk
    rw [show lockedAmt p.2 = 0 from hk]
    cases alookup p.1 act' <;> cases alookup p.1 act <;> simp
  · rw [hact p.1 hpk]

end locked

/-! ## the primitives -/

theorem getActive_ok {s : St} {id : ConvId} {c : Conv} (h : getActive s id = .ok c) : alookup id s.active = some c := by
  obtain ⟨_, h⟩ := of_guard h
  split at h
  · cases h
  next hc => cases h; exact hc

theorem getActive_err_of_none {s : St} {id : ConvId} (h : alookup id s.active = none) : ∃ e, getActive s id = .error e := by
  unfold getActive
  split
  · exact ⟨_, rfl⟩
  · rw [h]; exact ⟨_, rfl⟩

theorem getActiveOffer_some {s : St} {id : ConvId} {t : Int} {o : Offer} (h : getActiveOffer s id t = some (some o)) :
    alookup id s.aoffers = some o ∧ (t ≠ tInvalid → o.otype = t) := by
  unfold getActiveOffer at h
  split at h
  · cases h
  next ho =>
    obtain ⟨hc, h⟩ := of_guard h
    cases h; exact ⟨ho, fun ht => Decidable.not_not.mp fun hne => hc ⟨ht, hne⟩⟩

theorem getActiveOffer_none {s : St} {id : ConvId} {t : Int} (h : getActiveOffer s id t = some none) :
    alookup id s.aoffers = none := by
  unfold getActiveOffer at h
  split at h
  next hn => exact hn
  · split at h <;> cases h

/-- what a successful `deactivate` (common.go DeactivateOffer) does: the offer leaves the active offers and is filed with the
    inactive ones; only a bid offer that is not part of a deal has its amount credited to `bidder`; nothing else changes -/
structure DeactEff (env : Env) (s s1 : St) (deal : Bool) (bidder : Addr) (o : Offer) : Prop where
  kind : o.otype = tBid ∨ o.otype = tCounter
  active : s1.active = s.active
  committed : s1.committed = s.committed
  closed : s1.closed = s.closed
  doms : s1.doms = s.doms
  pool : s1.pool = s.pool
  aoffers : s1.aoffers = aerase s.aoffers o.conv
  bals : s1.bals = if o.otype = tBid ∧ deal = false then credit s.bals bidder o.amount else s.bals
  ioffers : ∃ o1, s1.ioffers = upsert s.ioffers (o.conv, o.otype, o.time) o1 ∧ o1.amount = o.amount ∧ o1.conv = o.conv

theorem deactivate_ok {env : Env} {s s1 : St} {deal : Bool} {bidder : Addr} {o : Offer}
    (h : deactivate env s deal bidder o = .ok s1) : DeactEff env s s1 deal bidder o := by
  unfold deactivate at h
  split at h
  next h1 =>
    cases deal <;> cases h
    · exact ⟨Or.inl h1, rfl, rfl, rfl, rfl, rfl, rfl, (if_pos ⟨h1, rfl⟩).symm, _, rfl, rfl, rfl⟩
    · exact ⟨Or.inl h1, rfl, rfl, rfl, rfl, rfl, rfl, (if_neg (fun h => nomatch h.2)).symm, _, rfl, rfl, rfl⟩
  next h1 =>
    split at h
    next h2 =>
      cases h
      exact ⟨Or.inr h2, rfl, rfl, rfl, rfl, rfl, rfl, (if_neg (fun h => h1 h.1)).symm, _, rfl, by cases deal <;> rfl, by cases deal <;> rfl⟩
    · cases h

theorem exchangeAsset_ok {env : Env} {s s' : St} {c : Conv} (h : exchangeAsset env s c = some s') :
    ∃ dm, s' = { s with doms := dm } ∧
      (c.atype = assetOns → ∃ d, alookup (nameOf c.asset) s.doms = some d ∧
        alookup (nameOf c.asset) dm = some (Ons.resetAfterSale d c.bidder c.bidder 0 env.version)) ∧
      (c.atype ≠ assetOns → dm = s.doms) := by
  unfold exchangeAsset at h
  split at h
  next h1 =>
    dsimp only at h
    split at h
    · cases h
    next d hd =>
      obtain ⟨_, h⟩ := of_guard h
      cases h
      exact ⟨_, rfl, fun _ => ⟨d, hd, alookup_upsert_self _ _ _⟩, fun hne => absurd h1 hne⟩
  next h1 =>
    split at h
    · cases h; exact ⟨s.doms, rfl, fun he => absurd he h1, fun _ => rfl⟩
    · cases h

theorem assetAvailable_ons {env : Env} {s : St} {asset : String} {owner : Addr}
    (h : assetAvailable env s asset assetOns owner = true) :
    ∃ d, alookup (nameOf asset) s.doms = some d ∧ d.owner = owner := by
  unfold assetAvailable at h
  rw [if_pos rfl] at h
  obtain ⟨_, h⟩ := of_guard h
  split at h
  · cases h
  next d hd =>
    obtain ⟨_, h⟩ := of_guard h
    obtain ⟨ho, _⟩ := of_guard h
    exact ⟨d, hd, Decidable.not_not.mp ho⟩

/-! ## inversion of the handlers -/

section inversion
variable {env : Env} {s s' : St} {id : ConvId}

theorem runExpire_ok (h : runExpire env s id = .ok s') :
    ∃ c o s1, alookup id s.active = some c ∧ alookup id s.aoffers = some o ∧
      deactivate env s false c.bidder o = .ok s1 ∧ s' = closeConv s1 id c stExpired := by
  unfold runExpire at h
  split at h
  · cases h
  next c hg =>
  split at h
  · cases h
  · cases h
  next o ho =>
  split at h
  · cases h
  next s1 hd => cases h; exact ⟨c, o, s1, getActive_ok hg, (getActiveOffer_some ho).1, hd, rfl⟩

theorem runCancel_ok {b : Addr} (h : runCancel env s id b = .ok s') :
    ∃ c o s1, alookup id s.active = some c ∧ alookup id s.aoffers = some o ∧ b = c.bidder ∧
      deactivate env s false c.bidder o = .ok s1 ∧ s' = closeConv s1 id c stCancelled := by
  unfold runCancel at h
  split at h
  · cases h
  next c hg =>
  obtain ⟨hb, h⟩ := of_guard h
  obtain ⟨_, h⟩ := of_guard h
  split at h
  · cases h
  · cases h
  next o ho =>
  split at h
  · cases h
  next s1 hd =>
    cases h; exact ⟨c, o, s1, getActive_ok hg, (getActiveOffer_some ho).1, Decidable.not_not.mp hb, hd, rfl⟩

theorem runCounter_ok {owner : Addr} {amount : Int}
    (h : runCounter env s id owner amount = .ok s') :
    ∃ c o s1, alookup id s.active = some c ∧ alookup id s.aoffers = some o ∧ o.otype = tBid ∧ owner = c.owner ∧
      o.amount < amount ∧ deactivate env s false c.bidder o = .ok s1 ∧
      s' = { s1 with aoffers := upsert s1.aoffers id ⟨id, tCounter, env.now, 0, 0, amount, aCounter⟩ } := by
  unfold runCounter at h
  split at h
  · cases h
  next c hg =>
  obtain ⟨how, h⟩ := of_guard h
  obtain ⟨_, h⟩ := of_guard h
  obtain ⟨_, h⟩ := of_guard h
  split at h
  · cases h
  · cases h
  next o ho =>
  obtain ⟨ho, hty⟩ := getActiveOffer_some ho
  obtain ⟨hlt, h⟩ := of_guard h
  split at h
  · cases h
  next s1 hd =>
    cases h; exact ⟨c, o, s1, getActive_ok hg, ho, hty (by decide), Decidable.not_not.mp how, Int.not_le.mp hlt, hd, rfl⟩

/-- `runOwnerDecision_ok` with the handler's second guard: the asset was available to the recorded owner -/
theorem runOwnerDecision_avail {owner : Addr} {d : Int}
    (h : runOwnerDecision env s id owner d = .ok s') :
    ∃ c o, alookup id s.active = some c ∧ alookup id s.aoffers = some o ∧ o.otype = tBid ∧ owner = c.owner ∧
      assetAvailable env s c.asset c.atype c.owner = true ∧
      ((d = decReject ∧ ∃ s1, deactivate env s false c.bidder o = .ok s1 ∧ s' = closeConv s1 id c stRejected) ∨
       (d = decAccept ∧ ∃ s2, deactivate env { s with bals := credit s.bals c.owner o.amount } true c.bidder o = .ok s2 ∧
          exchangeAsset env (closeConv s2 id c stSucceed) c = some s')) := by
  unfold runOwnerDecision at h
  split at h
  · cases h
  next c hg =>
  obtain ⟨_, h⟩ := of_guard h
  obtain ⟨hav, h⟩ := of_guard h
  obtain ⟨how, h⟩ := of_guard h
  split at h
  · cases h
  · cases h
  next o ho =>
  obtain ⟨ho, hty⟩ := getActiveOffer_some ho
  obtain ⟨hdec, h⟩ := of_guard h
  refine ⟨c, o, getActive_ok hg, ho, hty (by decide), Decidable.not_not.mp how, by simpa using hav, ?_⟩
  by_cases hr : d = decReject
  · rw [if_pos hr] at h
    split at h
    · cases h
    next s1 hd => cases h; exact Or.inl ⟨hr, s1, hd, rfl⟩
  · rw [if_neg hr] at h
    dsimp only at h
    split at h
    · cases h
    next s2 hd =>
    split at h
    · cases h
    next s3 hx => cases h; exact Or.inr ⟨Decidable.not_not.mp fun ha => hdec ⟨hr, ha⟩, s2, hd, hx⟩

theorem runOwnerDecision_ok {owner : Addr} {d : Int}
    (h : runOwnerDecision env s id owner d = .ok s') :
    ∃ c o, alookup id s.active = some c ∧ alookup id s.aoffers = some o ∧ o.otype = tBid ∧ owner = c.owner ∧
      ((d = decReject ∧ ∃ s1, deactivate env s false c.bidder o = .ok s1 ∧ s' = closeConv s1 id c stRejected) ∨
       (d = decAccept ∧ ∃ s2, deactivate env { s with bals := credit s.bals c.owner o.amount } true c.bidder o = .ok s2 ∧
          exchangeAsset env (closeConv s2 id c stSucceed) c = some s')) := by
  obtain ⟨c, o, hc, ho, hty, how, _, hcase⟩ := runOwnerDecision_avail h
  exact ⟨c, o, hc, ho, hty, how, hcase⟩

theorem runBidderDecision_ok {bidder : Addr} {d : Int}
    (h : runBidderDecision env s id bidder d = .ok s') :
    ∃ c o, alookup id s.active = some c ∧ alookup id s.aoffers = some o ∧ o.otype = tCounter ∧ bidder = c.bidder ∧
      ((d = decReject ∧ ∃ s1, deactivate env s false c.bidder o = .ok s1 ∧ s' = closeConv s1 id c stRejected) ∨
       (d = decAccept ∧ ∃ b1 s2, debit s.bals bidder o.amount = some b1 ∧
          deactivate env { s with bals := credit b1 c.owner o.amount } true c.bidder o = .ok s2 ∧
          exchangeAsset env (closeConv s2 id c stSucceed) c = some s')) := by
  unfold runBidderDecision at h
  split at h
  · cases h
  next c hg =>
  obtain ⟨_, h⟩ := of_guard h
  obtain ⟨_, h⟩ := of_guard h
  obtain ⟨hb, h⟩ := of_guard h
  split at h
  · cases h
  · cases h
  next o ho =>
  obtain ⟨ho, hty⟩ := getActiveOffer_some ho
  obtain ⟨hdec, h⟩ := of_guard h
  refine ⟨c, o, getActive_ok hg, ho, hty (by decide), Decidable.not_not.mp hb, ?_⟩
  by_cases hr : d = decReject
  · rw [if_pos hr] at h
    split at h
    · cases h
    next s1 hd => cases h; exact Or.inl ⟨hr, s1, hd, rfl⟩
  · rw [if_neg hr] at h
    split at h
    · cases h
    next b1 hdb =>
    dsimp only at h
    split at h
    · cases h
    next s2 hd =>
    split at h
    · cases h
    next s3 hx => cases h; exact Or.inr ⟨Decidable.not_not.mp fun ha => hdec ⟨hr, ha⟩, b1, s2, hdb, hd, hx⟩

theorem createTail_ok {isNew : Bool} {bidder : Addr} {amount : Int} (h : createTail env s isNew id bidder amount = .ok s') :
    ∃ c s2 b1, alookup id s.active = some c ∧ bidder = c.bidder ∧
      ((alookup id s.aoffers = none ∧ s2 = s) ∨
       (∃ o, alookup id s.aoffers = some o ∧ o.otype = tCounter ∧ amount < o.amount ∧
          deactivate env s false c.bidder o = .ok s2)) ∧
      debit s2.bals bidder amount = some b1 ∧
      s' = { s2 with bals := b1, aoffers := upsert s2.aoffers id ⟨id, tBid, env.now, 0, 0, amount, aLocked⟩ } := by
  unfold createTail at h
  split at h
  · cases h
  next c hg =>
  obtain ⟨_, h⟩ := of_guard h
  obtain ⟨hb, h⟩ := of_guard h
  obtain ⟨_, h⟩ := of_guard h
  split at h
  · cases h
  next co hco =>
  obtain ⟨_, h⟩ := of_guard h
  dsimp only at h
  split at h
  · cases h
  next s2 hs2 =>
  split at h
  · cases h
  next b1 hdb =>
  cases h
  refine ⟨c, s2, b1, getActive_ok hg, Decidable.not_not.mp hb, ?_, hdb, rfl⟩
  split at hs2
  · cases hs2; exact Or.inl ⟨getActiveOffer_none hco, rfl⟩
  next o _ =>
    obtain ⟨ho, hty⟩ := getActiveOffer_some hco
    obtain ⟨hlt, hs2⟩ := of_guard hs2
    split at hs2
    · cases hs2
    next hd => cases hs2; exact Or.inr ⟨o, ho, hty (by decide), Int.not_le.mp hlt, hd⟩

theorem runCreate_ok {owner : Addr} {asset : String} {atype : Int} {bidder : Addr}
    {amount deadline : Int} {newId : ConvId} (h : runCreate env s id owner asset atype bidder amount deadline newId = .ok s') :
    (id.isEmpty = true ∧
      createTail env { s with active := upsert s.active newId ⟨owner, asset, atype, bidder, deadline⟩ } true newId bidder amount = .ok s') ∨
    (id.isEmpty = false ∧ createTail env s false id bidder amount = .ok s') := by
  unfold runCreate at h
  by_cases he : id.isEmpty = true
  · rw [if_pos he] at h
    obtain ⟨_, h⟩ := of_guard h
    obtain ⟨_, h⟩ := of_guard h
    obtain ⟨_, h⟩ := of_guard h
    exact Or.inl ⟨he, h⟩
  · rw [if_neg he] at h; exact Or.inr ⟨Bool.eq_false_iff.mpr he, h⟩

theorem feeStep_ok (h : feeStep env s = .ok s') :
    ∃ b1, debit s.bals env.payer (feeOf env) = some b1 ∧ s' = { s with bals := b1, pool := s.pool + feeOf env } := by
  unfold feeStep at h
  unfold feeOf
  split at h
  · cases h
  · cases h
  next g hf =>
    rw [hf]
    split at h
    · cases h
    next b1 hd => cases h; exact ⟨b1, hd, rfl⟩

end inversion

/-! ## the invariants and the relations between the states of a step -/

/-- `WF` only looks at the active offers -/
def WFo (l : List (ConvId × Offer)) : Prop :=
  (akeys l).Nodup ∧
  ∀ k o, alookup k l = some o →
    o.conv = k ∧ 0 ≤ o.amount ∧
    ((o.otype = tBid ∧ o.astatus = aLocked) ∨ (o.otype = tCounter ∧ o.astatus = aCounter))

theorem wf_iff (s : St) : WF s ↔ WFo s.aoffers := Iff.rfl

theorem WFo.nonneg {l : List (ConvId × Offer)} {k : ConvId} {o : Offer} (h : WFo l) (ho : alookup k l = some o) : 0 ≤ o.amount :=
  (h.2 k o ho).2.1

theorem wfo_aerase {l : List (ConvId × Offer)} (h : WFo l) (k : ConvId) : WFo (aerase l k) :=
  ⟨nodup_akeys_aerase l k h.1, forall_alookup_aerase k h.2⟩

theorem wfo_upsert {l : List (ConvId × Offer)} (h : WFo l) (k : ConvId) (o : Offer) (hc : o.conv = k) (ha : 0 ≤ o.amount)
    (hk : (o.otype = tBid ∧ o.astatus = aLocked) ∨ (o.otype = tCounter ∧ o.astatus = aCounter)) : WFo (upsert l k o) :=
  ⟨nodup_akeys_upsert l k o h.1, forall_alookup_upsert h.2 ⟨hc, ha, hk⟩⟩

def tot3 (s : St) : Int := sumV s.bals + lockedSum s.aoffers + s.pool

theorem total_eq (s : St) : total s = tot3 s := rfl

/-- what every update keeps, and so every step and history (`keeps_step`, `keeps_run`): the total, the well-formedness
    of the active offers, and balances that were not negative stay so -/
structure Keeps (s s' : St) : Prop where
  tot : tot3 s' = tot3 s
  wf : WFo s'.aoffers
  nn : Ledger.NonNeg s.bals → Ledger.NonNeg s'.bals

theorem keeps_refl (s : St) (hw : WFo s.aoffers) : Keeps s s := ⟨rfl, hw, id⟩

theorem keeps_trans {a b c : St} (h1 : Keeps a b) (h2 : Keeps b c) : Keeps a c :=
  ⟨h2.tot.trans h1.tot, h2.wf, fun hn => h2.nn (h1.nn hn)⟩

/-- per address, the change of the balance (`dBal`) and of the amount locked in the offers of the conversations whose
    bidder it is (`dLock`): the two summands of `holdings` -/
structure Moves (s s' : St) (dBal dLock : Addr → Int) : Prop where
  bal : ∀ a, bal s'.bals a = bal s.bals a + dBal a
  lock : ∀ a, lockedOf s'.active a s'.aoffers = lockedOf s.active a s.aoffers + dLock a

theorem moves_refl (s : St) : Moves s s (fun _ => 0) (fun _ => 0) := ⟨fun _ => by simp, fun _ => by simp⟩

theorem moves_trans {a b c : St} {d1 d2 e1 e2 : Addr → Int} (h1 : Moves a b d1 d2) (h2 : Moves b c e1 e2) :
    Moves a c (fun x => d1 x + e1 x) (fun x => d2 x + e2 x) :=
  ⟨fun x => by rw [h2.bal, h1.bal, Int.add_assoc], fun x => by rw [h2.lock, h1.lock, Int.add_assoc]⟩

theorem same_refl (id : ConvId) (s : St) : Same id s s := ⟨rfl, fun _ => rfl, fun _ _ => rfl⟩

theorem same_trans {id : ConvId} {a b c : St} (h1 : Same id a b) (h2 : Same id b c) : Same id a c :=
  ⟨h2.1.trans h1.1, fun st => (h2.2.1 st).trans (h1.2.1 st), fun t tm => (h2.2.2 t tm).trans (h1.2.2 t tm)⟩

/-- an update, or a sequence of them (`Eff.trans`): `k` is the one conversation whose records may change (every other is
    `Same`), `dBal`/`dLock` are the per-address deltas of balance and own locked amount (`Moves`); the fee pool is not touched -/
structure Eff (k : ConvId) (s s' : St) (dBal dLock : Addr → Int) : Prop where
  keeps : Keeps s s'
  moves : Moves s s' dBal dLock
  same : ∀ j, j ≠ k → Same j s s'
  pool : s'.pool = s.pool

theorem Eff.trans {k : ConvId} {a b c : St} {d1 d2 e1 e2 : Addr → Int} (h1 : Eff k a b d1 d2) (h2 : Eff k b c e1 e2) :
    Eff k a c (fun x => d1 x + e1 x) (fun x => d2 x + e2 x) :=
  ⟨keeps_trans h1.keeps h2.keeps, moves_trans h1.moves h2.moves, fun j hj => same_trans (h1.same j hj) (h2.same j hj),
    h2.pool.trans h1.pool⟩

theorem Eff.congr {k : ConvId} {s s' : St} {d1 d2 d1' d2' : Addr → Int} (e : Eff k s s' d1 d2) (h1 : ∀ a, d1 a = d1' a)
    (h2 : ∀ a, d2 a = d2' a) : Eff k s s' d1' d2' := by
  rw [← funext h1, ← funext h2]; exact e

/-! ## the updates a handler is made of -/

section updates
variable {env : Env} {s s1 : St} {k : ConvId} {c : Conv} {o : Offer}

/-- deactivating the offer of conversation `k`: what is common to a refund and a deal -/
theorem DeactEff.offers {deal : Bool} {bidder : Addr} (E : DeactEff env s s1 deal bidder o) (hw : WFo s.aoffers)
    (hc : alookup k s.active = some c) (ho : alookup k s.aoffers = some o) :
    WFo s1.aoffers ∧ alookup k s1.aoffers = none ∧ lockedSum s1.aoffers = lockedSum s.aoffers - lockedAmt o ∧
    (∀ a, lockedOf s1.active a s1.aoffers = lockedOf s.active a s.aoffers - ifEq a c.bidder (lockedAmt o)) ∧
    ∀ j, j ≠ k → Same j s s1 := by
  have hk : o.conv = k := (hw.2 k o ho).1
  obtain ⟨o1, hio, _⟩ := E.ioffers
  rw [E.aoffers, E.active, hk]
  refine ⟨wfo_aerase hw k, alookup_aerase_self _ _, ?_, fun a => ?_, fun j hj => ⟨by rw [E.active], fun st => by rw [E.closed], fun t tm => ?_⟩⟩
  · rw [lockedSum_aerase _ _ hw.1, ho]; rfl
  · rw [lockedOf_aerase _ _ _ _ hw.1, ho, ← contrib_of_active hc]; rfl
  · rw [hio, hk]; exact alookup_upsert_ne _ _ _ _ (fun e => hj (Prod.mk.inj e).1)

theorem DeactEff.refund {bidder : Addr} (E : DeactEff env s s1 false bidder o) (ha : 0 ≤ o.amount) :
    Ledger.Change s.bals s1.bals (fun a => ifEq a bidder (lockedAmt o)) (lockedAmt o) := by
  rw [E.bals]
  rcases E.kind with hk | hk
  · rw [if_pos ⟨hk, rfl⟩, lockedAmt_of_bid hk]
    exact change_credit _ _ ha
  · rw [if_neg (fun h => absurd (hk ▸ h.1) (by decide)), lockedAmt_of_counter hk]
    exact (Ledger.Change.refl _).congr (fun _ => (ifEq_zero _ _).symm) rfl

theorem eff_refund (hw : WFo s.aoffers) (hc : alookup k s.active = some c) (ho : alookup k s.aoffers = some o)
    (hd : deactivate env s false c.bidder o = .ok s1) :
    Eff k s s1 (fun a => ifEq a c.bidder (lockedAmt o)) (fun a => - ifEq a c.bidder (lockedAmt o)) ∧
    alookup k s1.active = some c ∧ alookup k s1.aoffers = none := by
  have E := deactivate_ok hd
  obtain ⟨hw1, hn, hsum, hlock, hsame⟩ := E.offers hw hc ho
  have hb := E.refund (hw.nonneg ho)
  exact ⟨⟨⟨by unfold tot3; rw [hb.sumV, hsum, E.pool]; omega, hw1, hb.nonNeg⟩, ⟨hb.bal, fun a => by rw [hlock]; omega⟩, hsame, E.pool⟩,
    E.active ▸ hc, hn⟩

theorem Eff.close {s0 : St} {dBal dLock : Addr → Int} (e : Eff k s0 s dBal dLock) (hn : alookup k s.aoffers = none) (st : Int) :
    Eff k s0 (closeConv s k c st) dBal dLock := by
  refine ⟨⟨e.keeps.tot, e.keeps.wf, e.keeps.nn⟩, ⟨e.moves.bal, fun a => ?_⟩,
    fun j hj => same_trans (e.same j hj) ⟨?_, fun st' => ?_, fun _ _ => rfl⟩, e.pool⟩
  · rw [← e.moves.lock]
    exact lockedOf_act_change e.keeps.wf.1 (fun k' hk' => alookup_aerase_ne _ _ _ hk') (by rw [hn]; rfl) a
  · exact alookup_aerase_ne _ _ _ hj
  · exact alookup_upsert_ne _ _ _ _ (fun e => hj (Prod.mk.inj e).2)

theorem closeConv_gone (s1 : St) (id : ConvId) (c : Conv) (st : Int) : alookup id (closeConv s1 id c st).active = none :=
  alookup_aerase_self _ _

/-- a conversation is opened (or its record rewritten) under an id that holds no locked amount -/
theorem eff_open (hw : WFo s.aoffers) (hk : (alookup k s.aoffers).elim 0 lockedAmt = 0) (cv : Conv) :
    Eff k s { s with active := upsert s.active k cv } (fun _ => 0) (fun _ => 0) := by
  refine ⟨⟨rfl, hw, id⟩, ⟨fun a => (Int.add_zero _).symm, fun a => ?_⟩, fun j hj => ⟨?_, fun _ => rfl, fun _ _ => rfl⟩, rfl⟩
  · rw [Int.add_zero]
    exact lockedOf_act_change hw.1 (fun k' hk' => alookup_upsert_ne _ _ _ _ hk') hk a
  · exact alookup_upsert_ne _ _ _ _ hj

theorem eff_offer {b1 : List (Addr × Int)} {o' : Offer} (hw : WFo s.aoffers) (hc : alookup k s.active = some c)
    (hn : alookup k s.aoffers = none) (hk : o'.conv = k) (ha : 0 ≤ o'.amount)
    (hty : (o'.otype = tBid ∧ o'.astatus = aLocked) ∨ (o'.otype = tCounter ∧ o'.astatus = aCounter))
    (hb : Ledger.Change s.bals b1 (fun a => - ifEq a c.bidder (lockedAmt o')) (- lockedAmt o')) :
    Eff k s { s with bals := b1, aoffers := upsert s.aoffers k o' }
      (fun a => - ifEq a c.bidder (lockedAmt o')) (fun a => ifEq a c.bidder (lockedAmt o')) := by
  refine ⟨⟨?_, wfo_upsert hw k o' hk ha hty, hb.nonNeg⟩, ⟨hb.bal, fun a => ?_⟩,
    fun j _ => ⟨rfl, fun _ => rfl, fun _ _ => rfl⟩, rfl⟩
  · show sumV b1 + lockedSum (upsert s.aoffers k o') + s.pool = tot3 s
    rw [hb.sumV, lockedSum_upsert, hn, tot3]; show _ + (_ - 0 + _) + _ = _; omega
  · show lockedOf s.active a (upsert s.aoffers k o') = _
    rw [lockedOf_upsert, hn, contrib_of_active hc]; show _ - 0 + _ = _; omega

theorem Eff.exchange {s s3 s' : St} {dBal dLock : Addr → Int} (e : Eff k s s3 dBal dLock)
    (hx : exchangeAsset env s3 c = some s') : Eff k s s' dBal dLock := by
  obtain ⟨dm, rfl, _⟩ := exchangeAsset_ok hx
  exact ⟨⟨e.keeps.tot, e.keeps.wf, e.keeps.nn⟩, ⟨e.moves.bal, e.moves.lock⟩, e.same, e.pool⟩

/-- the deal: the payment has been made (`b0`), the offer is deactivated, the conversation closed, the asset handed over -/
theorem eff_deal {b0 : List (Addr × Int)} {s2 s' : St} {d : Addr → Int} {t : Int} (hw : WFo s.aoffers) (hc : alookup k s.active = some c)
    (ho : alookup k s.aoffers = some o) (hd : deactivate env { s with bals := b0 } true c.bidder o = .ok s2)
    (hx : exchangeAsset env (closeConv s2 k c stSucceed) c = some s')
    (hb : Ledger.Change s.bals b0 d t) (ht : t = lockedAmt o) :
    Eff k s s' d (fun a => - ifEq a c.bidder (lockedAmt o)) := by
  have E := deactivate_ok hd
  have hb2 : s2.bals = b0 := by rw [E.bals]; simp
  have hp : s2.pool = s.pool := E.pool
  obtain ⟨hw2, hn2, hls, hlock, hsame⟩ := E.offers (s := { s with bals := b0 }) hw hc ho
  dsimp only at hls hlock
  -- the payment and the deactivation together keep the total
  have e : Eff k s s2 d (fun a => - ifEq a c.bidder (lockedAmt o)) :=
    ⟨⟨by rw [tot3, hb2, hls, hp, hb.sumV, tot3]; omega, hw2, fun h => hb2 ▸ hb.nonNeg h⟩,
      ⟨fun a => by rw [hb2]; exact hb.bal a, fun a => by rw [hlock]; omega⟩, hsame, hp⟩
  exact (e.close hn2 stSucceed).exchange hx

/-- what both acceptances have in common after the payment: the conversation and its offer are gone,
    the asset (an ONS name) now belongs to the bidder -/
theorem accept_tail {env : Env} {s s0 s2 s' : St} {id : ConvId} {c : Conv} {o : Offer}
    (hw : WFo s.aoffers) (ho : alookup id s.aoffers = some o) (hd0 : s0.doms = s.doms)
    (hp0 : s0.pool = s.pool)
    (hd : deactivate env s0 true c.bidder o = .ok s2)
    (hx : exchangeAsset env (closeConv s2 id c stSucceed) c = some s') :
    alookup id s'.active = none ∧ alookup id s'.aoffers = none ∧ s'.pool = s.pool ∧
    (c.atype = assetOns → ∃ d, alookup (nameOf c.asset) s.doms = some d ∧
      alookup (nameOf c.asset) s'.doms = some (Ons.resetAfterSale d c.bidder c.bidder 0 env.version)) ∧
    (c.atype ≠ assetOns → s'.doms = s.doms) := by
  have E := deactivate_ok hd
  have hdoms : (closeConv s2 id c stSucceed).doms = s.doms := E.doms.trans hd0
  obtain ⟨dm, rfl, h8, h9⟩ := exchangeAsset_ok hx
  refine ⟨closeConv_gone s2 id c stSucceed, ?_, E.pool.trans hp0, fun hty => hdoms ▸ h8 hty, fun hty => (h9 hty).trans hdoms⟩
  show alookup id s2.aoffers = none
  rw [E.aoffers, (hw.2 id o ho).1]; exact alookup_aerase_self ..

end updates

/-! ## the handlers -/

/-- a create that executes carries a non-negative amount (`Validate`) -/
def Op.amountOk : Op → Prop
  | .create _ _ _ _ _ am _ _ _ => 0 ≤ am
  | _ => True

/-- what a successful handler of `op` does, before the fee (`handler_sound`): `Keeps`, holdings move by the deal's `transfer`
    and nothing else, and a conversation that was not active and is not the one `op` opens keeps its records -/
structure Sound (s s' : St) (op : Op) : Prop where
  keeps : Keeps s s'
  holdings : ∀ a, holdings s' a = holdings s a + transfer s op a
  same : ∀ j, alookup j s.active = none → op.opensId ≠ some j → Same j s s'

theorem Eff.sound {k : ConvId} {s s' : St} {d1 d2 : Addr → Int} {op : Op} (e : Eff k s s' d1 d2)
    (hd : ∀ a, d1 a + d2 a = transfer s op a)
    (hk : (∃ c, alookup k s.active = some c) ∨ op.opensId = some k) : Sound s s' op := by
  refine ⟨e.keeps, fun a => by unfold holdings; rw [e.moves.bal, e.moves.lock, ← hd a]; omega, fun j hj hno => e.same j ?_⟩
  rintro rfl
  rcases hk with ⟨c, hc⟩ | hk
  · rw [hj] at hc; cases hc
  · exact hno hk

section handlers
variable {env : Env} {s s1 s' : St} {k : ConvId} {c : Conv} {o : Offer} {op : Op}

/-- cancel, expire, either reject: the locked amount goes back, the conversation is closed -/
theorem eff_refundClose (hw : WFo s.aoffers) (hc : alookup k s.active = some c) (ho : alookup k s.aoffers = some o)
    (hd : deactivate env s false c.bidder o = .ok s1) (st : Int) :
    Eff k s (closeConv s1 k c st) (fun a => ifEq a c.bidder (lockedAmt o)) (fun a => - ifEq a c.bidder (lockedAmt o)) ∧
    alookup k s1.aoffers = none := by
  obtain ⟨e, _, hn⟩ := eff_refund hw hc ho hd
  exact ⟨e.close hn st, hn⟩

theorem sound_refundClose (hw : WFo s.aoffers) (hc : alookup k s.active = some c) (ho : alookup k s.aoffers = some o)
    (hd : deactivate env s false c.bidder o = .ok s1) {st : Int} (ht : ∀ a, transfer s op a = 0) :
    Sound s (closeConv s1 k c st) op :=
  (eff_refundClose hw hc ho hd st).1.sound (fun a => by rw [ht]; omega) (.inl ⟨c, hc⟩)

/-- the owner's counter offer: the bidder's locked amount goes back, the new offer locks nothing -/
theorem eff_counter {amount : Int} (hw : WFo s.aoffers) (hc : alookup k s.active = some c) (ho : alookup k s.aoffers = some o)
    (hlt : o.amount < amount) (hd : deactivate env s false c.bidder o = .ok s1) :
    ∃ d1 d2, Eff k s { s1 with aoffers := upsert s1.aoffers k ⟨k, tCounter, env.now, 0, 0, amount, aCounter⟩ } d1 d2 ∧
      ∀ a, d1 a + d2 a = 0 := by
  obtain ⟨e, hc1, hn⟩ := eff_refund hw hc ho hd
  have hL : lockedAmt ⟨k, tCounter, env.now, 0, 0, amount, aCounter⟩ = 0 := lockedAmt_of_counter rfl
  have e2 := eff_offer (o' := ⟨k, tCounter, env.now, 0, 0, amount, aCounter⟩) e.keeps.wf hc1 hn rfl
    (by have := hw.nonneg ho; show 0 ≤ amount; omega) (Or.inr ⟨rfl, rfl⟩)
    ((Ledger.Change.refl _).congr (fun a => by rw [hL, ifEq_zero]; rfl) (by rw [hL]; rfl))
  exact ⟨_, _, e.trans e2, fun a => by omega⟩

theorem eff_createTail {isNew : Bool} {bidder : Addr} {amount : Int} (hw : WFo s.aoffers) (ham : 0 ≤ amount)
    (h : createTail env s isNew k bidder amount = .ok s') :
    ∃ c d1 d2, alookup k s.active = some c ∧ Eff k s s' d1 d2 ∧ ∀ a, d1 a + d2 a = 0 := by
  obtain ⟨c, s2, b1, hc, rfl, hoff, hdb, rfl⟩ := createTail_ok h
  have lock : ∀ {s2 : St} {b1 : List (Addr × Int)}, WFo s2.aoffers → alookup k s2.active = some c → alookup k s2.aoffers = none →
      debit s2.bals c.bidder amount = some b1 → Eff k s2 _ _ _ := fun hw2 hc2 hn2 hdb =>
    eff_offer (o' := ⟨k, tBid, env.now, 0, 0, amount, aLocked⟩) hw2 hc2 hn2 rfl ham (Or.inl ⟨rfl, rfl⟩)
      (change_debit hdb)
  rcases hoff with ⟨hn, rfl⟩ | ⟨o, ho, _, _, hd⟩
  · exact ⟨c, _, _, hc, lock hw hc hn hdb, fun a => by omega⟩
  · obtain ⟨e, hc1, hn⟩ := eff_refund hw hc ho hd
    exact ⟨c, _, _, hc, e.trans (lock e.keeps.wf hc1 hn hdb), fun a => by omega⟩

/-- the owner accepts the bidder's offer: the locked amount goes to the owner -/
theorem eff_ownerAccept {s2 : St} (hw : WFo s.aoffers) (hc : alookup k s.active = some c) (ho : alookup k s.aoffers = some o)
    (hty : o.otype = tBid) (hd : deactivate env { s with bals := credit s.bals c.owner o.amount } true c.bidder o = .ok s2)
    (hx : exchangeAsset env (closeConv s2 k c stSucceed) c = some s') :
    Eff k s s' (fun a => ifEq a c.owner o.amount) (fun a => - ifEq a c.bidder o.amount) :=
  (eff_deal hw hc ho hd hx (change_credit _ _ (hw.nonneg ho)) (lockedAmt_of_bid hty).symm).congr (fun _ => rfl)
    (fun a => by rw [lockedAmt_of_bid hty])

/-- the counter offer is accepted and paid out of the balance of `bidder` (the handler's signer, who is `c.bidder`):
    nothing was locked -/
theorem eff_bidderAccept {s2 : St} {bidder : Addr} {b1 : List (Addr × Int)} (hw : WFo s.aoffers)
    (hc : alookup k s.active = some c) (ho : alookup k s.aoffers = some o) (hty : o.otype = tCounter)
    (hdb : debit s.bals bidder o.amount = some b1)
    (hd : deactivate env { s with bals := credit b1 c.owner o.amount } true c.bidder o = .ok s2)
    (hx : exchangeAsset env (closeConv s2 k c stSucceed) c = some s') :
    Eff k s s' (fun a => ifEq a c.owner o.amount - ifEq a bidder o.amount) (fun _ => 0) :=
  (eff_deal hw hc ho hd hx ((change_debit hdb).trans (change_credit _ _ (hw.nonneg ho)))
    (by rw [lockedAmt_of_counter hty]; omega)).congr (fun a => by omega) (fun a => by rw [lockedAmt_of_counter hty, ifEq_zero]; rfl)

theorem moves_ownerAccept {env : Env} {s s2 s' : St} {id : ConvId} {c : Conv} {o : Offer}
    (hw : WFo s.aoffers) (hc : alookup id s.active = some c) (ho : alookup id s.aoffers = some o) (hty : o.otype = tBid)
    (hd : deactivate env { s with bals := credit s.bals c.owner o.amount } true c.bidder o = .ok s2)
    (hx : exchangeAsset env (closeConv s2 id c stSucceed) c = some s') :
    Moves s s' (fun a => ifEq a c.owner o.amount) (fun a => - ifEq a c.bidder o.amount) :=
  (eff_ownerAccept hw hc ho hty hd hx).moves

theorem moves_bidderAccept {env : Env} {s s2 s' : St} {id : ConvId} {c : Conv} {o : Offer} {bidder : Addr} {b1 : List (Addr × Int)}
    (hw : WFo s.aoffers) (hc : alookup id s.active = some c) (ho : alookup id s.aoffers = some o) (hty : o.otype = tCounter)
    (hdb : debit s.bals bidder o.amount = some b1)
    (hd : deactivate env { s with bals := credit b1 c.owner o.amount } true c.bidder o = .ok s2)
    (hx : exchangeAsset env (closeConv s2 id c stSucceed) c = some s') :
    Moves s s' (fun a => ifEq a c.owner o.amount - ifEq a bidder o.amount) (fun _ => 0) :=
  (eff_bidderAccept hw hc ho hty hdb hd hx).moves

theorem sound_runExpire (hw : WFo s.aoffers) (h : runExpire env s k = .ok s') (ht : ∀ a, transfer s op a = 0) :
    Sound s s' op := by
  obtain ⟨c, o, s1, hc, ho, hd, rfl⟩ := runExpire_ok h
  exact sound_refundClose hw hc ho hd ht

theorem sound_runHook (ids ids' : List ConvId) (hw : WFo s.aoffers) : Sound s (runHook env s ids) (.hook ids') := by
  induction ids generalizing s with
  | nil => exact ⟨keeps_refl s hw, fun a => (Int.add_zero _).symm, fun j _ _ => same_refl j s⟩
  | cons id t ih =>
    unfold runHook
    split
    next s1 h =>
      have S1 : Sound s s1 (.hook ids') := sound_runExpire hw h (fun _ => rfl)
      have S2 := ih S1.keeps.wf
      exact ⟨keeps_trans S1.keeps S2.keeps, fun a => by rw [S2.holdings, S1.holdings]; exact Int.add_zero _,
        fun j hj hno => same_trans (S1.same j hj hno) (S2.same j (by rw [(S1.same j hj hno).1]; exact hj) hno)⟩
    · exact ih hw

theorem createTail_unlocked {isNew : Bool} {bidder : Addr} {amount : Int}
    (h : createTail env s isNew k bidder amount = .ok s') : (alookup k s.aoffers).elim 0 lockedAmt = 0 := by
  obtain ⟨c, s2, b1, _, _, hoff, _, _⟩ := createTail_ok h
  rcases hoff with ⟨hnone, _⟩ | ⟨o, ho, hty, _, _⟩
  · rw [hnone]; rfl
  · rw [ho]; exact lockedAmt_of_counter hty

theorem dealOf_accept (hc : alookup k s.active = some c) (ho : alookup k s.aoffers = some o) (w : Addr) :
    dealOf s (.ownerDecision k w decAccept) = some (c, o) ∧ dealOf s (.bidderDecision k w decAccept) = some (c, o) := by
  simp [dealOf, hc, ho]

theorem transfer_of_deal {op : Op} (h : dealOf s op = some (c, o)) (a : Addr) :
    transfer s op a = ifEq a c.owner o.amount - ifEq a c.bidder o.amount := by
  unfold transfer; rw [h]

theorem handler_sound (hw : WFo s.aoffers) (hv : op.amountOk) (h : handler env s op = .ok s') : Sound s s' op := by
  cases op with
  | create id o as t b am cur dl nid =>
    rcases runCreate_ok h with ⟨he, h⟩ | ⟨he, h⟩
    · have hz := createTail_unlocked h
      have e0 := eff_open hw hz ⟨o, as, t, b, dl⟩
      obtain ⟨_, _, _, _, e, hd⟩ := eff_createTail e0.keeps.wf hv h
      exact (e0.trans e).sound (fun a => by have := hd a; show _ = (0 : Int); omega) (.inr (if_pos he))
    · obtain ⟨c, _, _, hc, e, hd⟩ := eff_createTail hw hv h
      exact e.sound hd (.inl ⟨c, hc⟩)
  | counter id ow am cur =>
    obtain ⟨c, o, s1, hc, ho, _, _, hlt, hd, rfl⟩ := runCounter_ok h
    obtain ⟨_, _, e, hd⟩ := eff_counter hw hc ho hlt hd
    exact e.sound hd (.inl ⟨c, hc⟩)
  | cancel id b =>
    obtain ⟨c, o, s1, hc, ho, _, hd, rfl⟩ := runCancel_ok h
    exact sound_refundClose hw hc ho hd (fun _ => rfl)
  | expire id v => exact sound_runExpire hw h (fun _ => rfl)
  | bidderDecision id b d =>
    obtain ⟨c, o, hc, ho, hty, rfl, ⟨rfl, s1, hd, rfl⟩ | ⟨rfl, b1, s2, hdb, hd, hx⟩⟩ := runBidderDecision_ok h
    · exact sound_refundClose hw hc ho hd (fun _ => rfl)
    · exact (eff_bidderAccept hw hc ho hty hdb hd hx).sound
        (fun a => by rw [transfer_of_deal (dealOf_accept hc ho _).2]; omega) (.inl ⟨c, hc⟩)
  | ownerDecision id ow d =>
    obtain ⟨c, o, hc, ho, hty, rfl, ⟨rfl, s1, hd, rfl⟩ | ⟨rfl, s2, hd, hx⟩⟩ := runOwnerDecision_ok h
    · exact sound_refundClose hw hc ho hd (fun _ => rfl)
    · exact (eff_ownerAccept hw hc ho hty hd hx).sound
        (fun a => by rw [transfer_of_deal (dealOf_accept hc ho _).1]; omega) (.inl ⟨c, hc⟩)
  | hook ids => cases h; exact sound_runHook ids ids hw
  | commit => cases h; exact ⟨⟨rfl, hw, id⟩, fun a => (Int.add_zero _).symm, fun j _ _ => same_refl j s⟩

theorem createTail_doms {isNew : Bool} {id : ConvId} {bidder : Addr} {amount : Int}
    (h : createTail env s isNew id bidder amount = .ok s') : s'.doms = s.doms := by
  obtain ⟨c, s2, b1, _, _, ⟨_, rfl⟩ | ⟨o, _, _, _, hd⟩, _, rfl⟩ := createTail_ok h
  · rfl
  · exact (deactivate_ok hd).doms

theorem runExpire_doms {id : ConvId} (h : runExpire env s id = .ok s') : s'.doms = s.doms := by
  obtain ⟨c, o, s1, _, _, hd, rfl⟩ := runExpire_ok h
  exact (deactivate_ok hd).doms

theorem runHook_doms (ids : List ConvId) (s : St) : (runHook env s ids).doms = s.doms := by
  induction ids generalizing s with
  | nil => rfl
  | cons id t ih =>
    unfold runHook
    split
    next s1 h => rw [ih s1, runExpire_doms h]
    · exact ih s

theorem handler_doms (h : handler env s op = .ok s') (hd : dealOf s op = none) : s'.doms = s.doms := by
  cases op with
  | create i o as t b am cur dl nid =>
    -- the ascription lets `h` fix the state: opening a conversation changes `active`, not `doms`
    rcases runCreate_ok h with ⟨_, h⟩ | ⟨_, h⟩ <;> exact (createTail_doms h : _)
  | counter k o am cur =>
    obtain ⟨c, of, s1, _, _, _, _, _, hdd, rfl⟩ := runCounter_ok h
    exact (deactivate_ok hdd).doms
  | cancel k b =>
    obtain ⟨c, o, s1, _, _, _, hdd, rfl⟩ := runCancel_ok h
    exact (deactivate_ok hdd).doms
  | bidderDecision k b d =>
    obtain ⟨c, o, hc, ho, _, _, ⟨_, s1, hdd, rfl⟩ | ⟨rfl, _⟩⟩ := runBidderDecision_ok h
    · exact (deactivate_ok hdd).doms
    · rw [(dealOf_accept hc ho _).2] at hd; cases hd
  | expire k v => exact runExpire_doms h
  | ownerDecision k ow d =>
    obtain ⟨c, o, hc, ho, _, _, ⟨_, s1, hdd, rfl⟩ | ⟨rfl, _⟩⟩ := runOwnerDecision_ok h
    · exact (deactivate_ok hdd).doms
    · rw [(dealOf_accept hc ho _).1] at hd; cases hd
  | hook ids => cases h; exact runHook_doms ids s
  | commit => cases h; rfl

end handlers

/-! ## the step -/

section step
variable {env : Env} {s s' : St} {op : Op}

theorem validate_signer {a : Addr} (h : validate env op = .ok ()) (hs : op.signer = some a) :
    env.payer = a ∧ env.sigValid = true := by
  unfold validate at h
  rw [hs] at h
  obtain ⟨hp, h⟩ := of_guard h
  obtain ⟨hsv, _⟩ := of_guard h
  exact ⟨Decidable.not_not.mp hp, by simpa using hsv⟩

theorem validate_isTx (h : validate env op = .ok ()) (ht : op.isTx = true) :
    op.signer = some env.payer ∧ env.sigValid = true := by
  obtain ⟨a, ha⟩ : ∃ a, op.signer = some a := by
    cases op with
    | hook _ => cases ht
    | commit => cases ht
    | _ => exact ⟨_, rfl⟩
  obtain ⟨hp, hv⟩ := validate_signer h ha
  exact ⟨hp ▸ ha, hv⟩

theorem validate_amountOk (h : validate env op = .ok ()) : op.amountOk := by
  cases op with
  | create id o a t b am cur dl nid =>
    unfold validate at h
    obtain ⟨_, h⟩ := of_guard h
    obtain ⟨_, h⟩ := of_guard h
    obtain ⟨_, h⟩ := of_guard h
    obtain ⟨_, h⟩ := of_guard h
    exact Int.not_lt.mp (of_guard h).1
  | _ => trivial

theorem step_ok (h : step env s op = (.ok, s')) :
    validate env op = .ok () ∧ ∃ s1, handler env s op = .ok s1 ∧
      ((op.isTx = false ∧ s' = s1) ∨ (op.isTx = true ∧ feeStep env s1 = .ok s')) := by
  unfold step at h
  split at h
  · cases h
  next hv =>
  split at h
  · cases h
  next s1 hh =>
  refine ⟨hv, s1, hh, ?_⟩
  split at h
  next ht => cases h; exact Or.inl ⟨by simpa using ht, rfl⟩
  next ht =>
    split at h
    · cases h
    next hf => cases h; exact Or.inr ⟨by simpa using ht, hf⟩

theorem step_cases (env : Env) (s : St) (op : Op) : (step env s op).2 = s ∨ ∃ s', step env s op = (.ok, s') := by
  unfold step
  split
  · exact Or.inl rfl
  split
  · exact Or.inl rfl
  split
  · exact Or.inr ⟨_, rfl⟩
  split
  · exact Or.inl rfl
  · exact Or.inr ⟨_, rfl⟩

theorem step_fail (h : (step env s op).1 ≠ .ok) : (step env s op).2 = s := by
  rcases step_cases env s op with h2 | ⟨s', h2⟩
  · exact h2
  · rw [h2] at h; exact absurd rfl h

theorem step_sound (hw : WFo s.aoffers) (h : step env s op = (.ok, s')) :
    Keeps s s' ∧
    (∀ a, holdings s' a = holdings s a + transfer s op a - (if op.isTx then ifEq a env.payer (feeOf env) else 0)) ∧
    ∀ j, alookup j s.active = none → op.opensId ≠ some j → Same j s s' := by
  obtain ⟨hv, s1, hh, hfee⟩ := step_ok h
  have S := handler_sound hw (validate_amountOk hv) hh
  rcases hfee with ⟨ht, rfl⟩ | ⟨ht, hf⟩
  · exact ⟨S.keeps, fun a => by rw [S.holdings, ht]; exact (Int.sub_zero _).symm, S.same⟩
  · obtain ⟨b1, hd, rfl⟩ := feeStep_ok hf
    refine ⟨keeps_trans S.keeps ⟨?_, S.keeps.wf, (change_debit hd).nonNeg⟩, fun a => ?_, S.same⟩
    · show sumV b1 + lockedSum s1.aoffers + (s1.pool + feeOf env) = tot3 s1
      rw [(change_debit hd).sumV, tot3]; omega
    · show bal b1 a + lockedOf s1.active a s1.aoffers = _
      rw [bal_debit hd, ← S.holdings, ht, if_pos rfl, holdings]; omega

theorem keeps_step (env : Env) (s : St) (op : Op) (hw : WFo s.aoffers) : Keeps s (step env s op).2 := by
  rcases step_cases env s op with h | ⟨s', h⟩ <;> rw [h]
  · exact keeps_refl s hw
  · exact (step_sound hw h).1

/-- `run` is a `foldl`: facts over histories come by `List.foldlRecOn`.  A motive that uses field notation on its argument
    may need the binder typed (`fun s' : St => … s'.aoffers`): the accumulator type can still be unknown when it is elaborated -/
theorem keeps_run (evs : List (Env × Op)) {s : St} (hw : WFo s.aoffers) : Keeps s (run s evs) :=
  List.foldlRecOn (motive := Keeps s) evs _ (keeps_refl s hw) fun s1 k p _ => keeps_trans k (keeps_step p.1 s1 p.2 k.wf)

theorem step_holdings (hw : WFo s.aoffers) (h : step env s op = (.ok, s')) (a : Addr) :
    holdings s' a = holdings s a + transfer s op a - (if op.isTx then ifEq a env.payer (feeOf env) else 0) :=
  (step_sound hw h).2.1 a

theorem step_same {id : ConvId} (hw : WFo s.aoffers)
    (hid : alookup id s.active = none) (hno : op.opensId ≠ some id) : Same id s (step env s op).2 := by
  rcases step_cases env s op with h | ⟨s', h⟩ <;> rw [h]
  · exact same_refl id s
  · exact (step_sound hw h).2.2 id hid hno

end step

/-! ## exact refunds -/

/-- the operation ends conversation `id` without a deal -/
def Op.refunds (op : Op) (id : ConvId) : Prop :=
  (∃ b, op = .cancel id b) ∨ (∃ v, op = .expire id v) ∨ (∃ o, op = .ownerDecision id o decReject) ∨
  (∃ b, op = .bidderDecision id b decReject)

theorem dec_ne : decReject ≠ decAccept := by decide

theorem refund_handler {env : Env} {s s' : St} {op : Op} {id : ConvId} (hw : WFo s.aoffers) (hr : op.refunds id)
    (h : handler env s op = .ok s') :
    ∃ c o, alookup id s.active = some c ∧ alookup id s.aoffers = some o ∧
      (∀ a, bal s'.bals a = bal s.bals a + ifEq a c.bidder (lockedAmt o)) ∧
      alookup id s'.active = none ∧ alookup id s'.aoffers = none ∧ s'.doms = s.doms ∧ s'.pool = s.pool := by
  -- all four give the offer back and close
  obtain ⟨c, o, s1, st, hc, ho, hd, rfl⟩ : ∃ c o s1 st, alookup id s.active = some c ∧ alookup id s.aoffers = some o ∧
      deactivate env s false c.bidder o = .ok s1 ∧ s' = closeConv s1 id c st := by
    rcases hr with ⟨b, rfl⟩ | ⟨v, rfl⟩ | ⟨ow, rfl⟩ | ⟨b, rfl⟩
    · obtain ⟨c, o, s1, hc, ho, _, hd, hs⟩ := runCancel_ok h; exact ⟨c, o, s1, _, hc, ho, hd, hs⟩
    · obtain ⟨c, o, s1, hc, ho, hd, hs⟩ := runExpire_ok h; exact ⟨c, o, s1, _, hc, ho, hd, hs⟩
    · obtain ⟨c, o, hc, ho, _, _, ⟨_, s1, hd, hs⟩ | ⟨hdd, _⟩⟩ := runOwnerDecision_ok h
      · exact ⟨c, o, s1, _, hc, ho, hd, hs⟩
      · exact absurd hdd dec_ne
    · obtain ⟨c, o, hc, ho, _, _, ⟨_, s1, hd, hs⟩ | ⟨hdd, _⟩⟩ := runBidderDecision_ok h
      · exact ⟨c, o, s1, _, hc, ho, hd, hs⟩
      · exact absurd hdd dec_ne
  obtain ⟨e, hn⟩ := eff_refundClose hw hc ho hd st
  exact ⟨c, o, hc, ho, e.moves.bal, closeConv_gone _ _ _ _, hn, (deactivate_ok hd).doms, e.pool⟩

/-! ## executable forms of the invariants (for the examples) -/

theorem nodupB_iff {K : Type} [DecidableEq K] (l : List K) : nodupB l = true ↔ l.Nodup := by
  induction l with
  | nil => simp [nodupB]
  | cons a t ih => simp [nodupB, ih]

theorem wfB_iff (s : St) : wfB s = true ↔ WF s := by
  unfold wfB WF
  rw [Bool.and_eq_true, nodupB_iff, List.all_eq_true]
  refine and_congr_right fun hn => ⟨fun h k o ho => ?_, fun h p hp => ?_⟩
  · simpa [and_assoc] using h (k, o) (mem_of_alookup ho)
  · simpa [and_assoc] using h p.1 p.2 (alookup_of_mem hn hp)

theorem wf_of_wfB {s : St} (h : wfB s = true) : WF s := (wfB_iff s).mp h

instance (s : St) : Decidable (WF s) := decidable_of_iff _ (wfB_iff s)

theorem nonNeg_of_nonNegB {s : St} (h : nonNegB s = true) : NonNegBals s := by
  unfold nonNegB at h
  simp only [List.all_eq_true, decide_eq_true_eq] at h
  exact h

end OLP.Bid
