/-
  Balances are an association list: `setBal` is `upsert`, `total` is `asum`, and each primitive of
  the ledger writes through `setBal`.
-/
import OLP.Base.Guard
import OLP.Ledger.Model

namespace OLP.Ledger

theorem bal_nil (a : Acc) : bal [] a = 0 := rfl

theorem bal_cons (k : Acc) (v : Int) (t : L) (a : Acc) :
    bal ((k, v) :: t) a = if k = a then v else bal t a := by
  unfold bal
  by_cases h : k = a <;> simp [alookup, h]

theorem bal_setBal (l : L) (a b : Acc) (v : Int) :
    bal (setBal l a v) b = if b = a then v else bal l b :=
  getD_alookup_upsert l a b v 0

theorem bal_setBal_self (l : L) (a : Acc) (v : Int) : bal (setBal l a v) a = v := by
  rw [bal_setBal, if_pos rfl]

theorem bal_setBal_ne (l : L) (a b : Acc) (v : Int) (h : b ≠ a) :
    bal (setBal l a v) b = bal l b := by
  rw [bal_setBal, if_neg h]

theorem total_eq_asum (l : L) : total l = asum (fun _ v => v) l := by
  induction l with
  | nil => rfl
  | cons hd t ih => simp only [total, asum, ih]

theorem total_setBal (l : L) (a : Acc) (v : Int) :
    total (setBal l a v) = total l - bal l a + v := by
  rw [setBal, total_eq_asum, total_eq_asum, asum_upsert, bal]
  cases alookup a l <;> rfl

theorem nonNeg_setBal (l : L) (a : Acc) (v : Int) (hn : NonNeg l) (hv : 0 ≤ v) :
    NonNeg (setBal l a v) :=
  forall_mem_upsert hn hv

theorem bal_nonneg (l : L) (a : Acc) (hn : NonNeg l) : 0 ≤ bal l a :=
  alookup_getD_nonneg hn

theorem minusFrom_ok {l l' : L} {a : Acc} {c : Int} (h : minusFrom l a c = .ok l') :
    0 ≤ bal l a - c ∧ l' = setBal l a (bal l a - c) := by
  obtain ⟨hlt, h⟩ := of_guard h
  exact ⟨Int.not_lt.mp hlt, (Except.ok.inj h).symm⟩

theorem transfer_ok {l l' : L} {s d : Acc} {c : Int} (h : transfer l s d c = .ok l') :
    ∃ l₁, minusFrom l s c = .ok l₁ ∧ l' = addTo l₁ d c := by
  unfold transfer at h
  split at h
  · cases h
  next l₁ hm => exact ⟨l₁, hm, (Except.ok.inj h).symm⟩

theorem send_ok {l l' : L} {s d : Acc} {amt : Int} (h : send l s d amt = .ok l') :
    0 ≤ amt ∧ transfer l s d amt = .ok l' := by
  obtain ⟨ha, h⟩ := of_guard h
  exact ⟨by simpa [isValid] using ha, h⟩

theorem txSend_ok {l l' : L} {s d p : Acc} {amt price used : Int}
    (h : txSend l s d p amt price used = .ok l') :
    ∃ l₁, send l s d amt = .ok l₁ ∧ feeStep l₁ s p price used = .ok l' := by
  unfold txSend at h
  split at h
  · cases h
  next l₁ hm => exact ⟨l₁, hm, h⟩

theorem bal_addTo (l : L) (a x : Acc) (c : Int) : bal (addTo l a c) x = bal l x + if x = a then c else 0 :=
  getD_alookup_credit l a x c

theorem bal_addTo_mono (l : L) (a x : Acc) (c : Int) (hc : 0 ≤ c) : bal l x ≤ bal (addTo l a c) x := by
  rw [bal_addTo]
  split <;> omega

theorem total_addTo (l : L) (a : Acc) (c : Int) : total (addTo l a c) = total l + c := by
  unfold addTo; rw [total_setBal]; omega

theorem total_minusFrom {l l' : L} {a : Acc} {c : Int} (h : minusFrom l a c = .ok l') : total l' = total l - c := by
  obtain ⟨_, rfl⟩ := minusFrom_ok h
  rw [total_setBal]; omega

theorem total_transfer {l l' : L} {a b : Acc} {c : Int} (h : transfer l a b c = .ok l') : total l' = total l := by
  obtain ⟨l1, hm, rfl⟩ := transfer_ok h
  rw [total_addTo, total_minusFrom hm]; omega

/-- `l'` is `l` with `d a` added to the amount of every holder `a`, `t` in all, and no amount has become negative:
    what a debit, a credit of a coin that is not negative, and any sequence of them do -/
structure Change (l l' : L) (d : Acc → Int) (t : Int) : Prop where
  total : total l' = total l + t
  bal : ∀ a, bal l' a = bal l a + d a
  nonNeg : NonNeg l → NonNeg l'

theorem Change.refl (l : L) : Change l l (fun _ => 0) 0 := ⟨(Int.add_zero _).symm, fun _ => (Int.add_zero _).symm, id⟩

theorem Change.trans {l₁ l₂ l₃ : L} {d e : Acc → Int} {t u : Int} (h1 : Change l₁ l₂ d t) (h2 : Change l₂ l₃ e u) :
    Change l₁ l₃ (fun a => d a + e a) (t + u) :=
  ⟨by rw [h2.total, h1.total, Int.add_assoc], fun a => by rw [h2.bal, h1.bal, Int.add_assoc], h2.nonNeg ∘ h1.nonNeg⟩

theorem Change.congr {l l' : L} {d d' : Acc → Int} {t t' : Int} (h : Change l l' d t) (hd : ∀ a, d a = d' a) (ht : t = t') :
    Change l l' d' t' := by
  rw [← funext hd, ← ht]; exact h

theorem Change.addTo (l : L) (a : Acc) {c : Int} (hc : 0 ≤ c) : Change l (addTo l a c) (fun x => if x = a then c else 0) c :=
  ⟨total_addTo l a c, fun x => bal_addTo l a x c, (forall_nonneg_credit · hc)⟩

theorem Change.minusFrom {l l' : L} {a : Acc} {c : Int} (h : minusFrom l a c = .ok l') :
    Change l l' (fun x => - if x = a then c else 0) (-c) := by
  obtain ⟨h0, rfl⟩ := minusFrom_ok h
  exact ⟨by rw [total_setBal]; omega, fun x => getD_alookup_debit l a x c, fun hn => nonNeg_setBal l a _ hn h0⟩

theorem Change.transfer {l l' : L} {s d : Acc} {c : Int} (hc : 0 ≤ c) (h : transfer l s d c = .ok l') :
    Change l l' (fun x => (if x = d then c else 0) - if x = s then c else 0) 0 := by
  obtain ⟨l1, hm, rfl⟩ := transfer_ok h
  exact ((Change.minusFrom hm).trans (.addTo l1 d hc)).congr (fun _ => by omega) (by omega)

end OLP.Ledger
