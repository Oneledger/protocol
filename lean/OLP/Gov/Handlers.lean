/-
  Governance (C14): the handlers inverted.  One statement per handler says what a successful run
  read and wrote (`run*_ok`); `runTx_cases` puts them together: a transaction transforms the
  records of one proposal (`Trans`), moves between the balances and its escrow what the
  transformation adds to or takes from the total, and, finalisation apart, touches nothing else.
-/
import OLP.Gov.Trans
import OLP.Ledger.Lemmas

namespace OLP.Gov
open OLP OLP.Ledger

/-- with `(s := s) rfl`: the items of a state written as `{ s.setItem pid it with … }` -/
theorem item_of_upsert {s s' : St} {pid : PID} {it : Item} (h : s'.items = upsert s.items pid it) (pid' : PID) :
    s'.item pid' = if pid' = pid then it else s.item pid' := by
  unfold St.item
  rw [h, alookup_upsert]
  by_cases hp : pid' = pid <;> simp [hp]

theorem St.item_setItem (s : St) (pid pid' : PID) (it : Item) :
    (s.setItem pid it).item pid' = if pid' = pid then it else s.item pid' :=
  item_of_upsert (s := s) rfl pid'

@[simp] theorem St.setItem_bal (s : St) (pid : PID) (it : Item) : (s.setItem pid it).bal = s.bal := rfl
@[simp] theorem St.setItem_burned (s : St) (pid : PID) (it : Item) : (s.setItem pid it).burned = s.burned := rfl

/-- the fields no transaction writes -/
structure Frame (s s' : St) : Prop where
  height : s'.height = s.height
  vals : s'.vals = s.vals
  qExpire : s'.qExpire = s.qExpire
  qFinalize : s'.qFinalize = s.qFinalize

theorem Frame.refl (s : St) : Frame s s := ⟨rfl, rfl, rfl, rfl⟩

/-! ## the handlers -/

variable {E : Env} {s s' : St} {pid : PID} {op : Op}

theorem runCreate_ok {pt : PType} {pr : Addr} {ini fd g vd pp : Int} {cfg : String}
    (h : runCreate E s pid pt pr ini fd g vd pp cfg = .ok s') :
    ∃ b, (s.opts.byType pt).initialFunding ≤ ini ∧ s.height < fd ∧ (s.item pid).exists = false ∧
      minusFrom s.bal pr ini = .ok b ∧
      s' = { (s.setItem pid (((s.item pid).set .active
              { ptype := pt, status := .funding, outcome := .inProgress, proposer := pr, fundingDeadline := fd,
                fundingGoal := g, votingDeadline := vd, passPercent := pp, cfg := cfg }).addFunds pr ini)) with bal := b } := by
  unfold runCreate at h
  dsimp only at h
  obtain ⟨h1, h⟩ := of_guard h
  obtain ⟨_, h⟩ := of_guard h
  obtain ⟨_, h⟩ := of_guard h
  obtain ⟨_, h⟩ := of_guard h
  obtain ⟨_, h⟩ := of_guard h
  obtain ⟨h6, h⟩ := of_guard h
  split at h; · cases h
  obtain ⟨hex, h⟩ := of_guard h
  split at h; · cases h
  exact ⟨_, by omega, by omega, by simpa using hex, ‹_›, (Except.ok.inj h).symm⟩

theorem runFund_ok {f : Addr} {v : Int} (h : runFund s pid f v = .ok s') :
    ∃ p b, (s.item pid).active = some p ∧ p.status = .funding ∧ s.height ≤ p.fundingDeadline ∧
      minusFrom s.bal f v = .ok b ∧
      ((¬ (v + (s.item pid).total ≥ p.fundingGoal) ∧
          s' = { (s.setItem pid ((s.item pid).addFunds f v)) with bal := b }) ∨
       (v + (s.item pid).total ≥ p.fundingGoal ∧
          s' = { (s.setItem pid ((((s.item pid).set .active { p with status := .voting, votingDeadline := s.height + (s.opts.byType p.ptype).votingDeadline }).withVotes
                    (snapshot (s.item pid).votes s.vals)).addFunds f v)) with bal := b })) := by
  unfold runFund at h
  simp only at h
  split at h; · cases h
  rename_i p hp
  obtain ⟨h1, h⟩ := of_guard h
  obtain ⟨h2, h⟩ := of_guard h
  split at h; · cases h
  refine ⟨p, _, hp, by simpa using h2, by omega, ‹_›, ?_⟩
  rw [← Except.ok.inj h]
  by_cases hg : v + (s.item pid).total ≥ p.fundingGoal
  · exact Or.inr ⟨hg, by rw [if_pos hg]⟩
  · exact Or.inl ⟨hg, by rw [if_neg hg]⟩

theorem runVote_ok {a : Addr} {o : Opinion} (h : runVote s pid a o = .ok s') :
    ∃ p votes' r, (s.item pid).active = some p ∧ p.status = .voting ∧ s.height ≤ p.votingDeadline ∧
      updateVote (s.item pid).votes a o = some votes' ∧
      resultSoFar votes' (s.opts.byType p.ptype).passPercent = some r ∧
      s' = s.setItem pid (match r with
        | .passed => ((((s.item pid).withVotes votes').set .passed { p with status := .completed, outcome := .completedYes }).del .active)
        | .failed => ((((s.item pid).withVotes votes').set .failed { p with status := .completed, outcome := .completedNo }).del .active)
        | .tbd => (s.item pid).withVotes votes') := by
  unfold runVote at h
  simp only at h
  split at h; · cases h
  rename_i p hp
  obtain ⟨h1, h⟩ := of_guard h
  obtain ⟨h2, h⟩ := of_guard h
  obtain ⟨_, h⟩ := of_guard h
  split at h; · cases h
  rename_i votes' hv
  split at h
  · cases h
  · exact ⟨p, votes', .passed, hp, by simpa using h1, by omega, hv, ‹_›, (Except.ok.inj h).symm⟩
  · exact ⟨p, votes', .failed, hp, by simpa using h1, by omega, hv, ‹_›, (Except.ok.inj h).symm⟩
  · exact ⟨p, votes', .tbd, hp, by simpa using h1, by omega, hv, ‹_›, (Except.ok.inj h).symm⟩

theorem runCancel_ok {pr : Addr} (h : runCancel s pid pr = .ok s') :
    ∃ p, (s.item pid).active = some p ∧ p.status = .funding ∧ s.height ≤ p.fundingDeadline ∧ p.proposer = pr ∧
      s' = s.setItem pid (((s.item pid).set .failed { p with status := .completed, outcome := .cancelled }).del .active) := by
  unfold runCancel at h
  simp only at h
  split at h; · cases h
  rename_i p hp
  obtain ⟨h1, h⟩ := of_guard h
  obtain ⟨h2, h⟩ := of_guard h
  obtain ⟨h3, h⟩ := of_guard h
  exact ⟨p, hp, by simpa using h1, by omega, by simpa using h3, (Except.ok.inj h).symm⟩

theorem runExpire_ok (h : runExpire s pid = .ok s') :
    ∃ p, (s.item pid).active = some p ∧ p.status = .voting ∧ s.height > p.votingDeadline ∧
      s' = s.setItem pid (((s.item pid).set .failed { p with status := .completed, outcome := .insufficientVotes }).del .active) := by
  unfold runExpire at h
  simp only at h
  split at h; · cases h
  rename_i p hp
  obtain ⟨hg, h⟩ := of_guard h
  rw [not_or, Decidable.not_not] at hg
  exact ⟨p, hp, hg.1, by omega, (Except.ok.inj h).symm⟩

theorem runWithdraw_ok {f : Addr} {v : Int} {b : Addr} (h : runWithdraw s pid f v b = .ok s') :
    ∃ p it1 it2, (s.item pid).queryAll = some p ∧
      (((p.outcome = .cancelled ∨ p.outcome = .insufficientFunds) ∧ it1 = s.item pid) ∨
       (p.outcome ≠ .cancelled ∧ p.outcome ≠ .insufficientFunds ∧ (s.item pid).total < p.fundingGoal ∧
          s.height > p.fundingDeadline ∧
          it1 = (((s.item pid).set .failed { p with outcome := .insufficientFunds, status := .completed }).del .active))) ∧
      isFundedBy it1.funds f = true ∧ it1.deductFunds f v = some it2 ∧
      s' = { (s.setItem pid it2) with bal := addTo s.bal b v } := by
  unfold runWithdraw at h
  simp only at h
  split at h; · cases h
  rename_i p hp
  split at h; · cases h
  rename_i it1 hconv
  obtain ⟨hf, h⟩ := of_guard h
  split at h; · cases h
  rename_i it2 hd
  refine ⟨p, it1, it2, hp, ?_, by simpa using hf, hd, (Except.ok.inj h).symm⟩
  by_cases hc : p.outcome ≠ .cancelled ∧ p.outcome ≠ .insufficientFunds
  · rw [if_pos hc] at hconv
    obtain ⟨hg, hconv⟩ := of_guard hconv
    exact Or.inr ⟨hc.1, hc.2, by omega, by omega, (Except.ok.inj hconv).symm⟩
  · rw [if_neg hc] at hconv
    exact Or.inl ⟨Decidable.or_iff_not_imp_left.mpr (by simpa using hc), (Except.ok.inj hconv).symm⟩

theorem withFee_ok {r : Except Err St} {payer : Addr} {fee : Int} (h : withFee r payer fee = .ok s') :
    ∃ s1 b, r = .ok s1 ∧ transfer s1.bal payer poolAcc fee = .ok b ∧ s' = { s1 with bal := b } := by
  unfold withFee at h
  split at h; · cases h
  split at h; · cases h
  exact ⟨_, _, rfl, ‹_›, (Except.ok.inj h).symm⟩

/-! ## finalisation -/

theorem finalResult_passed {r : Option VoteResult} {p : Proposal} (h : finalResult r p = .ok .passed) :
    r = some .passed := by
  unfold finalResult at h
  split at h
  · split at h <;> cases h
  · split at h <;> cases h
  · rfl
  · cases h

theorem distribute_some {s1 : St} {p : Proposal} {d : Dist} {bad : Bool}
    (h : distribute s pid p d = some (s1, bad)) :
    (cvals s.vals) ≠ [] ∧ bad = (s.item pid).deleteAllFunds.2 ∧
    s1 = { (s.setItem pid (s.item pid).deleteAllFunds.1) with
           bal := (payouts s.bal (cvals s.vals) p.proposer s.opts.bountyAddr (s.opts.byType p.ptype).execAddr (s.item pid).total d).1,
           burned := s.burned + (payouts s.bal (cvals s.vals) p.proposer s.opts.bountyAddr (s.opts.byType p.ptype).execAddr (s.item pid).total d).2 } := by
  unfold distribute at h
  simp only at h
  split at h; · cases h
  rename_i hne
  simp only [Option.some.injEq, Prod.mk.injEq] at h
  exact ⟨fun e => by simp [e] at hne, h.2.symm, h.1.symm⟩

theorem distribute_none {p : Proposal} {d : Dist} (h : distribute s pid p d = none) :
    cvals s.vals = [] := by
  unfold distribute at h
  simp only at h
  split at h
  · simpa using ‹(cvals s.vals).isEmpty = true›
  · cases h

/-- a finalisation of `p` that pays nothing: the proposal is marked finalise-failed, balances
    and escrow stay -/
structure Unpaid (s s' : St) (pid : PID) (p : Proposal) : Prop where
  bal : s'.bal = s.bal
  burned : s'.burned = s.burned
  items : s'.items = upsert s.items pid (((s.item pid).set .finFailed p).del .passed)

/-- a finalisation of `p` that distributes the escrow by `d`: the payouts are made, the escrow is
    deleted, and the copy moves from `src` to FINALIZED (to FINALIZEFAILED should
    `DeleteAllFunds` return an error) -/
structure Paid (s s' : St) (pid : PID) (p : Proposal) (d : Dist) (src : Store) : Prop where
  bal : s'.bal = (payouts s.bal (cvals s.vals) p.proposer s.opts.bountyAddr (s.opts.byType p.ptype).execAddr (s.item pid).total d).1
  burned : s'.burned = s.burned + (payouts s.bal (cvals s.vals) p.proposer s.opts.bountyAddr (s.opts.byType p.ptype).execAddr (s.item pid).total d).2
  items : s'.items = upsert s.items pid
    (if (s.item pid).deleteAllFunds.2 then (((s.item pid).deleteAllFunds.1.set .finFailed p).del .passed)
     else (((s.item pid).deleteAllFunds.1.set .finalized p).del src))

theorem distributeAndMove_cases (s s' : St) (pid : PID) (p : Proposal) (d : Dist) (src : Store)
    (h : distributeAndMove s pid p d src = s') :
    Frame s s' ∧ s'.opts = s.opts ∧ s'.applied = s.applied ∧
    ((cvals s.vals = [] ∧ Unpaid s s' pid p) ∨ (cvals s.vals ≠ [] ∧ Paid s s' pid p d src)) := by
  subst h
  unfold distributeAndMove
  cases hd : distribute s pid p d with
  | none => exact ⟨⟨rfl, rfl, rfl, rfl⟩, rfl, rfl, Or.inl ⟨distribute_none hd, rfl, rfl, rfl⟩⟩
  | some x =>
    obtain ⟨s1, bad⟩ := x
    obtain ⟨hne, rfl, rfl⟩ := distribute_some hd
    refine ⟨⟨?_, ?_, ?_, ?_⟩, ?_, ?_, Or.inr ⟨hne, ?_, ?_, ?_⟩⟩ <;> dsimp only <;> split <;> try rfl
    -- left: `Paid.items`, twice; the records were written twice (escrow deleted, copy moved)
    all_goals simp [toFinFailed, toFinalized, St.setItem, St.item, upsert_upsert]

/-- the successful outcomes of `runFinalizeProposal`: nothing happens to a proposal finalised
    before; otherwise the decided copy `p`, with the final result `r`, is moved — marked
    finalise-failed with nothing paid, or after the distribution `d` — and for a passed
    configuration proposal whose update applies the options are rewritten, paid or not -/
theorem runFinalize_ok (h : runFinalize E s pid = .ok s') :
    (s' = s ∧ ((s.item pid).finalized.isSome ∨ (s.item pid).finFailed.isSome)) ∨
    ∃ p r d src, (s.item pid).finalized = none ∧ (s.item pid).finFailed = none ∧ (s.item pid).decided = some p ∧
      p.status = .completed ∧ finalResult (resultSoFar (s.item pid).votes p.passPercent) p = .ok r ∧
      ((r = .passed ∧ src = .passed ∧ d = (s.opts.byType p.ptype).passedDist) ∨
       (r = .failed ∧ src = .failed ∧ d = (s.opts.byType p.ptype).failedDist)) ∧
      Frame s s' ∧
      ((s'.opts = s.opts ∧ s'.applied = s.applied) ∨
       (r = .passed ∧ p.ptype = .config ∧ ∃ k v, parseCfg p.cfg = .upd k v ∧
          applyUpd E s.opts k v s.height = some s'.opts ∧ s'.applied = s.applied ++ [pid])) ∧
      (((cvals s.vals = [] ∨ (r = .passed ∧ p.ptype = .config ∧ ∃ k v, parseCfg p.cfg = .upd k v ∧
            applyUpd E s.opts k v s.height = none)) ∧ Unpaid s s' pid p) ∨
       (cvals s.vals ≠ [] ∧ Paid s s' pid p d src)) := by
  have moved := fun (p : Proposal) (d : Dist) (src : Store) => distributeAndMove_cases s _ pid p d src rfl
  unfold runFinalize at h
  dsimp only at h
  by_cases h1 : (s.item pid).finalized.isSome
  · rw [if_pos h1] at h; exact Or.inl ⟨(Except.ok.inj h).symm, Or.inl h1⟩
  by_cases h2 : (s.item pid).finFailed.isSome
  · rw [if_neg h1, if_pos h2] at h; exact Or.inl ⟨(Except.ok.inj h).symm, Or.inr h2⟩
  rw [if_neg h1, if_neg h2] at h
  right
  split at h; · cases h
  rename_i p hp
  obtain ⟨hst, h⟩ := of_guard h
  split at h
  · cases h
  · cases h
  · -- passed
    obtain ⟨fr, ho, ha, hi⟩ := moved p (s.opts.byType p.ptype).passedDist .passed
    refine ⟨p, .passed, _, .passed, by simpa using h1, by simpa using h2, hp, by simpa using hst, ‹_›,
      Or.inl ⟨rfl, rfl, rfl⟩, ?_⟩
    by_cases hcfg : p.ptype = .config
    · rw [if_pos hcfg] at h
      split at h
      · cases h
      · cases h
      · rename_i k v hparse
        split at h <;> rw [← Except.ok.inj h]
        · exact ⟨⟨rfl, rfl, rfl, rfl⟩, Or.inl ⟨rfl, rfl⟩, Or.inl ⟨Or.inr ⟨rfl, hcfg, k, v, hparse, ‹_›⟩, rfl, rfl, rfl⟩⟩
        · refine ⟨{ fr with }, Or.inr ⟨rfl, hcfg, k, v, hparse, ‹_›, rfl⟩, ?_⟩
          -- the options are rewritten in the state the distribution left
          rcases hi with ⟨hv, u⟩ | ⟨hv, u⟩
          · exact Or.inl ⟨Or.inl hv, u.bal, u.burned, u.items⟩
          · exact Or.inr ⟨hv, u.bal, u.burned, u.items⟩
    · rw [if_neg hcfg] at h
      rw [← Except.ok.inj h]
      exact ⟨fr, Or.inl ⟨ho, ha⟩, hi.imp (fun h => ⟨Or.inl h.1, h.2⟩) id⟩
  · -- failed
    obtain ⟨fr, ho, ha, hi⟩ := moved p (s.opts.byType p.ptype).failedDist .failed
    rw [← Except.ok.inj h]
    exact ⟨p, .failed, _, .failed, by simpa using h1, by simpa using h2, hp, by simpa using hst, ‹_›,
      Or.inr ⟨rfl, rfl, rfl⟩, fr, Or.inl ⟨ho, ha⟩, hi.imp (fun h => ⟨Or.inl h.1, h.2⟩) id⟩

/-! ## transactions -/

/-- what a transaction does, finalisation apart: it transforms the records of one proposal and
    rewrites the balances, moving between the two what it adds to or takes from the escrow (the
    fee goes from the payer to the pool) -/
theorem runTx_cases (h : runTx E s op = .ok s') :
    (∃ pid, op = .finalize pid ∧ runFinalize E s pid = .ok s') ∨ s' = s ∨
    ∃ pid it' b, Trans s.height s.opts s.vals (s.item pid) it' ∧ s' = { s.setItem pid it' with bal := b } ∧
      total b + it'.total = total s.bal + (s.item pid).total := by
  -- in each case `rfl` for the state fixes the new item before the transformation is named: the
  -- other order leaves the unifier to find the proposal inside `Trans`
  cases op with
  | create pid pt pr ini fd g vd pp cfg fee =>
    obtain ⟨s1, b, h1, hfee, rfl⟩ := withFee_ok h
    obtain ⟨b1, hi, hfd, hex, hb1, rfl⟩ := runCreate_ok h1
    refine Or.inr (Or.inr ⟨pid, _, b, ?_, rfl, ?_⟩)
    · exact Trans.create (s.item pid) _ ini hex rfl rfl hi hfd
    have e1 : total b = total b1 := total_transfer hfee
    have e2 := total_minusFrom hb1
    show total b + ((s.item pid).total + ini) = _
    omega
  | fund pid f v fee =>
    obtain ⟨hv, h⟩ := of_guard h
    obtain ⟨s1, b, h1, hfee, rfl⟩ := withFee_ok h
    obtain ⟨p, b1, ha, hs, hd, hb1, hcase⟩ := runFund_ok h1
    have e2 := total_minusFrom hb1
    rcases hcase with ⟨hg, rfl⟩ | ⟨hg, rfl⟩ <;> have e1 : total b = total b1 := total_transfer hfee
    · refine Or.inr (Or.inr ⟨pid, _, b, ?_, rfl, ?_⟩)
      · exact Trans.fundMore (s.item pid) p f v ha hs hd (by omega) hg
      show total b + ((s.item pid).total + v) = _
      omega
    · refine Or.inr (Or.inr ⟨pid, _, b, ?_, rfl, ?_⟩)
      · exact Trans.fundStart (s.item pid) p f v ha hs hd (by omega) hg
      show total b + ((s.item pid).total + v) = _
      omega
  | vote pid payer val o fee =>
    simp only [runTx] at h
    split at h
    · split at h
      · obtain ⟨s1, b, h1, hfee, rfl⟩ := withFee_ok h
        obtain ⟨p, votes', r, ha, hs, hd, hu, hr, rfl⟩ := runVote_ok h1
        have e1 : total b = total s.bal := total_transfer hfee
        refine Or.inr (Or.inr ⟨pid, _, b, ?_, rfl, ?_⟩)
        · cases r with
          | passed => exact Trans.votePass (s.item pid) p val o votes' ha hs hd hu hr
          | failed => exact Trans.voteFail (s.item pid) p val o votes' ha hs hd hu hr
          | tbd => exact Trans.voteTbd (s.item pid) p val o votes' ha hs hd hu hr
        · cases r <;> exact congrArg (· + (s.item pid).total) e1
      · cases h
    · cases h
  | cancel pid pr fee =>
    obtain ⟨s1, b, h1, hfee, rfl⟩ := withFee_ok h
    obtain ⟨p, ha, hs, hd, _, rfl⟩ := runCancel_ok h1
    have e1 : total b = total s.bal := total_transfer hfee
    refine Or.inr (Or.inr ⟨pid, _, b, ?_, rfl, congrArg (· + (s.item pid).total) e1⟩)
    exact Trans.cancel (s.item pid) p ha hs hd
  | withdraw pid f v b fee =>
    obtain ⟨hv, h⟩ := of_guard h
    obtain ⟨s1, b', h1, hfee, rfl⟩ := withFee_ok h
    obtain ⟨p, it1, it2, hq, hcase, hf, hd, rfl⟩ := runWithdraw_ok h1
    have e1 : total b' = total (addTo s.bal b v) := total_transfer hfee
    have e2 := deductFunds_total hd
    refine Or.inr (Or.inr ⟨pid, it2, b', ?_, rfl, ?_⟩)
    · rcases hcase with ⟨hr, rfl⟩ | ⟨hn1, hn2, hlt, hh, rfl⟩
      · exact Trans.withdraw (s.item pid) p f v it2 hd hq hr hf (by omega)
      · exact Trans.withdrawConv (s.item pid) p f v it2 hd hq hn1 hn2 hlt hh (by simpa using hf) (by omega)
    · have : it1.total = (s.item pid).total := by
        rcases hcase with ⟨_, rfl⟩ | ⟨_, _, _, _, rfl⟩ <;> simp
      rw [total_addTo] at e1; omega
  | expire pid =>
    obtain ⟨p, ha, hs, hd, rfl⟩ := runExpire_ok h
    refine Or.inr (Or.inr ⟨pid, _, s.bal, ?_, rfl, rfl⟩)
    exact Trans.expire (s.item pid) p ha hs hd
  | finalize pid => exact Or.inl ⟨pid, rfl, h⟩
  | beginBlock | endBlock | setVals | setBal => exact Or.inr (Or.inl (Except.ok.inj h).symm)

/-- the items stay, or the records of one proposal are rewritten by a `Trans` -/
def ItemStep (s s' : St) : Prop :=
  s'.items = s.items ∨ ∃ pid it', Trans s.height s.opts s.vals (s.item pid) it' ∧ s'.items = upsert s.items pid it'

theorem runFinalize_step (h : runFinalize E s pid = .ok s') :
    Frame s s' ∧ ItemStep s s' := by
  rcases runFinalize_ok h with ⟨rfl, _⟩ | ⟨p, r, d, src, hf1, hf2, hd, hst, hr, hsrc, fr, _, hpay⟩
  · exact ⟨Frame.refl _, Or.inl rfl⟩
  · refine ⟨fr, Or.inr ⟨pid, ?_⟩⟩
    have fin : Finalisable (s.item pid) p r := ⟨hf1, hf2, hd, hst, hr⟩
    rcases hpay with ⟨_, _, _, hitems⟩ | ⟨_, _, _, hitems⟩
    · exact ⟨_, Trans.finCfgFailed (s.item pid) p fin, hitems⟩
    · split at hitems
      · exact ⟨_, Trans.finBad (s.item pid) p r fin (hsrc.imp (·.1) (·.1)) ‹_›, hitems⟩
      · exact ⟨_, Trans.finalize (s.item pid) p r src fin
          (hsrc.imp (fun h => ⟨h.1, h.2.1⟩) fun h => ⟨h.1, h.2.1⟩) (Bool.eq_false_iff.mpr ‹_›), hitems⟩

theorem runTx_step (h : runTx E s op = .ok s') : Frame s s' ∧ ItemStep s s' := by
  rcases runTx_cases h with ⟨pid, rfl, hf⟩ | rfl | ⟨pid, it', b, t, rfl, _⟩
  · exact runFinalize_step hf
  · exact ⟨Frame.refl _, Or.inl rfl⟩
  · exact ⟨⟨rfl, rfl, rfl, rfl⟩, Or.inr ⟨pid, it', t, rfl⟩⟩

theorem runTx_item (h : runTx E s op = .ok s') (pid : PID) :
    Trans s.height s.opts s.vals (s.item pid) (s'.item pid) := by
  rcases (runTx_step h).2 with he | ⟨pid0, it', ht, he⟩
  · unfold St.item; rw [he]; exact .same _
  · rw [item_of_upsert he]
    by_cases hp : pid = pid0
    · subst hp; rw [if_pos rfl]; exact ht
    · rw [if_neg hp]; exact .same _

/-! ## options and the application log -/

theorem applyUpd_byType {o o' : Opts} {k : CfgKey} {v : String} {h : Int}
    (hu : applyUpd E o k v h = some o') : o'.byType = o.byType := by
  unfold applyUpd at hu
  split at hu; · cases hu
  rename_i o1 hv
  -- an accepted update rewrites fields that `byType` does not read
  have h1 : o1.byType = o.byType := by
    unfold validateUpd at hv
    cases k <;> simp only at hv <;> repeat' split at hv
    all_goals cases hv <;> (funext t; cases t <;> rfl)
  cases k <;> simp only at hu <;> cases Option.some.inj hu <;> rw [← h1] <;> funext t <;> cases t <;> rfl

theorem runTx_opts (h : runTx E s op = .ok s') :
    (s'.opts = s.opts ∧ s'.applied = s.applied) ∨
    ∃ pid p k v, op = .finalize pid ∧ (s.item pid).finalized = none ∧ (s.item pid).finFailed = none ∧
      (s.item pid).decided = some p ∧ p.status = .completed ∧ p.ptype = .config ∧
      resultSoFar (s.item pid).votes p.passPercent = some .passed ∧
      parseCfg p.cfg = .upd k v ∧ applyUpd E s.opts k v s.height = some s'.opts ∧
      s'.applied = s.applied ++ [pid] ∧
      ((s'.item pid).finalized.isSome ∨ (s'.item pid).finFailed.isSome) := by
  rcases runTx_cases h with ⟨pid, rfl, hf⟩ | rfl | ⟨pid, it', b, _, rfl, _⟩
  · rcases runFinalize_ok hf with ⟨rfl, _⟩ | ⟨p, r, d, src, hf1, hf2, hd, hst, hr, hsrc, _, hopts, hpay⟩
    · exact Or.inl ⟨rfl, rfl⟩
    · rcases hopts with ho | ⟨rfl, hcfg, k, v, hparse, hupd, ha⟩
      · exact Or.inl ho
      · refine Or.inr ⟨pid, p, k, v, rfl, hf1, hf2, hd, hst, hcfg, finalResult_passed hr, hparse, hupd, ha, ?_⟩
        have hsrc' : src = .passed := hsrc.elim (·.2.1) (nomatch ·.1)
        rcases hpay with ⟨_, _, _, hitems⟩ | ⟨_, _, _, hitems⟩ <;> rw [item_of_upsert hitems, if_pos rfl]
        · exact Or.inr (by simp)
        · split
          · exact Or.inr (by simp)
          · exact Or.inl (by simp [hsrc'])
  · exact Or.inl ⟨rfl, rfl⟩
  · exact Or.inl ⟨rfl, rfl⟩

end OLP.Gov
