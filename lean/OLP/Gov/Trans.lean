/-
  Governance (C14): every handler reads and writes the records of ONE proposal id, so its effect
  on the governance state is a transformation of one `Item`.  `Trans` lists the transformations the
  seven handlers can perform, with the guards under which they do (`same`: the transaction concerns
  another proposal); the per-item invariant, `WFI` with `FreshOK`, is preserved by every `Trans`
  (`wfi_trans`), and the lifecycle facts are read off `Trans` once.
-/
import OLP.Gov.Item

namespace OLP.Gov
open OLP

/-- what `runFinalizeProposal` checks before it moves the decided copy `p`; `r` is the final result -/
structure Finalisable (it : Item) (p : Proposal) (r : VoteResult) : Prop where
  notFinalized : it.finalized = none
  notFinFailed : it.finFailed = none
  decided : it.decided = some p
  completed : p.status = .completed
  result : finalResult (resultSoFar it.votes p.passPercent) p = .ok r

/-- what a transaction does to the records of one proposal, with the guards of the code path
    (h: block height; opts, vals: what is read) -/
inductive Trans (h : Int) (opts : Opts) (vals : List (Addr × ValRec)) : Item → Item → Prop
  /-- a transaction that concerns another proposal, or none -/
  | same (it : Item) : Trans h opts vals it it
  | create (it : Item) (p : Proposal) (v : Int) :
      it.exists = false → p.status = .funding → p.outcome = .inProgress →
      (opts.byType p.ptype).initialFunding ≤ v → h < p.fundingDeadline →
      Trans h opts vals it ((it.set .active p).addFunds p.proposer v)
  | fundMore (it : Item) (p : Proposal) (f : Addr) (v : Int) :
      it.active = some p → p.status = .funding → h ≤ p.fundingDeadline → 0 ≤ v →
      ¬ (v + it.total ≥ p.fundingGoal) →
      Trans h opts vals it (it.addFunds f v)
  | fundStart (it : Item) (p : Proposal) (f : Addr) (v : Int) :
      it.active = some p → p.status = .funding → h ≤ p.fundingDeadline → 0 ≤ v →
      v + it.total ≥ p.fundingGoal →
      Trans h opts vals it
        (((it.set .active { p with status := .voting, votingDeadline := h + (opts.byType p.ptype).votingDeadline }).withVotes
              (snapshot it.votes vals)).addFunds f v)
  | voteTbd (it : Item) (p : Proposal) (a : Addr) (o : Opinion) (votes' : List (Addr × VoteRec)) :
      it.active = some p → p.status = .voting → h ≤ p.votingDeadline →
      updateVote it.votes a o = some votes' →
      resultSoFar votes' (opts.byType p.ptype).passPercent = some .tbd →
      Trans h opts vals it (it.withVotes votes')
  | votePass (it : Item) (p : Proposal) (a : Addr) (o : Opinion) (votes' : List (Addr × VoteRec)) :
      it.active = some p → p.status = .voting → h ≤ p.votingDeadline →
      updateVote it.votes a o = some votes' →
      resultSoFar votes' (opts.byType p.ptype).passPercent = some .passed →
      Trans h opts vals it
        (((it.withVotes votes').set .passed { p with status := .completed, outcome := .completedYes }).del .active)
  | voteFail (it : Item) (p : Proposal) (a : Addr) (o : Opinion) (votes' : List (Addr × VoteRec)) :
      it.active = some p → p.status = .voting → h ≤ p.votingDeadline →
      updateVote it.votes a o = some votes' →
      resultSoFar votes' (opts.byType p.ptype).passPercent = some .failed →
      Trans h opts vals it
        (((it.withVotes votes').set .failed { p with status := .completed, outcome := .completedNo }).del .active)
  | cancel (it : Item) (p : Proposal) :
      it.active = some p → p.status = .funding → h ≤ p.fundingDeadline →
      Trans h opts vals it ((it.set .failed { p with status := .completed, outcome := .cancelled }).del .active)
  | expire (it : Item) (p : Proposal) :
      it.active = some p → p.status = .voting → h > p.votingDeadline →
      Trans h opts vals it ((it.set .failed { p with status := .completed, outcome := .insufficientVotes }).del .active)
  -- the withdrawals: first what `it2` is, then the guards
  | withdraw (it : Item) (p : Proposal) (f : Addr) (v : Int) (it2 : Item) :
      it.deductFunds f v = some it2 →
      it.queryAll = some p → (p.outcome = .cancelled ∨ p.outcome = .insufficientFunds) →
      isFundedBy it.funds f = true → 0 ≤ v →
      Trans h opts vals it it2
  | withdrawConv (it : Item) (p : Proposal) (f : Addr) (v : Int) (it2 : Item) :
      ((it.set .failed { p with outcome := .insufficientFunds, status := .completed }).del .active).deductFunds f v = some it2 →
      it.queryAll = some p → p.outcome ≠ .cancelled → p.outcome ≠ .insufficientFunds →
      it.total < p.fundingGoal → h > p.fundingDeadline →
      isFundedBy it.funds f = true → 0 ≤ v →
      Trans h opts vals it it2
  /-- nothing paid: update refused, or no validator record -/
  | finCfgFailed (it : Item) {r0 : VoteResult} (p : Proposal) :
      Finalisable it p r0 → Trans h opts vals it ((it.set .finFailed p).del .passed)
  | finalize (it : Item) (p : Proposal) (r : VoteResult) (src : Store) :
      Finalisable it p r → ((r = .passed ∧ src = .passed) ∨ (r = .failed ∧ src = .failed)) →
      it.deleteAllFunds.2 = false →
      Trans h opts vals it ((it.deleteAllFunds.1.set .finalized p).del src)
  /-- unreachable from a `WFI` item (`final_clears`) -/
  | finBad (it : Item) (p : Proposal) (r : VoteResult) :
      Finalisable it p r → (r = .passed ∨ r = .failed) → it.deleteAllFunds.2 = true →
      Trans h opts vals it ((it.deleteAllFunds.1.set .finFailed p).del .passed)

/-! ## the per-item invariant -/

def OptsOK (o : Opts) : Prop := ∀ t, 0 ≤ (o.byType t).initialFunding

def VotingOK (o : Opts) : Prop := ∀ t, 0 ≤ (o.byType t).votingDeadline

def refundable (p : Proposal) : Prop := p.outcome = .cancelled ∨ p.outcome = .insufficientFunds

structure WFI (it : Item) : Prop where
  activeExcl : it.active.isSome → it.passed = none ∧ it.failed = none ∧ it.finalized = none ∧ it.finFailed = none
  activeOpen : ∀ p, it.active = some p → p.outcome = .inProgress ∧ p.status ≠ .completed
  noOrphans : it.exists = false → it.votes = [] ∧ it.funds = [] ∧ it.total = 0
  fundingNoVotes : ∀ p, it.active = some p → p.status = .funding → it.votes = []
  /-- a fund record written in this block excludes a committed vote record -/
  freshFunds : (∃ kv ∈ it.funds, kv.2.committed = false) → ∀ kv ∈ it.votes, kv.2.committed = false
  /-- votes exist: the goal was met (or the escrow is paid out) -/
  votedFunded : it.votes ≠ [] → ∀ st p, it.get st = some p → it.total ≥ p.fundingGoal ∨ it.funds = []
  refundNoVotes : ∀ st p, it.get st = some p → refundable p → it.votes = []
  totalIsSum : it.total = sumFunds it.funds
  fundsNonneg : ∀ kv ∈ it.funds, 0 ≤ kv.2.amount
  /-- an expired proposal has no fund record written in the current block -/
  expiredCommitted : ∀ st p, it.get st = some p → p.outcome = .insufficientVotes → ∀ kv ∈ it.funds, kv.2.committed = true

/-- a VOTING proposal with a fund record written in the current block has its deadline ahead
    (voting began in this very block) -/
def FreshOK (h : Int) (it : Item) : Prop :=
  ∀ p, it.active = some p → p.status = .voting → (∃ kv ∈ it.funds, kv.2.committed = false) → h ≤ p.votingDeadline

theorem wfi_empty : WFI {} := by
  refine ⟨?_, ?_, ?_, ?_, ?_, ?_, ?_, ?_, ?_, ?_⟩ <;> simp [Item.get, sumFunds]

theorem WFI.active_none {it : Item} (w : WFI it) {p : Proposal} (hd : it.decided = some p) : it.active = none := by
  cases ha : it.active with
  | none => rfl
  | some q =>
    obtain ⟨e1, e2, _, _⟩ := w.activeExcl (by simp [ha])
    simp [Item.decided, e1, e2] at hd

/-- an item whose only copy is an ACTIVE one in progress: the clauses about the other stores and
    about decided outcomes hold for want of a subject -/
theorem WFI.ofActive {h : Int} {it : Item} {q : Proposal} (ha : it.active = some q)
    (hn : it.passed = none ∧ it.failed = none ∧ it.finalized = none ∧ it.finFailed = none)
    (ho : q.outcome = .inProgress) (hs : q.status ≠ .completed)
    (hv : q.status = .funding → it.votes = [])
    (hfr : (∃ kv ∈ it.funds, kv.2.committed = false) → ∀ kv ∈ it.votes, kv.2.committed = false)
    (hvf : it.votes ≠ [] → it.total ≥ q.fundingGoal ∨ it.funds = [])
    (hsum : it.total = sumFunds it.funds) (hnn : ∀ kv ∈ it.funds, 0 ≤ kv.2.amount)
    (hdl : q.status = .voting → (∃ kv ∈ it.funds, kv.2.committed = false) → h ≤ q.votingDeadline) :
    WFI it ∧ FreshOK h it := by
  have only : ∀ st p, it.get st = some p → p = q := by
    obtain ⟨n1, n2, n3, n4⟩ := hn
    intro st p hp
    cases st <;> simp only [Item.get, ha, n1, n2, n3, n4] at hp <;> cases hp <;> rfl
  refine ⟨?_, fun p hp => only .active p hp ▸ hdl⟩
  exact
    { activeExcl := fun _ => hn
      activeOpen := fun p hp => only .active p hp ▸ ⟨ho, hs⟩
      noOrphans := fun hx => by simp [Item.exists, ha] at hx
      fundingNoVotes := fun p hp => only .active p hp ▸ hv
      freshFunds := hfr
      votedFunded := fun hne st p hp => only st p hp ▸ hvf hne
      refundNoVotes := fun st p hp hr => by rw [only st p hp] at hr; simp [refundable, ho] at hr
      totalIsSum := hsum
      fundsNonneg := hnn
      expiredCommitted := fun st p hp hop => by rw [only st p hp, ho] at hop; cases hop }

/-- `q` can stand among the copies of an item that had those of `it`: it is one of them, or it
    keeps the goal of one and answers itself for the two clauses on outcomes -/
def Carried (it : Item) (q : Proposal) : Prop :=
  (∃ st0, it.get st0 = some q) ∨
  ((∃ st0 p0, it.get st0 = some p0 ∧ q.fundingGoal = p0.fundingGoal) ∧ (refundable q → it.votes = []) ∧
    (q.outcome = .insufficientVotes → ∀ kv ∈ it.funds, kv.2.committed = true))

/-- a transformation that leaves no ACTIVE copy (so `FreshOK` has no subject): the vote records
    change at most by an opinion, the escrow stays or is emptied, every copy is carried over -/
theorem WFI.move {h : Int} {it it' : Item} (w : WFI it) (ha : it'.active = none) (hex : it'.exists = true)
    (hvu : (∀ kv ∈ it.votes, kv.2.committed = false) → ∀ kv ∈ it'.votes, kv.2.committed = false)
    (hvn : it'.votes = [] ↔ it.votes = [])
    (hf : (it'.funds = it.funds ∧ it'.total = it.total) ∨ (it'.funds = [] ∧ it'.total = 0))
    (hc : ∀ st p, it'.get st = some p → Carried it p) : WFI it' ∧ FreshOK h it' := by
  have old : ∀ kv ∈ it'.funds, kv ∈ it.funds := by
    rcases hf with ⟨e, _⟩ | ⟨e, _⟩ <;> rw [e]
    · exact fun _ h => h
    · exact fun _ h => nomatch h
  refine ⟨?_, fun p hp => by rw [ha] at hp; cases hp⟩
  exact
    { activeExcl := fun h => by simp [ha] at h
      activeOpen := fun p hp => by rw [ha] at hp; cases hp
      noOrphans := fun h => by rw [hex] at h; cases h
      fundingNoVotes := fun p hp => by rw [ha] at hp; cases hp
      freshFunds := fun ⟨kv, hkv, hk⟩ => hvu (w.freshFunds ⟨kv, old kv hkv, hk⟩)
      votedFunded := fun hne st p hp => by
        have hne0 : it.votes ≠ [] := fun e => hne (hvn.mpr e)
        have : ∃ st0 p0, it.get st0 = some p0 ∧ p.fundingGoal = p0.fundingGoal :=
          (hc st p hp).elim (fun ⟨st0, h0⟩ => ⟨st0, p, h0, rfl⟩) (·.1)
        obtain ⟨st0, p0, h0, e⟩ := this
        rcases hf with ⟨e1, e2⟩ | ⟨e1, _⟩
        · rw [e1, e2, e]; exact w.votedFunded hne0 st0 p0 h0
        · exact Or.inr e1
      refundNoVotes := fun st p hp hr =>
        hvn.mpr ((hc st p hp).elim (fun ⟨st0, h0⟩ => w.refundNoVotes st0 p h0 hr) (·.2.1 hr))
      totalIsSum := by
        rcases hf with ⟨e1, e2⟩ | ⟨e1, e2⟩ <;> rw [e1, e2]
        · exact w.totalIsSum
        · rfl
      fundsNonneg := fun kv hkv => w.fundsNonneg kv (old kv hkv)
      expiredCommitted := fun st p hp ho kv hkv =>
        (hc st p hp).elim (fun ⟨st0, h0⟩ => w.expiredCommitted st0 p h0 ho) (·.2.2 ho) kv (old kv hkv) }

/-- the usual shape of it: a copy is written as `q` into a store other than ACTIVE and deleted
    from `src`; `X` is the item with its vote and escrow records as they are written back -/
theorem WFI.moved {h : Int} {it X : Item} (w : WFI it) {src dst : Store} {q : Proposal}
    (hg : ∀ st, X.get st = it.get st)
    (hact : src = .active ∨ it.active = none) (hdst : dst ≠ .active) (hds : dst ≠ src)
    (hvu : (∀ kv ∈ it.votes, kv.2.committed = false) → ∀ kv ∈ X.votes, kv.2.committed = false)
    (hvn : X.votes = [] ↔ it.votes = [])
    (hf : (X.funds = it.funds ∧ X.total = it.total) ∨ (X.funds = [] ∧ X.total = 0))
    (hq : Carried it q) : WFI ((X.set dst q).del src) ∧ FreshOK h ((X.set dst q).del src) := by
  refine w.move ?_ (Item.exists_set_del hds) (by simpa using hvu) (by simpa using hvn) (by simpa using hf) ?_
  · rcases hact with rfl | h
    · simp
    · have := hg .active
      simp only [Item.get_active] at this
      simp [hdst, this, h]
  · intro st p hp
    rcases Item.get_set_del hp with ⟨_, rfl⟩ | h
    · exact hq
    · exact Or.inl ⟨st, hg st ▸ h⟩

theorem wfi_deduct {h : Int} {it it2 : Item} {f : Addr} {v : Int} (w : WFI it) (hfresh : FreshOK h it)
    (hd : it.deductFunds f v = some it2) (hf : isFundedBy it.funds f = true) (hvotes : it.votes = []) :
    WFI it2 ∧ FreshOK h it2 := by
  obtain ⟨h0, _, rfl⟩ := deductFunds_eq hd
  refine ⟨?_, fun p ha hs ⟨kv, hkv, hkc⟩ => hfresh p ha hs ⟨kv, ?_, hkc⟩⟩
  · exact
      { w with
        noOrphans := fun hx => by rw [(w.noOrphans hx).2.1] at hf; cases hf
        freshFunds := fun _ kv hkv => by rw [show _ = it.votes from rfl, hvotes] at hkv; cases hkv
        votedFunded := fun hne => absurd hvotes hne
        refundNoVotes := fun _ _ _ _ => hvotes
        totalIsSum := by
          show it.total - v = sumFunds (upsert it.funds f _)
          rw [sumFunds_upsert, w.totalIsSum]
          simp only; omega
        fundsNonneg := forall_mem_upsert w.fundsNonneg h0
        expiredCommitted := fun st q hq hoq =>
          forall_mem_upsert (w.expiredCommitted st q (deductFunds_get hd st ▸ hq) hoq) hf }
  · -- the rewritten record is visible to iteration (`hf`), so a record of this block is an old one
    rcases mem_of_mem_upsert hkv with h1 | rfl
    · exact h1
    · rw [show isFundedBy it.funds f = false from hkc] at hf; cases hf

theorem wfi_commit {it : Item} (w : WFI it) : WFI it.commit := by
  have hv : it.commit.votes = [] ↔ it.votes = [] := by simp [Item.commit, commitVotes]
  have hf : it.commit.funds = [] ↔ it.funds = [] := by simp [Item.commit, commitFunds]
  have hc : ∀ kv ∈ it.commit.funds, kv.2.committed = true := by
    intro kv hkv
    obtain ⟨kv0, _, rfl⟩ := List.mem_map.mp hkv
    rfl
  exact
    { w with
      noOrphans := fun hx => have ⟨a, b, c⟩ := w.noOrphans hx; ⟨hv.mpr a, hf.mpr b, c⟩
      fundingNoVotes := fun q hq hqs => hv.mpr (w.fundingNoVotes q hq hqs)
      freshFunds := fun ⟨kv, hkv, hk⟩ => by simp [hc kv hkv] at hk
      votedFunded := fun hne st q hq => by
        rw [hf]
        exact w.votedFunded (fun e => hne (hv.mpr e)) st q (it.commit_get st ▸ hq)
      refundNoVotes := fun st q hq hr => hv.mpr (w.refundNoVotes st q (it.commit_get st ▸ hq) hr)
      totalIsSum := by
        show it.total = sumFunds (commitFunds it.funds)
        rw [sumFunds_commit]; exact w.totalIsSum
      fundsNonneg := fun kv hkv => by
        obtain ⟨kv0, h0, rfl⟩ := List.mem_map.mp hkv
        exact w.fundsNonneg kv0 h0
      expiredCommitted := fun _ _ _ _ => hc }

/-- at a finalisation `DeleteAllFunds` removes every fund record and zeroes the total without
    an error.  Every fund record is committed: a decided (or undecided) tally means a committed
    vote record, which excludes a fund record of this block; an expired proposal without vote
    records has none by `expiredCommitted`.  And the total is the sum of the records. -/
theorem final_clears {it : Item} {p : Proposal} {r : VoteResult} (w : WFI it)
    (hd : it.decided = some p) (ht : finalResult (resultSoFar it.votes p.passPercent) p = .ok r) :
    it.deleteAllFunds.2 = false ∧ it.deleteAllFunds.1.total = 0 ∧ it.deleteAllFunds.1.funds = [] := by
  have hc : ∀ kv ∈ it.funds, kv.2.committed = true := by
    intro kv hkv
    cases hr : resultSoFar it.votes p.passPercent with
    | none =>
      rw [hr] at ht
      simp only [finalResult] at ht
      split at ht
      · obtain ⟨st0, hst0⟩ := it.decided_copy hd
        exact w.expiredCommitted st0 p hst0 ‹_› kv hkv
      · cases ht
    | some r0 =>
      cases hc : kv.2.committed with
      | true => rfl
      | false =>
        obtain ⟨kv', hkv', hc'⟩ := resultSoFar_some hr
        rw [w.freshFunds ⟨kv, hkv, hc⟩ kv' hkv'] at hc'; cases hc'
  obtain ⟨h1, h2⟩ := deleteAllFunds_ok w.totalIsSum w.fundsNonneg
  refine ⟨h1, h2, ?_⟩
  rw [deleteAllFunds_funds, List.filter_eq_nil_iff]
  intro kv hkv
  simp [hc kv hkv]

variable {h : Int} {opts : Opts} {vals : List (Addr × ValRec)} {it it' : Item}

theorem wfi_trans (hopts : OptsOK opts) (hvote : VotingOK opts) (w : WFI it) (hfresh : FreshOK h it)
    (t : Trans h opts vals it it') : WFI it' ∧ FreshOK h it' := by
  have others : ∀ {p : Proposal}, it.active = some p →
      it.passed = none ∧ it.failed = none ∧ it.finalized = none ∧ it.finFailed = none :=
    fun ha => w.activeExcl (by simp [ha])
  cases t with
  | same => exact ⟨w, hfresh⟩
  | create p v he hs ho hv =>
    obtain ⟨hv0, hf0, ht0⟩ := w.noOrphans he
    obtain ⟨_, h2, h3, h4, h5⟩ := Item.exists_false he
    refine WFI.ofActive (q := p) (by simp) (by simp [h2, h3, h4, h5]) ho (by simp [hs]) (fun _ => by simp [hv0])
      (fun _ kv hkv => by simp [hv0] at hkv) (fun hne => by simp [hv0] at hne) ?_ ?_ (fun h => by rw [hs] at h; cases h)
    · simp [ht0, hf0, sumFunds_addFundRec, sumFunds]
    · exact addFundRec_nonneg (by simp [hf0]) (Int.le_trans (hopts p.ptype) hv)
  | fundMore p f v ha hs _ hv =>
    have hvotes := w.fundingNoVotes p ha hs
    refine WFI.ofActive (q := p) (by simp [ha]) (by simpa using others ha) (w.activeOpen p ha).1 (by simp [hs])
      (fun _ => by simp [hvotes]) (fun _ kv hkv => by simp [hvotes] at hkv) (fun hne => by simp [hvotes] at hne) ?_ ?_
      (fun h => by rw [hs] at h; cases h)
    · simp [sumFunds_addFundRec, w.totalIsSum]
    · exact addFundRec_nonneg w.fundsNonneg hv
  | fundStart p f v ha hs _ hv hg =>
    have hvotes := w.fundingNoVotes p ha hs
    refine WFI.ofActive (q := { p with status := .voting, votingDeadline := h + (opts.byType p.ptype).votingDeadline })
      (by simp) (by simpa using others ha) (w.activeOpen p ha).1 (by simp) (fun h => by cases h)
      (fun _ kv hkv => ?_) (fun _ => Or.inl (by simp; omega)) ?_ ?_ (fun _ _ => by have := hvote p.ptype; simp only; omega)
    · rw [Item.addFunds_votes, Item.withVotes_votes, hvotes] at hkv
      exact (snapshot_sound vals kv hkv).1
    · simp [sumFunds_addFundRec, w.totalIsSum]
    · exact addFundRec_nonneg w.fundsNonneg hv
  | voteTbd p a o votes' ha hs _ hu =>
    obtain ⟨hne, hne'⟩ := updateVote_ne_nil hu
    exact WFI.ofActive (q := p) (by simp [ha]) (by simpa using others ha) (w.activeOpen p ha).1
      (w.activeOpen p ha).2 (fun h => by rw [hs] at h; cases h)
      (fun hex => updateVote_uncommitted hu (w.freshFunds hex))
      (fun _ => w.votedFunded hne .active p ha) w.totalIsSum w.fundsNonneg (hfresh p ha)
  | votePass p a o votes' ha hs _ hu | voteFail p a o votes' ha hs _ hu =>
    obtain ⟨hne, hne'⟩ := updateVote_ne_nil hu
    exact w.moved (X := it.withVotes votes') (by simp) (Or.inl rfl) (by simp) (by simp)
      (updateVote_uncommitted hu) (by simp [hne, hne']) (Or.inl ⟨rfl, rfl⟩)
      (Or.inr ⟨⟨.active, p, ha, rfl⟩, fun hr => by simp [refundable] at hr, fun h => by cases h⟩)
  | cancel p ha hs =>
    exact w.moved (fun _ => rfl) (Or.inl rfl) (by simp) (by simp) id Iff.rfl (Or.inl ⟨rfl, rfl⟩)
      (Or.inr ⟨⟨.active, p, ha, rfl⟩, fun _ => w.fundingNoVotes p ha hs, fun h => by cases h⟩)
  | expire p ha hs hd =>
    refine w.moved (fun _ => rfl) (Or.inl rfl) (by simp) (by simp) id Iff.rfl (Or.inl ⟨rfl, rfl⟩)
      (Or.inr ⟨⟨.active, p, ha, rfl⟩, fun hr => by simp [refundable] at hr, fun _ kv hkv => ?_⟩)
    cases hc : kv.2.committed with
    | true => rfl
    | false => have := hfresh p ha hs ⟨kv, hkv, hc⟩; omega
  | withdraw p f v it2 hd hq hr hf =>
    obtain ⟨st, hst⟩ := it.queryAll_get hq
    exact wfi_deduct w hfresh hd hf (w.refundNoVotes st p hst hr)
  | withdrawConv p f v it2 hd hq hn1 hn2 hlt _ hf =>
    obtain ⟨st, hst⟩ := it.queryAll_get hq
    have hvotes : it.votes = [] := by
      cases hv' : it.votes with
      | nil => rfl
      | cons kv t =>
        rcases w.votedFunded (by simp [hv']) st p hst with h1 | h1
        · omega
        · simp [isFundedBy, h1] at hf
    obtain ⟨w1, f1⟩ := w.moved (h := h) (X := it) (src := .active) (dst := .failed)
      (q := { p with outcome := .insufficientFunds, status := .completed }) (fun _ => rfl) (Or.inl rfl) (by simp) (by simp)
      id Iff.rfl (Or.inl ⟨rfl, rfl⟩) (Or.inr ⟨⟨st, p, hst, rfl⟩, fun _ => hvotes, fun h => by cases h⟩)
    exact wfi_deduct w1 f1 hd (by simpa using hf) (by simpa using hvotes)
  | finCfgFailed p fin =>
    exact w.moved (fun _ => rfl) (Or.inr (w.active_none fin.decided)) (by simp) (by simp) id Iff.rfl (Or.inl ⟨rfl, rfl⟩)
      (Or.inl (it.decided_copy fin.decided))
  | finalize p r src fin hsrc =>
    obtain ⟨_, htot, hfunds⟩ := final_clears w fin.decided fin.result
    have hs : src ≠ .finalized := by rcases hsrc with ⟨_, rfl⟩ | ⟨_, rfl⟩ <;> simp
    exact w.moved (X := it.deleteAllFunds.1) (by simp) (Or.inr (w.active_none fin.decided)) (by simp) hs.symm
      id Iff.rfl (Or.inr ⟨hfunds, htot⟩) (Or.inl (it.decided_copy fin.decided))
  | finBad p r fin _ hbad =>
    rw [(final_clears w fin.decided fin.result).1] at hbad; cases hbad

/-! ## facts read off `Trans` -/

theorem trans_active (t : Trans h opts vals it it') :
    it'.active = it.active ∨ it'.active = none ∨ it.exists = false ∨
    (∃ p, it.active = some p ∧ p.status = .funding ∧ h ≤ p.fundingDeadline ∧ it'.total ≥ p.fundingGoal ∧
       it'.active = some { p with status := .voting, votingDeadline := h + (opts.byType p.ptype).votingDeadline }) := by
  cases t with
  | create p v he => exact Or.inr (Or.inr (Or.inl he))
  | fundStart p f v ha hs hd hv hg => exact Or.inr (Or.inr (Or.inr ⟨p, ha, hs, hd, by simp; omega, by simp⟩))
  | withdraw p f v it2 hd => exact Or.inl (deductFunds_get hd .active)
  | withdrawConv p f v it2 hd => exact Or.inr (Or.inl (by rw [← Item.get_active, deductFunds_get hd]; simp))
  | finalize p r src _ hsrc =>
    have : src ≠ .active := by rcases hsrc with ⟨_, rfl⟩ | ⟨_, rfl⟩ <;> simp
    exact Or.inl (by simp [this, deleteAllFunds_active])
  | finBad => exact Or.inl (by simp [deleteAllFunds_active])
  | same | fundMore | voteTbd | finCfgFailed => exact Or.inl (by simp)
  | votePass | voteFail | cancel | expire => exact Or.inr (Or.inl (by simp))

theorem trans_exists (he : it.exists = true) (t : Trans h opts vals it it') : it'.exists = true := by
  cases t with
  | same => exact he
  | create p v he' => rw [he'] at he; cases he
  | fundMore p f v ha => exact Item.exists_of_get .active p (by simp [ha])
  | fundStart p f v ha => exact Item.exists_of_get .active _ (by simp; rfl)
  | voteTbd p a o votes' ha => exact Item.exists_of_get .active p (by simp [ha])
  | withdraw p f v it2 hd =>
    obtain ⟨st, q, hq⟩ := (it.exists_iff).mp he
    exact Item.exists_of_get st q (by rw [deductFunds_get hd, hq])
  | withdrawConv p f v it2 hd =>
    exact Item.exists_of_get .failed _ (by rw [deductFunds_get hd]; simp; rfl)
  | finalize p r src _ hsrc =>
    exact Item.exists_set_del (by rcases hsrc with ⟨_, rfl⟩ | ⟨_, rfl⟩ <;> simp)
  | votePass | voteFail | cancel | expire | finCfgFailed | finBad => exact Item.exists_set_del (by simp)

theorem trans_rank (t : Trans h opts vals it it') : it.rank ≤ it'.rank := by
  have hA := rankA_le it.active
  have hB := rankB_le it.passed it.failed
  have hC := rankC_le it.finalized it.finFailed
  -- the ACTIVE copy moves to PASSED or FAILED: the stage is at least 3, a final copy stays
  have decided : ∀ (X : Item) (dst : Store) (q : Proposal), (∀ st, X.get st = it.get st) →
      dst = .passed ∨ dst = .failed → it.rank ≤ ((X.set dst q).del .active).rank := by
    intro X dst q hg hdst
    have h2 := hg .passed; have h3 := hg .failed; have h4 := hg .finalized; have h5 := hg .finFailed
    simp only [Item.get] at h2 h3 h4 h5
    rcases hdst with rfl | rfl <;> simp [Item.rank, h2, h3, h4, h5] <;> omega
  cases t with
  | create p v he =>
    obtain ⟨h1, h2, h3, h4, h5⟩ := Item.exists_false he
    simp [Item.rank, h1, h2, h3, h4, h5, rankB, rankC]
  | fundStart p f v ha hs => simp [Item.rank, ha, rankA, hs]; omega
  | votePass => exact decided _ _ _ (by simp) (Or.inl rfl)
  | voteFail => exact decided _ _ _ (by simp) (Or.inr rfl)
  | cancel | expire => exact decided it _ _ (fun _ => rfl) (Or.inr rfl)
  | withdraw p f v it2 hd => exact Nat.le_of_eq (Item.rank_congr (deductFunds_get hd)).symm
  | withdrawConv p f v it2 hd =>
    rw [Item.rank_congr (deductFunds_get hd)]
    exact decided it _ _ (fun _ => rfl) (Or.inr rfl)
  | finalize p r src _ hsrc =>
    have hs : src ≠ .finalized := by rcases hsrc with ⟨_, rfl⟩ | ⟨_, rfl⟩ <;> simp
    exact Nat.le_trans it.rank_le (Nat.le_of_eq (Item.rank_of_final _ (by simp [hs])).symm)
  | finCfgFailed | finBad => exact Nat.le_trans it.rank_le (Nat.le_of_eq (Item.rank_of_final _ (by simp)).symm)
  | same | fundMore | voteTbd => exact Nat.le_of_eq (Item.rank_congr (by simp)).symm

/-- where the copies after a transformation come from: each has the outcome of a copy from
    before, unless the transformation wrote it as a decided proposal: then its outcome tells by
    which guard -/
theorem trans_copy (t : Trans h opts vals it it') {st : Store} {p' : Proposal} (hg : it'.get st = some p') :
    (∃ st0 p0, it.get st0 = some p0 ∧ p0.outcome = p'.outcome) ∨
    match p'.outcome with
    | .completedYes => st = .passed ∧ resultSoFar it'.votes (opts.byType p'.ptype).passPercent = some .passed
    | .completedNo => st = .failed ∧ resultSoFar it'.votes (opts.byType p'.ptype).passPercent = some .failed
    | .insufficientVotes => st = .failed ∧ ∃ p, it.active = some p ∧ p.status = .voting ∧ p.votingDeadline < h ∧
        p' = { p with status := .completed, outcome := .insufficientVotes }
    | _ => True := by
  have old : it.get st = some p' → ∃ st0 p0, it.get st0 = some p0 ∧ p0.outcome = p'.outcome :=
    fun h0 => ⟨st, p', h0, rfl⟩
  cases t with
  | create p v he hs hop =>
    rw [Item.addFunds_get] at hg
    rcases Item.get_set_some hg with ⟨_, rfl⟩ | h0
    · exact Or.inr (by rw [hop]; trivial)
    · exact Or.inl (old h0)
  | fundStart p f v ha =>
    rw [Item.addFunds_get, Item.withVotes_get] at hg
    rcases Item.get_set_some hg with ⟨_, rfl⟩ | h0
    · exact Or.inl ⟨.active, p, ha, rfl⟩
    · exact Or.inl (old h0)
  | votePass p a o votes' ha _ _ _ hr | voteFail p a o votes' ha _ _ _ hr =>
    rcases Item.get_set_del hg with ⟨rfl, rfl⟩ | h0
    · exact Or.inr ⟨rfl, by simpa using hr⟩
    · exact Or.inl (old (by simpa using h0))
  | cancel p =>
    rcases Item.get_set_del hg with ⟨_, rfl⟩ | h0
    · exact Or.inr trivial
    · exact Or.inl (old h0)
  | expire p ha hs hd =>
    rcases Item.get_set_del hg with ⟨rfl, rfl⟩ | h0
    · exact Or.inr ⟨rfl, p, ha, hs, by omega, rfl⟩
    · exact Or.inl (old h0)
  | withdraw p f v it2 hd => exact Or.inl (old (deductFunds_get hd st ▸ hg))
  | withdrawConv p f v it2 hd =>
    rw [deductFunds_get hd] at hg
    rcases Item.get_set_del hg with ⟨_, rfl⟩ | h0
    · exact Or.inr trivial
    · exact Or.inl (old h0)
  | finCfgFailed p fin | finalize p r src fin | finBad p r fin =>
    rcases Item.get_set_del hg with ⟨_, rfl⟩ | h0
    · obtain ⟨st0, h0⟩ := it.decided_copy fin.decided; exact Or.inl ⟨st0, _, h0, rfl⟩
    · exact Or.inl (old (by simpa using h0))
  | same | fundMore | voteTbd => exact Or.inl (old (by simpa using hg))

theorem trans_votes (t : Trans h opts vals it it') :
    powers it'.votes = powers it.votes ∨
    (∃ p, it.active = some p ∧ p.status = .funding ∧ it'.votes = snapshot it.votes vals) := by
  cases t with
  | fundStart p f v ha hs => exact Or.inr ⟨p, ha, hs, by simp⟩
  | voteTbd p a o votes' _ _ _ hu => exact Or.inl (by simpa using powers_updateVote hu)
  | votePass p a o votes' _ _ _ hu => exact Or.inl (by simpa using powers_updateVote hu)
  | voteFail p a o votes' _ _ _ hu => exact Or.inl (by simpa using powers_updateVote hu)
  | withdraw p f v it2 hd | withdrawConv p f v it2 hd =>
    obtain ⟨_, _, rfl⟩ := deductFunds_eq hd
    exact Or.inl (by simp)
  | same | create | fundMore | cancel | expire | finCfgFailed | finalize | finBad => exact Or.inl (by simp)

theorem fresh_commit (h : Int) (it : Item) : FreshOK h it.commit := by
  intro p _ _ ⟨kv, hkv, hkc⟩
  obtain ⟨kv0, _, rfl⟩ := List.mem_map.mp hkv
  cases hkc

theorem trans_refundable (w : WFI it) {p : Proposal} (hq : it.queryAll = some p) (hr : refundable p)
    (t : Trans h opts vals it it') :
    it'.queryAll = some p ∧
    (((∀ g, fundAmount it'.funds g = fundAmount it.funds g) ∧ it'.total = it.total) ∨
     ∃ f v, 0 ≤ v ∧ v ≤ fundAmount it.funds f ∧ fundAmount it'.funds f = fundAmount it.funds f - v ∧
       (∀ g, g ≠ f → fundAmount it'.funds g = fundAmount it.funds g) ∧ it'.total = it.total - v) := by
  obtain ⟨st, hst⟩ := it.queryAll_get hq
  have hvotes : it.votes = [] := w.refundNoVotes st p hst hr
  have hact : it.active = none := by
    cases ha : it.active with
    | none => rfl
    | some q =>
      have : it.queryAll = some q := by simp [Item.queryAll, ha]
      rw [hq] at this; cases this
      have := (w.activeOpen p ha).1
      rw [refundable, this] at hr; simp at hr
  have hex : it.exists = true := Item.exists_of_get st p hst
  -- a refundable proposal has no tally to finalise on
  have notally : ∀ {p' r}, Finalisable it p' r → False := by
    intro p' r fin
    have hqa : it.queryAll = some p' := by
      rcases it.decided_get fin.decided with h1 | ⟨h1, h2⟩ <;> simp [Item.queryAll, *]
    rw [hq] at hqa; cases hqa
    have hnone : resultSoFar it.votes p.passPercent = none := by simp [resultSoFar, hvotes, cvotes]
    have hfr := fin.result
    rw [hnone] at hfr
    simp only [finalResult] at hfr
    split at hfr
    · rename_i ho; rw [refundable, ho] at hr; simp at hr
    · cases hfr
  cases t with
  | same => exact ⟨hq, Or.inl ⟨fun _ => rfl, rfl⟩⟩
  | create p' v he => rw [he] at hex; cases hex
  | withdraw p' f v it2 hd _ _ _ hv =>
    obtain ⟨h0, _, rfl⟩ := deductFunds_eq hd
    refine ⟨hq, Or.inr ⟨f, v, hv, by omega, ?_, ?_, rfl⟩⟩
    · simp [fundAmount_upsert]
    · intro g hg; simp [fundAmount_upsert, hg]
  | withdrawConv p' f v it2 _ hq' hn1 hn2 =>
    rw [hq] at hq'; cases hq'
    exact (hr.elim hn1 hn2).elim
  | finCfgFailed _ fin | finalize _ _ _ fin | finBad _ _ fin => exact (notally fin).elim
  | fundMore _ _ _ ha | fundStart _ _ _ ha | voteTbd _ _ _ _ ha | votePass _ _ _ _ ha | voteFail _ _ _ _ ha
  | cancel _ ha | expire _ ha => rw [hact] at ha; cases ha

end OLP.Gov
