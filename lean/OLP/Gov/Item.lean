/-
  Governance (C14): the records stored under one proposal id — the copies of the proposal in the
  prefix stores, the vote records and the escrow records — and what the store operations of the
  model do to them.
-/
import OLP.Base.Guard
import OLP.Gov.Model

namespace OLP.Gov
open OLP

/-! ## the copies of the proposal: `get`, `set`, `del` and what leaves them alone -/

@[simp] theorem Item.get_active (it : Item) : it.get .active = it.active := rfl
@[simp] theorem Item.get_passed (it : Item) : it.get .passed = it.passed := rfl
@[simp] theorem Item.get_failed (it : Item) : it.get .failed = it.failed := rfl
@[simp] theorem Item.get_finalized (it : Item) : it.get .finalized = it.finalized := rfl
@[simp] theorem Item.get_finFailed (it : Item) : it.get .finFailed = it.finFailed := rfl

@[simp] theorem Item.set_active (it : Item) (st : Store) (p : Proposal) :
    (it.set st p).active = if st = .active then some p else it.active := by cases st <;> rfl
@[simp] theorem Item.set_passed (it : Item) (st : Store) (p : Proposal) :
    (it.set st p).passed = if st = .passed then some p else it.passed := by cases st <;> rfl
@[simp] theorem Item.set_failed (it : Item) (st : Store) (p : Proposal) :
    (it.set st p).failed = if st = .failed then some p else it.failed := by cases st <;> rfl
@[simp] theorem Item.set_finalized (it : Item) (st : Store) (p : Proposal) :
    (it.set st p).finalized = if st = .finalized then some p else it.finalized := by cases st <;> rfl
@[simp] theorem Item.set_finFailed (it : Item) (st : Store) (p : Proposal) :
    (it.set st p).finFailed = if st = .finFailed then some p else it.finFailed := by cases st <;> rfl
@[simp] theorem Item.del_active (it : Item) (st : Store) :
    (it.del st).active = if st = .active then none else it.active := by cases st <;> rfl
@[simp] theorem Item.del_passed (it : Item) (st : Store) :
    (it.del st).passed = if st = .passed then none else it.passed := by cases st <;> rfl
@[simp] theorem Item.del_failed (it : Item) (st : Store) :
    (it.del st).failed = if st = .failed then none else it.failed := by cases st <;> rfl
@[simp] theorem Item.del_finalized (it : Item) (st : Store) :
    (it.del st).finalized = if st = .finalized then none else it.finalized := by cases st <;> rfl
@[simp] theorem Item.del_finFailed (it : Item) (st : Store) :
    (it.del st).finFailed = if st = .finFailed then none else it.finFailed := by cases st <;> rfl
@[simp] theorem Item.set_votes (it : Item) (st : Store) (p : Proposal) : (it.set st p).votes = it.votes := by
  cases st <;> rfl
@[simp] theorem Item.set_funds (it : Item) (st : Store) (p : Proposal) : (it.set st p).funds = it.funds := by
  cases st <;> rfl
@[simp] theorem Item.set_total (it : Item) (st : Store) (p : Proposal) : (it.set st p).total = it.total := by
  cases st <;> rfl
@[simp] theorem Item.del_votes (it : Item) (st : Store) : (it.del st).votes = it.votes := by
  cases st <;> rfl
@[simp] theorem Item.del_funds (it : Item) (st : Store) : (it.del st).funds = it.funds := by
  cases st <;> rfl
@[simp] theorem Item.del_total (it : Item) (st : Store) : (it.del st).total = it.total := by
  cases st <;> rfl

@[simp] theorem Item.withVotes_votes (it : Item) (vs : List (Addr × VoteRec)) : (it.withVotes vs).votes = vs := rfl
@[simp] theorem Item.withVotes_funds (it : Item) (vs : List (Addr × VoteRec)) : (it.withVotes vs).funds = it.funds := rfl
@[simp] theorem Item.withVotes_total (it : Item) (vs : List (Addr × VoteRec)) : (it.withVotes vs).total = it.total := rfl
@[simp] theorem Item.withVotes_active (it : Item) (vs : List (Addr × VoteRec)) : (it.withVotes vs).active = it.active := rfl
@[simp] theorem Item.withVotes_passed (it : Item) (vs : List (Addr × VoteRec)) : (it.withVotes vs).passed = it.passed := rfl
@[simp] theorem Item.withVotes_failed (it : Item) (vs : List (Addr × VoteRec)) : (it.withVotes vs).failed = it.failed := rfl
@[simp] theorem Item.withVotes_finalized (it : Item) (vs : List (Addr × VoteRec)) : (it.withVotes vs).finalized = it.finalized := rfl
@[simp] theorem Item.withVotes_finFailed (it : Item) (vs : List (Addr × VoteRec)) : (it.withVotes vs).finFailed = it.finFailed := rfl
@[simp] theorem Item.withVotes_get (it : Item) (vs : List (Addr × VoteRec)) (st : Store) : (it.withVotes vs).get st = it.get st := by
  cases st <;> rfl

@[simp] theorem Item.addFunds_active (it : Item) (f : Addr) (v : Int) : (it.addFunds f v).active = it.active := rfl
@[simp] theorem Item.addFunds_passed (it : Item) (f : Addr) (v : Int) : (it.addFunds f v).passed = it.passed := rfl
@[simp] theorem Item.addFunds_failed (it : Item) (f : Addr) (v : Int) : (it.addFunds f v).failed = it.failed := rfl
@[simp] theorem Item.addFunds_finalized (it : Item) (f : Addr) (v : Int) : (it.addFunds f v).finalized = it.finalized := rfl
@[simp] theorem Item.addFunds_finFailed (it : Item) (f : Addr) (v : Int) : (it.addFunds f v).finFailed = it.finFailed := rfl
@[simp] theorem Item.addFunds_votes (it : Item) (f : Addr) (v : Int) : (it.addFunds f v).votes = it.votes := rfl
@[simp] theorem Item.addFunds_total (it : Item) (f : Addr) (v : Int) : (it.addFunds f v).total = it.total + v := rfl
@[simp] theorem Item.addFunds_funds (it : Item) (f : Addr) (v : Int) : (it.addFunds f v).funds = addFundRec it.funds f v := rfl
@[simp] theorem Item.addFunds_get (it : Item) (f : Addr) (v : Int) (st : Store) : (it.addFunds f v).get st = it.get st := by
  cases st <;> rfl

@[simp] theorem Item.commit_get (it : Item) (st : Store) : it.commit.get st = it.get st := by cases st <;> rfl

theorem Item.get_set (it : Item) (st st' : Store) (p : Proposal) :
    (it.set st p).get st' = if st' = st then some p else it.get st' := by
  cases st <;> cases st' <;> rfl

theorem Item.get_del (it : Item) (st st' : Store) :
    (it.del st).get st' = if st' = st then none else it.get st' := by
  cases st <;> cases st' <;> rfl

theorem Item.get_set_some {it : Item} {dst st : Store} {p q : Proposal}
    (h : (it.set dst p).get st = some q) : (st = dst ∧ q = p) ∨ it.get st = some q := by
  rw [Item.get_set] at h
  split at h
  · exact Or.inl ⟨‹_›, (Option.some.inj h).symm⟩
  · exact Or.inr h

theorem Item.get_set_del {it : Item} {src dst st : Store} {p q : Proposal}
    (h : ((it.set dst p).del src).get st = some q) : (st = dst ∧ q = p) ∨ it.get st = some q := by
  rw [Item.get_del] at h
  split at h
  · cases h
  · exact Item.get_set_some h

theorem Item.exists_iff (it : Item) : it.exists = true ↔ ∃ st p, it.get st = some p := by
  constructor
  · intro h
    simp only [Item.exists, Bool.or_eq_true, Option.isSome_iff_exists] at h
    rcases h with (((⟨p, h⟩ | ⟨p, h⟩) | ⟨p, h⟩) | ⟨p, h⟩) | ⟨p, h⟩
    · exact ⟨.active, p, h⟩
    · exact ⟨.passed, p, h⟩
    · exact ⟨.failed, p, h⟩
    · exact ⟨.finalized, p, h⟩
    · exact ⟨.finFailed, p, h⟩
  · rintro ⟨st, p, h⟩
    cases st <;> simp only [Item.get] at h <;> simp [Item.exists, h]

theorem Item.exists_of_get {it : Item} (st : Store) (p : Proposal) (h : it.get st = some p) : it.exists = true :=
  it.exists_iff.mpr ⟨st, p, h⟩

theorem Item.exists_false {it : Item} (h : it.exists = false) :
    it.active = none ∧ it.passed = none ∧ it.failed = none ∧ it.finalized = none ∧ it.finFailed = none := by
  simpa [Item.exists, and_assoc] using h

theorem Item.exists_set_del {it : Item} {src dst : Store} {p : Proposal} (h : dst ≠ src) :
    ((it.set dst p).del src).exists = true :=
  Item.exists_of_get dst p (by simp [Item.get_del, Item.get_set, h])

theorem Item.queryAll_get (it : Item) {p : Proposal} (h : it.queryAll = some p) : ∃ st, it.get st = some p := by
  unfold Item.queryAll at h
  split at h
  · rename_i q hq; exact ⟨.active, by simpa [hq] using h⟩
  split at h
  · rename_i q hq; exact ⟨.passed, by simpa [hq] using h⟩
  split at h
  · rename_i q hq; exact ⟨.failed, by simpa [hq] using h⟩
  split at h
  · rename_i q hq; exact ⟨.finalized, by simpa [hq] using h⟩
  · exact ⟨.finFailed, h⟩

theorem Item.decided_get (it : Item) {p : Proposal} (h : it.decided = some p) :
    it.passed = some p ∨ (it.passed = none ∧ it.failed = some p) := by
  unfold Item.decided at h
  split at h
  · exact Or.inl (h ▸ ‹it.passed = some _›)
  · exact Or.inr ⟨‹_›, h⟩

theorem Item.decided_copy (it : Item) {p : Proposal} (h : it.decided = some p) : ∃ st, it.get st = some p :=
  (it.decided_get h).elim (fun h => ⟨.passed, h⟩) fun h => ⟨.failed, h.2⟩

/-! ## the stage of a proposal -/

def rankA : Option Proposal → Nat
  | some p => (match p.status with | .funding => 1 | .voting => 2 | .completed => 3)
  | none => 0
def rankB (a b : Option Proposal) : Nat := if a.isSome ∨ b.isSome then 3 else 0
def rankC (a b : Option Proposal) : Nat := if a.isSome ∨ b.isSome then 4 else 0

/-- the stage of a proposal as a number: 0 unknown, 1 funding, 2 voting, 3 decided (passed,
    failed, expired, cancelled, missed its goal), 4 finalised; the highest over all stores -/
def Item.rank (it : Item) : Nat :=
  max (max (rankA it.active) (rankB it.passed it.failed)) (rankC it.finalized it.finFailed)

theorem rankA_le (o : Option Proposal) : rankA o ≤ 3 := by
  cases o with
  | none => simp [rankA]
  | some p => cases hs : p.status <;> simp [rankA, hs]
theorem rankB_le (a b : Option Proposal) : rankB a b ≤ 3 := by unfold rankB; split <;> omega
theorem rankC_le (a b : Option Proposal) : rankC a b ≤ 4 := by unfold rankC; split <;> omega
@[simp] theorem rankB_some_left (p : Proposal) (b : Option Proposal) : rankB (some p) b = 3 := by simp [rankB]
@[simp] theorem rankB_some_right (a : Option Proposal) (p : Proposal) : rankB a (some p) = 3 := by simp [rankB]
@[simp] theorem rankC_some_left (p : Proposal) (b : Option Proposal) : rankC (some p) b = 4 := by simp [rankC]
@[simp] theorem rankC_some_right (a : Option Proposal) (p : Proposal) : rankC a (some p) = 4 := by simp [rankC]
@[simp] theorem rankA_none : rankA none = 0 := rfl

theorem Item.rank_le (it : Item) : it.rank ≤ 4 := by
  have := rankA_le it.active
  have := rankB_le it.passed it.failed
  have := rankC_le it.finalized it.finFailed
  unfold Item.rank; omega

theorem Item.rank_of_final (it : Item) (h : it.finalized.isSome ∨ it.finFailed.isSome) : it.rank = 4 := by
  have := it.rank_le
  have : rankC it.finalized it.finFailed = 4 := by simp [rankC, h]
  unfold Item.rank at *; omega

/-- stage 4 is a FINALIZED or FINALIZEFAILED copy, so "once finalised, finalised for good" is a
    consequence of the stage never decreasing -/
theorem Item.rank_eq_four (it : Item) : it.rank = 4 ↔ (it.finalized.isSome ∨ it.finFailed.isSome) := by
  refine ⟨fun h => ?_, it.rank_of_final⟩
  have := rankA_le it.active
  have := rankB_le it.passed it.failed
  unfold Item.rank rankC at h
  split at h
  · assumption
  · omega

theorem Item.final_of_rank_le {it it' : Item} (h : it.rank ≤ it'.rank)
    (hf : it.finalized.isSome ∨ it.finFailed.isSome) : it'.finalized.isSome ∨ it'.finFailed.isSome :=
  it'.rank_eq_four.mp (Nat.le_antisymm it'.rank_le (it.rank_of_final hf ▸ h))

theorem Item.rank_congr {it it' : Item} (h : ∀ st, it'.get st = it.get st) : it'.rank = it.rank := by
  show max (max (rankA (it'.get .active)) (rankB (it'.get .passed) (it'.get .failed)))
    (rankC (it'.get .finalized) (it'.get .finFailed)) = it.rank
  simp only [h]; rfl

/-! ## vote records -/

theorem updateVote_some {votes votes' : List (Addr × VoteRec)} {a : Addr} {o : Opinion}
    (h : updateVote votes a o = some votes') :
    ∃ r, alookup a votes = some r ∧ votes' = upsert votes a { r with opinion := o } := by
  unfold updateVote at h
  split at h
  · exact ⟨_, ‹_›, (Option.some.inj h).symm⟩
  · cases h

theorem updateVote_ne_nil {votes votes' : List (Addr × VoteRec)} {a : Addr} {o : Opinion}
    (h : updateVote votes a o = some votes') : votes ≠ [] ∧ votes' ≠ [] := by
  obtain ⟨r, hr, rfl⟩ := updateVote_some h
  exact ⟨fun e => by simp [e] at hr, upsert_ne_nil _ _ _⟩

theorem updateVote_uncommitted {votes votes' : List (Addr × VoteRec)} {a : Addr} {o : Opinion}
    (h : updateVote votes a o = some votes') (hu : ∀ kv ∈ votes, kv.2.committed = false) :
    ∀ kv ∈ votes', kv.2.committed = false := by
  obtain ⟨r, hr, rfl⟩ := updateVote_some h
  intro kv hkv
  rcases mem_of_mem_upsert hkv with h1 | rfl
  · exact hu kv h1
  · exact hu (a, r) (mem_of_alookup hr)

/-- a snapshot over vote records none of which is committed: every record stays uncommitted, and
    what holds of the old records and of a fresh record of each validator holds of all -/
theorem snapshot_induct (P : Addr → VoteRec → Prop) (votes : List (Addr × VoteRec)) (l : List (Addr × ValRec))
    (hv : ∀ kv ∈ votes, kv.2.committed = false ∧ P kv.1 kv.2)
    (hl : ∀ v ∈ l, P v.1 { opinion := .unknown, power := v.2.power, committed := false }) :
    ∀ kv ∈ l.foldl (fun vs v => setupVote vs v.1 v.2.power) votes, kv.2.committed = false ∧ P kv.1 kv.2 := by
  induction l generalizing votes with
  | nil => exact hv
  | cons hd t ih =>
    refine ih _ (fun kv hkv => ?_) fun v hvm => hl v (List.mem_cons_of_mem _ hvm)
    have new := hl hd List.mem_cons_self
    simp only [setupVote] at hkv
    split at hkv <;> rcases mem_of_mem_upsert hkv with h1 | rfl
    · exact hv kv h1
    · rename_i r hr
      have := (hv _ (mem_of_alookup hr)).1
      exact ⟨this, show P hd.1 { opinion := .unknown, power := hd.2.power, committed := r.committed } from this ▸ new⟩
    · exact hv kv h1
    · exact ⟨rfl, new⟩

theorem snapshot_sound (vals : List (Addr × ValRec)) :
    ∀ kv ∈ snapshot [] vals, kv.2.committed = false ∧ kv.2.opinion = .unknown ∧
      ∃ v ∈ vals, v.1 = kv.1 ∧ v.2.power = kv.2.power ∧ v.2.active = true ∧ v.2.committed = true := by
  refine snapshot_induct (fun a r => r.opinion = .unknown ∧
    ∃ v ∈ vals, v.1 = a ∧ v.2.power = r.power ∧ v.2.active = true ∧ v.2.committed = true) [] _ (fun _ h => nomatch h) ?_
  intro v hv
  obtain ⟨hv, ha⟩ := List.mem_filter.mp hv
  obtain ⟨hv, hc⟩ := List.mem_filter.mp hv
  exact ⟨rfl, v, hv, rfl, rfl, ha, hc⟩

theorem resultSoFar_some {votes : List (Addr × VoteRec)} {pass : Int} {r : VoteResult}
    (h : resultSoFar votes pass = some r) : ∃ kv ∈ votes, kv.2.committed = true := by
  unfold resultSoFar at h
  cases hl : cvotes votes with
  | nil => simp [hl] at h
  | cons kv t =>
    have : kv ∈ cvotes votes := hl ▸ List.mem_cons_self
    exact ⟨kv, List.mem_filter.mp this⟩

theorem decide3_spec {yes no all giveup pass : Int} {r : VoteResult} (h : decide3 yes no all giveup pass = r) :
    match (generalizing := false) r with
    | .passed => passCond yes all giveup pass
    | .failed => ¬ passCond yes all giveup pass ∧ failCond no all giveup pass
    | .tbd => ¬ passCond yes all giveup pass ∧ ¬ failCond no all giveup pass := by
  subst h
  unfold decide3
  by_cases hp : passCond yes all giveup pass
  · rw [if_pos hp]; exact hp
  · by_cases hf : failCond no all giveup pass
    · rw [if_neg hp, if_pos hf]; exact ⟨hp, hf⟩
    · rw [if_neg hp, if_neg hf]; exact ⟨hp, hf⟩

/-- the tally `ResultSoFar` accumulates: powers of the committed vote records -/
def yesPower (votes : List (Addr × VoteRec)) : Int := powerOf .yes (cvotes votes)
def noPower (votes : List (Addr × VoteRec)) : Int := powerOf .no (cvotes votes)
def giveupPower (votes : List (Addr × VoteRec)) : Int := powerOf .giveup (cvotes votes)
def totalPower (votes : List (Addr × VoteRec)) : Int := allPower (cvotes votes)

theorem resultSoFar_decide3 {votes : List (Addr × VoteRec)} {pass : Int} {r : VoteResult}
    (h : resultSoFar votes pass = some r) :
    decide3 (yesPower votes) (noPower votes) (totalPower votes) (giveupPower votes) pass = r := by
  unfold resultSoFar at h
  simp only at h
  split at h
  · cases h
  · exact Option.some.inj h

def powers (votes : List (Addr × VoteRec)) : List (Addr × Int) := votes.map (fun kv => (kv.1, kv.2.power))

theorem powers_upsert_same {l : List (Addr × VoteRec)} {a : Addr} {r r' : VoteRec}
    (hr : alookup a l = some r) (hp : r'.power = r.power) : powers (upsert l a r') = powers l := by
  induction l with
  | nil => cases hr
  | cons hd t ih =>
    obtain ⟨k, w⟩ := hd
    by_cases hk : k = a
    · simp only [alookup, hk, if_true, Option.some.injEq] at hr
      simp [upsert, powers, hk, hp, hr]
    · simp only [alookup, hk, if_false] at hr
      simpa [upsert, hk, powers] using ih hr

theorem powers_updateVote {votes votes' : List (Addr × VoteRec)} {a : Addr} {o : Opinion}
    (h : updateVote votes a o = some votes') : powers votes' = powers votes := by
  obtain ⟨r, hr, rfl⟩ := updateVote_some h
  exact powers_upsert_same hr rfl

theorem powers_commit (l : List (Addr × VoteRec)) : powers (commitVotes l) = powers l := by
  simp [powers, commitVotes, List.map_map, Function.comp_def]

/-! ## escrow records -/

def sumFunds : List (Addr × FundRec) → Int
  | [] => 0
  | (_, r) :: t => r.amount + sumFunds t

theorem sumFunds_eq_asum (l : List (Addr × FundRec)) : sumFunds l = asum (fun _ r => r.amount) l := by
  induction l with
  | nil => rfl
  | cons hd t ih => exact congrArg (hd.2.amount + ·) ih

theorem fundAmount_of_alookup {l : List (Addr × FundRec)} {f : Addr} {r : FundRec} (h : alookup f l = some r) :
    fundAmount l f = r.amount := by simp [fundAmount, h]

theorem fundAmount_upsert (l : List (Addr × FundRec)) (f g : Addr) (r : FundRec) :
    fundAmount (upsert l f r) g = if g = f then r.amount else fundAmount l g := by
  unfold fundAmount
  rw [alookup_upsert]
  by_cases h : g = f <;> simp [h]

theorem fundAmount_commit (l : List (Addr × FundRec)) (g : Addr) : fundAmount (commitFunds l) g = fundAmount l g := by
  have := alookup_map_val l (fun r : FundRec => { r with committed := true }) g
  unfold fundAmount commitFunds
  rw [this]
  cases alookup g l <;> rfl

theorem fundAmount_nonneg (l : List (Addr × FundRec)) (f : Addr) (hn : ∀ kv ∈ l, 0 ≤ kv.2.amount) :
    0 ≤ fundAmount l f := by
  unfold fundAmount
  split
  · exact hn (f, _) (mem_of_alookup ‹_›)
  · exact Int.le_refl 0

theorem sumFunds_upsert (l : List (Addr × FundRec)) (f : Addr) (r : FundRec) :
    sumFunds (upsert l f r) = sumFunds l - fundAmount l f + r.amount := by
  rw [sumFunds_eq_asum, sumFunds_eq_asum, asum_upsert]
  unfold fundAmount
  cases alookup f l <;> rfl

theorem sumFunds_commit (l : List (Addr × FundRec)) : sumFunds (commitFunds l) = sumFunds l := by
  induction l with
  | nil => rfl
  | cons hd t ih => exact congrArg (hd.2.amount + ·) ih

/-- `addAmount` rewrites the funder's record with the amount raised by `v`; a record it creates
    stays invisible to iteration -/
theorem addFundRec_eq (l : List (Addr × FundRec)) (f : Addr) (v : Int) :
    addFundRec l f v = upsert l f { amount := fundAmount l f + v, committed := isFundedBy l f } := by
  unfold addFundRec fundAmount isFundedBy
  cases alookup f l with
  | none => rw [Int.zero_add]
  | some r => rfl

theorem sumFunds_addFundRec (l : List (Addr × FundRec)) (f : Addr) (v : Int) :
    sumFunds (addFundRec l f v) = sumFunds l + v := by
  rw [addFundRec_eq, sumFunds_upsert]; simp only; omega

theorem fundAmount_addFundRec (l : List (Addr × FundRec)) (f g : Addr) (v : Int) :
    fundAmount (addFundRec l f v) g = if g = f then fundAmount l f + v else fundAmount l g := by
  rw [addFundRec_eq, fundAmount_upsert]

theorem fundAmount_addFundRec_ge (l : List (Addr × FundRec)) (f g : Addr) (v : Int) (hv : 0 ≤ v) :
    fundAmount l g ≤ fundAmount (addFundRec l f v) g := by
  rw [fundAmount_addFundRec]
  split
  · subst ‹g = f›; omega
  · exact Int.le_refl _

theorem addFundRec_nonneg {l : List (Addr × FundRec)} {f : Addr} {v : Int} (hn : ∀ kv ∈ l, 0 ≤ kv.2.amount)
    (hv : 0 ≤ v) : ∀ kv ∈ addFundRec l f v, 0 ≤ kv.2.amount := by
  intro kv hkv
  rcases mem_of_mem_upsert (addFundRec_eq l f v ▸ hkv) with h | rfl
  · exact hn kv h
  · exact Int.add_nonneg (fundAmount_nonneg l f hn) hv

theorem addFundRec_ne_nil (l : List (Addr × FundRec)) (f : Addr) (v : Int) : addFundRec l f v ≠ [] := by
  rw [addFundRec_eq]; exact upsert_ne_nil _ _ _

theorem deductFunds_eq {it it2 : Item} {f : Addr} {v : Int} (h : it.deductFunds f v = some it2) :
    0 ≤ fundAmount it.funds f - v ∧ 0 ≤ it.total - v ∧
    it2 = { it with funds := upsert it.funds f { amount := fundAmount it.funds f - v, committed := isFundedBy it.funds f },
                    total := it.total - v } := by
  unfold Item.deductFunds at h
  dsimp only at h
  obtain ⟨h1, h⟩ := of_guard h
  obtain ⟨h2, h⟩ := of_guard h
  refine ⟨by omega, by omega, ?_⟩
  rw [← Option.some.inj h]
  unfold isFundedBy
  cases alookup f it.funds <;> rfl

theorem deductFunds_get {it it2 : Item} {f : Addr} {v : Int} (h : it.deductFunds f v = some it2) (st : Store) :
    it2.get st = it.get st := by
  obtain ⟨_, _, rfl⟩ := deductFunds_eq h
  cases st <;> rfl

theorem deductFunds_total {it it2 : Item} {f : Addr} {v : Int} (h : it.deductFunds f v = some it2) :
    it2.total = it.total - v := by
  obtain ⟨_, _, rfl⟩ := deductFunds_eq h
  rfl

theorem sumFunds_filter_le (l : List (Addr × FundRec)) (q : Addr × FundRec → Bool)
    (hn : ∀ kv ∈ l, 0 ≤ kv.2.amount) : sumFunds (l.filter q) ≤ sumFunds l ∧ 0 ≤ sumFunds (l.filter q) := by
  induction l with
  | nil => simp [sumFunds]
  | cons hd t ih =>
    have h0 := hn hd List.mem_cons_self
    have ih' := ih (fun kv hkv => hn kv (List.mem_cons_of_mem _ hkv))
    rw [List.filter_cons]
    split <;> simp only [sumFunds] <;> omega

theorem sumFunds_nonneg {l : List (Addr × FundRec)} (hn : ∀ kv ∈ l, 0 ≤ kv.2.amount) : 0 ≤ sumFunds l := by
  have := (sumFunds_filter_le l (fun _ => true) hn).2
  rwa [List.filter_eq_self.mpr fun _ _ => rfl] at this

theorem deductAll_ok (l : List (Addr × FundRec)) (tot : Int) (hn : ∀ kv ∈ l, 0 ≤ kv.2.amount)
    (hs : sumFunds l ≤ tot) : deductAll l tot = (tot - sumFunds l, false) := by
  induction l generalizing tot with
  | nil => simp [deductAll, sumFunds]
  | cons hd t ih =>
    have h0 := hn hd List.mem_cons_self
    have hn' := fun kv hkv => hn kv (List.mem_cons_of_mem _ hkv)
    have hst := sumFunds_nonneg hn'
    simp only [sumFunds] at hs
    have hlt : ¬ (tot - hd.2.amount < 0) := by omega
    simp only [deductAll, hlt, if_false, sumFunds]
    rw [ih (tot - hd.2.amount) hn' (by omega), Int.sub_sub]

theorem deleteAllFunds_funds (it : Item) : it.deleteAllFunds.1.funds = it.funds.filter (fun kv => !kv.2.committed) := rfl

@[simp] theorem deleteAllFunds_get (it : Item) (st : Store) : it.deleteAllFunds.1.get st = it.get st := by
  cases st <;> rfl

@[simp] theorem deleteAllFunds_votes (it : Item) : it.deleteAllFunds.1.votes = it.votes := rfl

theorem deleteAllFunds_active (it : Item) : it.deleteAllFunds.1.active = it.active := rfl
theorem deleteAllFunds_finalized (it : Item) : it.deleteAllFunds.1.finalized = it.finalized := deleteAllFunds_get it .finalized
theorem deleteAllFunds_finFailed (it : Item) : it.deleteAllFunds.1.finFailed = it.finFailed := deleteAllFunds_get it .finFailed
theorem deleteAllFunds_passed (it : Item) : it.deleteAllFunds.1.passed = it.passed := deleteAllFunds_get it .passed
theorem deleteAllFunds_failed (it : Item) : it.deleteAllFunds.1.failed = it.failed := deleteAllFunds_get it .failed

theorem deleteAllFunds_ok {it : Item} (hs : it.total = sumFunds it.funds) (hn : ∀ kv ∈ it.funds, 0 ≤ kv.2.amount) :
    it.deleteAllFunds.2 = false ∧ it.deleteAllFunds.1.total = 0 := by
  have hle := (sumFunds_filter_le it.funds (fun kv => kv.2.committed) hn).1
  have hd := deductAll_ok (it.funds.filter (fun kv => kv.2.committed)) it.total
    (fun kv hkv => hn kv (List.mem_filter.mp hkv).1) (by omega)
  unfold Item.deleteAllFunds
  simp [hd]

end OLP.Gov
