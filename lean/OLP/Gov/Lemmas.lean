/-
  Governance (C14): from one transaction to blocks and histories.  What every successful
  transaction keeps, an internal transaction, the queues of EndBlock and a delivered transaction
  keep (`internal_inv`, `endBlock_inv`, `txStep_inv`); what every step keeps, a history keeps
  (`run_inv`).  The state invariant `WF`, the stage and the value accounting are lifted through these.
-/
import OLP.Gov.Handlers
import OLP.Base.Sort

namespace OLP.Gov
open OLP OLP.Ledger

/-! ## the state invariant -/

structure WF (s : St) : Prop where
  keys : (akeys s.items).Nodup
  items : ∀ pid, WFI (s.item pid)
  fresh : ∀ pid, FreshOK s.height (s.item pid)
  opts : OptsOK s.opts
  voting : VotingOK s.opts
  queue : ∀ pid ∈ s.qExpire, (s.item pid).exists = true ∧
            ∀ p, (s.item pid).active = some p → p.status = .voting ∧ p.votingDeadline < s.height
  appliedNodup : s.applied.Nodup
  appliedFinal : ∀ pid ∈ s.applied, (s.item pid).finalized.isSome ∨ (s.item pid).finFailed.isSome

def initSt (opts : Opts) (vals : List (Addr × ValRec)) (bal : L) : St :=
  { height := 0, items := [], bal := bal, burned := 0, opts := opts, applied := [], vals := vals,
    qExpire := [], qFinalize := [] }

theorem runTx_rank {E : Env} {s s' : St} {op : Op} (h : runTx E s op = .ok s') (pid : PID) :
    (s.item pid).rank ≤ (s'.item pid).rank := trans_rank (runTx_item h pid)

theorem wf_runTx {E : Env} {s s' : St} {op : Op} (w : WF s) (h : runTx E s op = .ok s') : WF s' := by
  obtain ⟨fr, hstep⟩ := runTx_step h
  have hitem := runTx_item h
  have hfinal : ∀ pid, ((s.item pid).finalized.isSome ∨ (s.item pid).finFailed.isSome) →
      ((s'.item pid).finalized.isSome ∨ (s'.item pid).finFailed.isSome) :=
    fun pid => Item.final_of_rank_le (runTx_rank h pid)
  have hopts := runTx_opts h
  have hby : s'.opts.byType = s.opts.byType := by
    rcases hopts with ⟨ho, _⟩ | ⟨pid, p, k, v, _, _, _, _, _, _, _, _, hu, _, _⟩
    · rw [ho]
    · exact applyUpd_byType hu
  have hitems : ∀ pid, WFI (s'.item pid) ∧ FreshOK s'.height (s'.item pid) := fun pid =>
    fr.height ▸ wfi_trans w.opts w.voting (w.items pid) (w.fresh pid) (hitem pid)
  exact
    { keys := by
        rcases hstep with he | ⟨pid0, it', _, he⟩ <;> rw [he]
        · exact w.keys
        · exact nodup_akeys_upsert _ _ _ w.keys
      items := fun pid => (hitems pid).1
      fresh := fun pid => (hitems pid).2
      opts := fun t => hby ▸ w.opts t
      voting := fun t => hby ▸ w.voting t
      queue := fun pid hp => by
        rw [fr.qExpire] at hp
        obtain ⟨hex, hact⟩ := w.queue pid hp
        rw [fr.height]
        refine ⟨trans_exists hex (hitem pid), fun p' hp' => ?_⟩
        rcases trans_active (hitem pid) with h1 | h1 | h1 | ⟨p, ha, hs, _, _, _⟩
        · exact hact p' (h1 ▸ hp')
        · rw [h1] at hp'; cases hp'
        · rw [hex] at h1; cases h1
        · have := (hact p ha).1; rw [hs] at this; cases this
      appliedNodup := by
        rcases hopts with ⟨_, ha⟩ | ⟨pid, p, k, v, _, hf1, hf2, _, _, _, _, _, _, ha, _⟩ <;> rw [ha]
        · exact w.appliedNodup
        · refine List.nodup_append.mpr ⟨w.appliedNodup, by simp, fun a ha' b hb e => ?_⟩
          cases List.mem_singleton.mp hb; cases e
          simpa [hf1, hf2] using w.appliedFinal _ ha'
      appliedFinal := by
        rcases hopts with ⟨_, ha⟩ | ⟨pid, p, k, v, _, _, _, _, _, _, _, _, _, ha, hfin⟩ <;> rw [ha] <;> intro pid' hp
        · exact hfinal pid' (w.appliedFinal pid' hp)
        · rcases List.mem_append.mp hp with hp | hp
          · exact hfinal pid' (w.appliedFinal pid' hp)
          · cases List.mem_singleton.mp hp; exact hfin }

/-! ## block boundary -/

theorem commit_empty : ({} : Item).commit = {} := rfl

theorem beginBlock_item (s : St) (h : Int) (pid : PID) : (beginBlock s h).item pid = (s.item pid).commit := by
  unfold St.item beginBlock
  simp only [alookup_map_val]
  cases alookup pid s.items <;> rfl

theorem mem_insertPid (a b : PID) (l : List PID) : a ∈ insertPid b l ↔ a = b ∨ a ∈ l :=
  (ins_perm insertPid (fun _ => rfl) (fun _ _ _ => rfl) b l).mem_iff.trans List.mem_cons

theorem mem_sortPids (l : List PID) (a : PID) : a ∈ sortPids l ↔ a ∈ l :=
  (foldr_ins_perm insertPid (fun _ => rfl) (fun _ _ _ => rfl) l).mem_iff

theorem wf_beginBlock (s : St) (h : Int) (w : WF s) : WF (beginBlock s h) := by
  have hk : (akeys (beginBlock s h).items).Nodup := by
    show (akeys (s.items.map (fun kv => (kv.1, kv.2.commit)))).Nodup
    rw [akeys_map_val]; exact w.keys
  exact
    { w with
      keys := hk
      items := fun pid => by rw [beginBlock_item]; exact wfi_commit (w.items pid)
      fresh := fun pid => by rw [beginBlock_item]; exact fresh_commit _ _
      queue := fun pid hp => by
        have hp' : pid ∈ ((s.items.map (fun kv => (kv.1, kv.2.commit))).filter (fun kv => wantsExpire h kv.2)).map (·.1) :=
          (mem_sortPids _ _).mp hp
        obtain ⟨kv, hkv, rfl⟩ := List.mem_map.mp hp'
        obtain ⟨hmem, hw⟩ := List.mem_filter.mp hkv
        have hl : (beginBlock s h).item kv.1 = kv.2 := by
          unfold St.item
          rw [alookup_of_mem hk hmem]; rfl
        rw [hl]
        unfold wantsExpire at hw
        split at hw
        · rename_i p ha
          refine ⟨Item.exists_of_get .active p ha, fun p' hp' => ?_⟩
          cases ha.symm.trans hp'
          exact of_decide_eq_true hw
        · cases hw
      appliedFinal := fun pid hp => by rw [beginBlock_item]; exact w.appliedFinal pid hp }

theorem internal_of_ok {E : Env} {s s' : St} {op : Op} (h : runTx E s op = .ok s') : internal E s op = s' := by
  unfold internal; rw [h]

theorem internal_inv {E : Env} (P : St → Prop) {s : St} {op : Op}
    (hP : ∀ {s'}, runTx E s op = .ok s' → P s') (hs : P s) : P (internal E s op) := by
  unfold internal
  split
  · exact hP ‹_›
  · exact hs

theorem txStep_inv {E : Env} (P : St → Prop) (hP : ∀ {a a' op}, P a → runTx E a op = .ok a' → P a')
    {s : St} {op : Op} (hs : P s) : P (txStep E s op).1 := by
  unfold txStep
  split
  · exact hP hs ‹_›
  · exact hs

theorem foldl_internal_inv {E : Env} (mk : PID → Op) (P : St → Prop) {l : List PID}
    (hP : ∀ s pid, pid ∈ l → P s → P (internal E s (mk pid)))
    {s : St} (hs : P s) :
    P (l.foldl (fun acc pid => internal E acc (mk pid)) s) := by
  induction l generalizing s with
  | nil => exact hs
  | cons hd t ih =>
    exact ih (fun a pid hm => hP a pid (List.mem_cons_of_mem _ hm)) (hP s hd List.mem_cons_self hs)

/-- the two queues of EndBlock, one after the other; `endBlock E s` is `afterFinalisations E s` with
    both queues emptied, by `rfl` -/
def afterExpiries (E : Env) (s : St) : St := s.qExpire.foldl (fun acc pid => internal E acc (.expire pid)) s
def afterFinalisations (E : Env) (s : St) : St :=
  s.qFinalize.foldl (fun acc pid => internal E acc (.finalize pid)) (afterExpiries E s)

theorem endBlock_inv {E : Env} (P : St → Prop) (hP : ∀ {a a' op}, P a → runTx E a op = .ok a' → P a')
    {s : St} (hs : P s) : P (afterFinalisations E s) :=
  foldl_internal_inv .finalize P (fun _ _ _ ha => internal_inv P (hP ha) ha)
    (foldl_internal_inv .expire P (fun _ _ _ ha => internal_inv P (hP ha) ha) hs)

theorem wf_step (E : Env) (s : St) (op : Op) (w : WF s) : WF (step E s op).1 := by
  cases op with
  | beginBlock h => exact wf_beginBlock s h w
  | endBlock =>
    have w2 := endBlock_inv (E := E) WF wf_runTx w
    exact { w2 with queue := fun _ hp => nomatch hp }
  | setVals | setBal => exact { w with }
  | _ => exact txStep_inv WF wf_runTx w

theorem run_inv {E : Env} (P : St → Prop) (hP : ∀ s op, P s → P (step E s op).1) {s : St} (ops : List Op)
    (hs : P s) : P (run E s ops) :=
  List.foldlRecOn ops _ hs fun s hs op _ => hP s op hs

/-! ## the stage over transactions, blocks and histories -/

theorem step_rank (E : Env) (s : St) (op : Op) (pid : PID) :
    (s.item pid).rank ≤ ((step E s op).1.item pid).rank := by
  let P : St → Prop := fun x => (s.item pid).rank ≤ (x.item pid).rank
  have tx : ∀ {a a' op}, P a → runTx E a op = .ok a' → P a' :=
    fun ha h => Nat.le_trans ha (runTx_rank h pid)
  cases op with
  | beginBlock h => exact Nat.le_of_eq (congrArg Item.rank (beginBlock_item s h pid)).symm
  | endBlock => exact endBlock_inv P tx (Nat.le_refl _)
  | setVals | setBal => exact Nat.le_refl _
  | _ => exact txStep_inv P tx (Nat.le_refl _)

theorem run_rank (E : Env) (s : St) (ops : List Op) (pid : PID) :
    (s.item pid).rank ≤ ((run E s ops).item pid).rank :=
  run_inv (fun x => (s.item pid).rank ≤ (x.item pid).rank)
    (fun a op ha => Nat.le_trans ha (step_rank E a op pid)) ops (Nat.le_refl _)

/-! ## the internal queue at EndBlock -/

theorem internal_expire (E : Env) (s : St) (pid0 : PID) :
    (internal E s (.expire pid0)).vals = s.vals ∧
    ∀ pid, (internal E s (.expire pid0)).item pid = s.item pid ∨ (pid = pid0 ∧ (s.item pid).active ≠ none) := by
  refine internal_inv (fun x => x.vals = s.vals ∧ ∀ pid, x.item pid = s.item pid ∨ (pid = pid0 ∧ (s.item pid).active ≠ none))
    (fun h1 => ?_) ⟨rfl, fun _ => Or.inl rfl⟩
  obtain ⟨p, hp, _, _, rfl⟩ := runExpire_ok h1
  refine ⟨rfl, fun pid => ?_⟩
  rw [St.item_setItem]
  by_cases hpp : pid = pid0
  · exact Or.inr ⟨hpp, by simp [hpp, hp]⟩
  · exact Or.inl (if_neg hpp)

/-- what a finalisation of `pid0` leaves alone -/
structure FinalizeFrame (pid0 : PID) (s s' : St) : Prop where
  vals : s'.vals = s.vals
  others : ∀ pid, pid ≠ pid0 → s'.item pid = s.item pid
  active : ∀ pid, (s'.item pid).active = (s.item pid).active

theorem runFinalize_frame {E : Env} {s s' : St} {pid0 : PID} (h : runFinalize E s pid0 = .ok s') :
    FinalizeFrame pid0 s s' := by
  rcases runFinalize_ok h with ⟨rfl, _⟩ | ⟨p, r, d, src, _, _, _, _, _, hsrc, fr, _, hpay⟩
  · exact ⟨rfl, fun _ _ => rfl, fun _ => rfl⟩
  · have hs : src ≠ .active := by rcases hsrc with ⟨_, rfl, _⟩ | ⟨_, rfl, _⟩ <;> simp
    obtain ⟨it', hi, ha⟩ : ∃ it', s'.items = upsert s.items pid0 it' ∧ it'.active = (s.item pid0).active := by
      rcases hpay with ⟨_, _, _, hi⟩ | ⟨_, _, _, hi⟩
      · exact ⟨_, hi, by simp⟩
      · exact ⟨_, hi, by split <;> simp [hs, deleteAllFunds_active]⟩
    refine ⟨fr.vals, fun pid hp => by rw [item_of_upsert hi, if_neg hp], fun pid => ?_⟩
    rw [item_of_upsert hi]
    by_cases hp : pid = pid0
    · rw [if_pos hp, hp]; exact ha
    · rw [if_neg hp]

theorem internal_finalize (E : Env) (s : St) (pid0 : PID) : FinalizeFrame pid0 s (internal E s (.finalize pid0)) :=
  internal_inv (FinalizeFrame pid0 s) runFinalize_frame ⟨rfl, fun _ _ => rfl, fun _ => rfl⟩

theorem endBlock_active (E : Env) (s : St) (pid : PID) :
    ((endBlock E s).item pid).active = (s.item pid).active ∨ pid ∈ s.qExpire := by
  refine foldl_internal_inv .finalize (fun x => (x.item pid).active = (s.item pid).active ∨ pid ∈ s.qExpire)
    (fun a pid0 _ ha => ha.imp_left ((internal_finalize E a pid0).active pid).trans) ?_
  refine foldl_internal_inv .expire (fun x => (x.item pid).active = (s.item pid).active ∨ pid ∈ s.qExpire)
    (fun a pid0 hm ha => ?_) (Or.inl rfl)
  rcases (internal_expire E a pid0).2 pid with e | ⟨e, _⟩
  · rw [e]; exact ha
  · exact Or.inr (e ▸ hm)

/-! ## value accounting -/

theorem total_creditAll (b : L) (vs : List (Addr × ValRec)) (amt : Int) :
    total (creditAll b vs amt) = total b + amt * (vs.length : Int) := by
  unfold creditAll
  induction vs generalizing b with
  | nil => simp
  | cons hd t ih =>
    simp only [List.foldl_cons, List.length_cons]
    rw [ih, total_addTo]
    push_cast
    rw [Int.mul_add]; omega

theorem payouts_total (b : L) (vs : List (Addr × ValRec)) (pr bo ex : Addr) (T : Int) (d : Dist) :
    total (payouts b vs pr bo ex T d).1 + (payouts b vs pr bo ex T d).2 = total b + T := by
  unfold payouts
  simp only [total_addTo, total_creditAll]
  omega

def sumTotals : List (PID × Item) → Int
  | [] => 0
  | (_, it) :: t => it.total + sumTotals t

/-- balances (fee pool included) plus escrow -/
def value (s : St) : Int := total s.bal + sumTotals s.items

theorem sumTotals_eq_asum (l : List (PID × Item)) : sumTotals l = asum (fun _ it => it.total) l := by
  induction l with
  | nil => rfl
  | cons hd t ih => exact congrArg (hd.2.total + ·) ih

theorem sumTotals_of_upsert {s s' : St} {pid : PID} {it : Item} (h : s'.items = upsert s.items pid it) :
    sumTotals s'.items = sumTotals s.items - (s.item pid).total + it.total := by
  rw [h, sumTotals_eq_asum, sumTotals_eq_asum, asum_upsert]
  unfold St.item
  cases alookup pid s.items <;> rfl

theorem sumTotals_commit (l : List (PID × Item)) :
    sumTotals (l.map (fun kv => (kv.1, kv.2.commit))) = sumTotals l := by
  induction l with
  | nil => rfl
  | cons hd t ih => exact congrArg (hd.2.total + ·) ih

/-- the invariant is what makes the `DeleteAllFunds` error unreachable -/
theorem runTx_value {E : Env} {s s' : St} {op : Op} (w : WF s) (h : runTx E s op = .ok s') :
    value s' + s'.burned = value s + s.burned := by
  unfold value
  rcases runTx_cases h with ⟨pid, rfl, hf⟩ | rfl | ⟨pid, it', b, _, rfl, hb⟩
  · rcases runFinalize_ok hf with ⟨rfl, _⟩ | ⟨p, r, d, src, _, _, hd, _, hr, _, _, _, hpay⟩
    · rfl
    · rcases hpay with ⟨_, hbal, hburn, hitems⟩ | ⟨_, hbal, hburn, hitems⟩ <;>
        rw [hbal, hburn, sumTotals_of_upsert hitems]
      · simp only [Item.del_total, Item.set_total]; omega
      · obtain ⟨hbad, htot, _⟩ := final_clears (w.items pid) hd hr
        have := payouts_total s.bal (cvals s.vals) p.proposer s.opts.bountyAddr (s.opts.byType p.ptype).execAddr
          (s.item pid).total d
        simp only [hbad, Bool.false_eq_true, if_false, Item.del_total, Item.set_total, htot]
        omega
  · rfl
  · rw [sumTotals_of_upsert (s := s) rfl]
    show total b + _ + s.burned = _
    omega

/-! ## bounds of a distribution -/

/-- percentages are not negative and do not exceed 100 % in total (in units of 1/10000 %) -/
structure Dist.OK (d : Dist) : Prop where
  v : 0 ≤ d.validators
  p : 0 ≤ d.proposer
  b : 0 ≤ d.bounty
  e : 0 ≤ d.exec
  u : 0 ≤ d.burn
  sum : d.validators + d.proposer + d.bounty + d.exec + d.burn ≤ 1000000

theorem bal_creditAll_mono (b : L) (vs : List (Addr × ValRec)) (amt : Int) (h : 0 ≤ amt) (x : Acc) :
    bal b x ≤ bal (creditAll b vs amt) x := by
  unfold creditAll
  induction vs generalizing b with
  | nil => exact Int.le_refl _
  | cons hd t ih => exact Int.le_trans (bal_addTo_mono b hd.1 x amt h) (ih _)

theorem pct_nonneg (T p : Int) (hT : 0 ≤ T) (hp : 0 ≤ p) : 0 ≤ pct T p :=
  Int.ediv_nonneg (Int.mul_nonneg hT hp) (by decide)

theorem payouts_bounds (b : L) (vs : List (Addr × ValRec)) (pr bo ex : Addr) (T : Int) (d : Dist)
    (hd : d.OK) (hT : 0 ≤ T) (hvs : vs ≠ []) :
    (∀ x, bal b x ≤ bal (payouts b vs pr bo ex T d).1 x) ∧
    0 ≤ (payouts b vs pr bo ex T d).2 ∧
    total (payouts b vs pr bo ex T d).1 - total b ≤ T := by
  have hlen : (0 : Int) < (vs.length : Int) := by
    cases vs with
    | nil => exact absurd rfl hvs
    | cons hd t => simp only [List.length_cons]; omega
  have pv := pct_nonneg T _ hT hd.v
  have pp := pct_nonneg T _ hT hd.p
  have pb := pct_nonneg T _ hT hd.b
  have pe := pct_nonneg T _ hT hd.e
  have pu := pct_nonneg T _ hT hd.u
  -- the five floors together stay below the escrow
  have hsum : pct T d.validators + pct T d.proposer + pct T d.bounty + pct T d.exec + pct T d.burn ≤ T := by
    have := Int.mul_le_mul_of_nonneg_left hd.sum hT
    simp only [Int.mul_add] at this
    unfold pct; omega
  have hper0 : 0 ≤ pct T d.validators / (vs.length : Int) := Int.ediv_nonneg pv (by omega)
  have hper1 : pct T d.validators / (vs.length : Int) * (vs.length : Int) ≤ pct T d.validators :=
    Int.ediv_mul_le _ (by omega)
  have htot := payouts_total b vs pr bo ex T d
  have hburn : 0 ≤ (payouts b vs pr bo ex T d).2 := by
    unfold payouts; simp only; omega
  refine ⟨fun x => ?_, hburn, by omega⟩
  unfold payouts; simp only
  exact Int.le_trans (bal_creditAll_mono b vs _ hper0 x) (Int.le_trans (bal_addTo_mono _ pr x _ pp)
    (Int.le_trans (bal_addTo_mono _ bo x _ pb) (Int.le_trans (bal_addTo_mono _ ex x _ pe)
      (bal_addTo_mono _ poolAcc x _ (by omega)))))

/-! ## expired and settled proposals -/

/-- the only copy is in FAILED, completed, outcome "insufficient votes", not yet finalised, and the tally of
    its vote records — if it has any — does not pass it -/
structure Expired (it : Item) (p : Proposal) : Prop where
  noPassed : it.passed = none
  failed : it.failed = some p
  notFinal : it.finalized = none ∧ it.finFailed = none
  completed : p.status = .completed
  outcome : p.outcome = .insufficientVotes
  notPassed : resultSoFar it.votes p.passPercent ≠ some .passed

/-- the records once the escrow has been distributed -/
def Settled (it : Item) (p : Proposal) : Prop :=
  it.finalized = some p ∧ it.failed = none ∧ it.total = 0 ∧ it.funds = []

theorem finalResult_expired {it : Item} {p : Proposal} (e : Expired it p) :
    finalResult (resultSoFar it.votes p.passPercent) p = .ok .failed := by
  cases hr : resultSoFar it.votes p.passPercent with
  | none => simp [finalResult, e.outcome]
  | some r =>
    cases r with
    | passed => exact absurd hr e.notPassed
    | failed => rfl
    | tbd => simp [finalResult, e.outcome]

end OLP.Gov
