/-
  The tracker record on its own: vote slots, counts, the two thresholds, and what `AddVote` can do.
-/
import OLP.Eth.Model
import OLP.Base.Guard

namespace OLP.Eth
open OLP

theorem firstIdx_some_getElem {ws : List Addr} {a : Addr} {i : Nat} (h : firstIdx ws a = some i) :
    ws[i]? = some a := by
  induction ws generalizing i with
  | nil => cases h
  | cons w ws ih =>
    rcases ite_eq_iff.mp h with ⟨hw, e⟩ | ⟨_, e⟩
    · cases e; exact congrArg some hw
    · obtain ⟨j, hf, rfl⟩ := Option.map_eq_some_iff.mp e
      exact ih hf

theorem firstIdx_none_iff {ws : List Addr} {a : Addr} : firstIdx ws a = none ↔ a ∉ ws := by
  induction ws with
  | nil => simp [firstIdx]
  | cons w ws ih =>
    unfold firstIdx
    by_cases hw : w = a
    · simp [hw]
    · simp [hw, ih, Ne.symm hw]

theorem firstIdx_of_nodup {ws : List Addr} {a : Addr} {j : Nat} (hn : ws.Nodup) (h : ws[j]? = some a) :
    firstIdx ws a = some j := by
  induction ws generalizing j with
  | nil => cases h
  | cons w ws ih =>
    have hn' := List.nodup_cons.mp hn
    cases j with
    | zero => cases h; exact if_pos rfl
    | succ j =>
      have hw : w ≠ a := fun e => hn'.1 (e ▸ List.mem_of_getElem? h)
      rw [firstIdx, if_neg hw, ih hn'.2 h]; rfl

theorem countVotes_le_length (v : Nat) (l : List Nat) : countVotes v l ≤ l.length := by
  induction l with
  | nil => exact Nat.le_refl 0
  | cons x xs ih => simp only [countVotes, List.length_cons]; split <;> omega

/-- a slot counts for at most one of the two verdicts -/
theorem countVotes_add_le_length (l : List Nat) : countVotes 1 l + countVotes 2 l ≤ l.length := by
  induction l with
  | nil => exact Nat.le_refl 0
  | cons x xs ih =>
    simp only [countVotes, List.length_cons]
    split <;> split <;> omega

theorem countVotes_set_zero {v : Nat} (hv : v ≠ 0) {l : List Nat} {i : Nat} (x : Nat) (h : l[i]? = some 0) :
    countVotes v (l.set i x) = countVotes v l + (if x = v then 1 else 0) := by
  induction l generalizing i with
  | nil => cases h
  | cons y ys ih =>
    cases i with
    | zero => cases h; rw [List.set_cons_zero, countVotes, countVotes, if_neg hv.symm, Nat.zero_add, Nat.add_comm]
    | succ i => rw [List.set_cons_succ, countVotes, countVotes, ih h, Nat.add_assoc]

theorem countVotes_replicate_zero (v : Nat) (hv : v ≠ 0) (k : Nat) : countVotes v (List.replicate k 0) = 0 := by
  induction k with
  | zero => rfl
  | succ k ih => simp only [List.replicate_succ, countVotes, ih, if_neg (Ne.symm hv)]

theorem threshold_more_than_two_thirds (t : Tracker) :
    2 * t.witnesses.length < 3 * t.threshold ∧ 3 * (t.threshold - 1) ≤ 2 * t.witnesses.length := by
  unfold Tracker.threshold
  rw [Nat.mul_comm 2, Nat.add_sub_cancel]
  exact ⟨Nat.lt_mul_div_succ _ (by decide), Nat.mul_div_le _ _⟩

/-- the two decisions exclude each other (two thresholds do not fit into the witness list) -/
theorem not_finalized_and_failed (t : Tracker) (hl : t.votes.length = t.witnesses.length) :
    ¬ (t.finalized = true ∧ t.failedV = true) := by
  intro ⟨h1, h2⟩
  have h1 : t.threshold ≤ countVotes 1 t.votes := of_decide_eq_true h1
  have h2 : t.threshold ≤ countVotes 2 t.votes := of_decide_eq_true h2
  have := countVotes_add_le_length t.votes
  have := (threshold_more_than_two_thirds t).1
  omega

theorem newTracker_not_decided (typ : PType) (o : Addr) (n : Name) (a : Nat) (tt : Bool) (ws : List Addr) :
    (newTracker typ o n a tt ws).finalized = false ∧ (newTracker typ o n a tt ws).failedV = false := by
  simp [Tracker.finalized, Tracker.failedV, Tracker.yes, Tracker.no, newTracker, Tracker.threshold,
    countVotes_replicate_zero]

structure Tracker.WF (t : Tracker) : Prop where
  len : t.votes.length = t.witnesses.length
  nodup : t.witnesses.Nodup

section addVote
variable {t t' : Tracker} {a : Addr} {idx : Int} {v : Bool}

theorem addVoteSet_ok (h : addVoteSet t a idx v = .ok t') :
    t' = t ∨ ∃ i : Nat, idx = (i : Int) ∧ t.witnesses[i]? = some a ∧ i < t.votes.length ∧
      t' = { t with votes := t.votes.set i (if v then 1 else 2) } := by
  unfold addVoteSet at h
  obtain ⟨hneg, h⟩ := of_guard h
  cases hw : t.witnesses[idx.toNat]? with
  | none => rw [hw] at h; cases h
  | some w =>
    rw [hw] at h
    rcases ite_eq_iff.mp h with ⟨hwa, h⟩ | ⟨_, h⟩
    · rcases ite_eq_iff.mp h with ⟨hlt, h⟩ | ⟨_, h⟩ <;> cases h
      exact .inr ⟨idx.toNat, by omega, hwa ▸ hw, hlt, rfl⟩
    · cases h; exact .inl rfl

theorem addVote_ok_cases (wf : t.WF) (h : addVote t a idx v = .ok t') :
    t' = t ∨ (∃ i : Nat, idx = (i : Int) ∧ t.witnesses[i]? = some a ∧ t.votes[i]? = some 0 ∧
      t' = { t with votes := t.votes.set i (if v then 1 else 2) }) := by
  unfold addVote at h
  obtain ⟨_, h⟩ := of_guard h
  cases hf : firstIdx t.witnesses a with
  | none =>
    -- the sender is not a witness: nothing can change
    rw [hf] at h
    rcases addVoteSet_ok h with h1 | ⟨i, _, hw, _, _⟩
    · exact .inl h1
    · exact absurd (List.mem_of_getElem? hw) (firstIdx_none_iff.mp hf)
  | some i =>
    rw [hf] at h; dsimp only at h
    cases hv0 : t.votes[i]? with
    | none => rw [hv0] at h; cases h
    | some v0 =>
      rw [hv0] at h
      obtain ⟨hpos, h⟩ := of_guard h
      rcases addVoteSet_ok h with h1 | ⟨j, hj, hw, _, ht'⟩
      · exact .inl h1
      · -- the slot `addVoteSet` writes is the sender's first, which `addVote` found empty
        have hij := firstIdx_of_nodup wf.nodup hw
        rw [hf] at hij; cases hij
        have : v0 = 0 := by omega
        exact .inr ⟨i, hj, hw, this ▸ hv0, ht'⟩

theorem addVoteSet_no_panic (wf : t.WF) (h0 : 0 ≤ idx) (hlt : idx < (t.witnesses.length : Int)) :
    addVoteSet t a idx v ≠ .panic := by
  have hin : idx.toNat < t.witnesses.length := by omega
  unfold addVoteSet
  rw [if_neg (by omega), List.getElem?_eq_getElem hin]
  simp only
  by_cases hwa : t.witnesses[idx.toNat] = a
  · rw [if_pos hwa, if_pos (wf.len ▸ hin)]; nofun
  · rw [if_neg hwa]; nofun

theorem addVote_no_panic (wf : t.WF) (hidx : 0 ≤ idx) : addVote t a idx v ≠ .panic := by
  unfold addVote
  by_cases hr : (t.witnesses.length : Int) ≤ idx
  · rw [if_pos hr]; nofun
  · rw [if_neg hr]
    have hset := addVoteSet_no_panic (a := a) (v := v) wf hidx (by omega)
    cases hf : firstIdx t.witnesses a with
    | none => exact hset
    | some i =>
      have hi := (List.getElem?_eq_some_iff.mp (firstIdx_some_getElem hf)).1
      dsimp only
      rw [List.getElem?_eq_getElem (wf.len ▸ hi)]
      dsimp only
      split
      · nofun
      · exact hset

/-- `addVote_ok_cases` with the new record written once, as `{ t with votes := vs }` -/
theorem addVote_ok_votes (wf : t.WF) (h : addVote t a idx v = .ok t') :
    ∃ vs, t' = { t with votes := vs } ∧ vs.length = t.votes.length ∧
      (vs = t.votes ∨ ∃ i : Nat, idx = (i : Int) ∧ t.witnesses[i]? = some a ∧ t.votes[i]? = some 0 ∧
        vs = t.votes.set i (if v then 1 else 2)) := by
  rcases addVote_ok_cases wf h with rfl | ⟨i, hi, hw, h0, rfl⟩
  · exact ⟨_, rfl, rfl, .inl rfl⟩
  · exact ⟨_, rfl, List.length_set, .inr ⟨i, hi, hw, h0, rfl⟩⟩

theorem addVote_ok_counts (wf : t.WF) (h : addVote t a idx v = .ok t') :
    (t.yes ≤ t'.yes ∧ (t.yes < t'.yes → v = true)) ∧ (t.no ≤ t'.no ∧ (t.no < t'.no → v = false)) ∧
    t'.yes ≤ t.yes + 1 ∧ t'.no ≤ t.no + 1 := by
  rcases addVote_ok_cases wf h with rfl | ⟨i, _, _, hv, rfl⟩
  · simp
  · simp only [Tracker.yes, Tracker.no]
    rw [countVotes_set_zero (v := 1) (by decide) _ hv, countVotes_set_zero (v := 2) (by decide) _ hv]
    cases v <;> simp

end addVote

end OLP.Eth
