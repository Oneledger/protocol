/-
  What one step does to the state.  Every handler, and every iteration of the block-end loop, is
  described once by the relation `Eff`: nothing, a new record, a replaced record (with or without a
  payment), a transfer, or a record archived.  The invariants of OLP/Eth/Lemmas.lean are proved
  against `Eff`, never against a handler body.
-/
import OLP.Eth.Tracker

namespace OLP.Eth
open OLP

theorem has_eq_false_iff (s : Store) (n : Name) : has s n = false ↔ alookup n s = none := by
  unfold has; cases alookup n s <;> simp

theorem has_eq_true_iff (s : Store) (n : Name) : has s n = true ↔ ∃ t, alookup n s = some t := by
  unfold has; cases alookup n s <;> simp

theorem has_of_alookup {s : Store} {n : Name} {t : Tracker} (h : alookup n s = some t) : has s n = true :=
  (has_eq_true_iff s n).mpr ⟨t, h⟩

theorem has_upsert (s : Store) (n m : Name) (t : Tracker) :
    has (upsert s n t) m = (decide (m = n) || has s m) := by
  unfold has; rw [alookup_upsert]; by_cases h : m = n <;> simp [h]

theorem has_aerase (s : Store) (n m : Name) :
    has (aerase s n) m = (!decide (m = n) && has s m) := by
  unfold has; rw [alookup_aerase]; by_cases h : m = n <;> simp [h]

theorem has_upsert_of_has {s : Store} {n : Name} (h : has s n = true) (m : Name) (t : Tracker) :
    has (upsert s n t) m = has s m := by
  rw [has_upsert]; by_cases e : m = n
  · subst e; simp [h]
  · simp [e]

theorem aerase_of_not_has {s : Store} {n : Name} (h : has s n = false) : aerase s n = s :=
  aerase_of_not_mem s n fun hm => nomatch h.symm.trans ((mem_akeys_iff_alookup s n).mp hm)

/-- what a transaction is, as far as the theorems need to know -/
inductive OpInfo
  | sub (typ : PType) (owner : Addr) (n : Name) (amt : Nat)     -- a lock / redeem submission
  | rep (n : Name) (locker voter : Addr) (idx : Int) (ok : Bool) -- a finality report
  | xf (frm to : Addr)                                            -- a transfer of a wrapped currency
  | other
  deriving DecidableEq, Repr

def subTyp (isRedeem erc : Bool) : PType :=
  match isRedeem, erc with
  | false, false => .lock | false, true => .lockERC | true, false => .redeem | true, true => .redeemERC

def Op.info : Op → OpInfo
  | .lock erc _ l n a => .sub (subTyp false erc) l n a
  | .redeem erc _ _ o n a => .sub (subTyp true erc) o n a
  | .report n l v i ok => .rep n l v i ok
  | .send f t _ _ => .xf f t
  | _ => .other

def PType.isErc : PType → Bool
  | .lockERC | .redeemERC => true
  | _ => false

theorem Op.info_eq_rep {op : Op} {n : Name} {l v : Addr} {i : Int} {ok : Bool} (h : op.info = .rep n l v i ok) :
    op = .report n l v i ok := by
  cases op <;> cases h; rfl

structure Cfg.WF (c : Cfg) : Prop where
  nodup : c.witnesses.Nodup      -- witness records are keyed by address

/-- what holds of the record stored under name `n` in the ongoing store -/
structure TOK (c : Cfg) (n : Name) (t : Tracker) : Prop where
  name : t.name = n
  wits : t.witnesses = c.witnesses
  len : t.votes.length = t.witnesses.length
  fin : t.finalized = true → t.state = .released  -- the finalizing report releases in the same step
  nfin : t.state ≠ .finalized                     -- Finalized has no registered next step
  nbs : t.state ≠ .broadcastSuccess               -- nothing writes BroadcastSuccess

def St.WF (c : Cfg) (s : St) : Prop := ∀ n t, alookup n s.ongoing = some t → TOK c n t

theorem TOK.twf {c : Cfg} {n : Name} {t : Tracker} (hc : c.WF) (h : TOK c n t) : t.WF :=
  ⟨h.len, h.wits ▸ hc.nodup⟩

theorem newTracker_TOK (c : Cfg) (typ : PType) (o : Addr) (n : Name) (a : Nat) (tt : Bool) :
    TOK c n (newTracker typ o n a tt c.witnesses) :=
  ⟨rfl, rfl, List.length_replicate, (fun h => nomatch (newTracker_not_decided ..).1.symm.trans h),
   TState.noConfusion, TState.noConfusion⟩

theorem wf_empty (c : Cfg) : St.WF c St.empty := fun _ _ h => nomatch h

@[simp] theorem setOngoing_ongoing (s : St) (t : Tracker) : (setOngoing s t).ongoing = upsert s.ongoing t.name t := rfl
@[simp] theorem setOngoing_passed (s : St) (t : Tracker) : (setOngoing s t).passed = s.passed := rfl
@[simp] theorem setOngoing_failed (s : St) (t : Tracker) : (setOngoing s t).failed = s.failed := rfl
@[simp] theorem setOngoing_bal (s : St) (t : Tracker) : (setOngoing s t).bal = s.bal := rfl
@[simp] theorem mint_ongoing (c : Cfg) (s : St) (t : Tracker) :
    (mint c s t).ongoing = upsert s.ongoing t.name { t with state := .released } := rfl
@[simp] theorem mint_passed (c : Cfg) (s : St) (t : Tracker) : (mint c s t).passed = s.passed := rfl
@[simp] theorem mint_failed (c : Cfg) (s : St) (t : Tracker) : (mint c s t).failed = s.failed := rfl
@[simp] theorem mint_bal (c : Cfg) (s : St) (t : Tracker) :
    (mint c s t).bal = balAdd (balAdd s.bal t.owner t.typ.cur t.amount) c.supply t.typ.cur t.amount := rfl
@[simp] theorem refund_ongoing (c : Cfg) (s : St) (t : Tracker) :
    (refund c s t).ongoing = upsert s.ongoing t.name { t with state := .failed } := rfl
@[simp] theorem refund_passed (c : Cfg) (s : St) (t : Tracker) : (refund c s t).passed = s.passed := rfl
@[simp] theorem refund_failed (c : Cfg) (s : St) (t : Tracker) : (refund c s t).failed = s.failed := rfl
@[simp] theorem refund_bal (c : Cfg) (s : St) (t : Tracker) :
    (refund c s t).bal = balAdd (balAdd s.bal t.owner 0 t.amount) c.supply 0 t.amount := rfl

/-- What replacing the record `t` by `X` under the name `n` may pay out: nothing; a mint, when the
    replacement makes a lock tracker finalized; a refund, when it makes an ETH redeem tracker failed. -/
inductive Pay (c : Cfg) (n : Name) (t X : Tracker) (b : Bal) : Bal → List Event → Prop
  | none : Pay c n t X b b []
  | mint (hf : t.finalized = false) (hX : X.finalized = true) (hl : t.typ.isLock = true) :
      Pay c n t X b (balAdd (balAdd b t.owner t.typ.cur t.amount) c.supply t.typ.cur t.amount)
        [.mint n t.owner t.typ.cur t.amount]
  | refund (hf : t.failedV = false) (hX : X.failedV = true) (ht : t.typ = .redeem) :
      Pay c n t X b (balAdd (balAdd b t.owner 0 t.amount) c.supply 0 t.amount) [.refund n t.owner 0 t.amount]

/-- The record `t` under `n` may be replaced by `X`: only votes and state change, the votes by at most
    the slot that the report of `info` fills, and no decision is taken back. -/
structure Upd (c : Cfg) (s : St) (info : OpInfo) (n : Name) (t X : Tracker) : Prop where
  hget : alookup n s.ongoing = some t
  hX : X = { t with votes := X.votes, state := X.state }
  hvs : X.votes = t.votes ∨ ∃ l w, ∃ i : Nat, ∃ ok, info = .rep n l w i ok ∧ t.witnesses[i]? = some w ∧
    t.votes[i]? = some 0 ∧ X.votes = t.votes.set i (if ok then 1 else 2)
  tok : TOK c n X
  hfin : t.finalized = true → X.finalized = true
  hfail : t.failedV = true → X.failedV = true

/-- Everything a transaction handler or one iteration of the block-end loop can do to a well-formed
    state, with the facts the code checked.  `noop` covers every rejected transaction (the session is
    discarded) and every early return. -/
inductive Eff (c : Cfg) (s : St) (info : OpInfo) : St → List Event → Prop
  | noop : Eff c s info s []
  | create (typ : PType) (owner : Addr) (n : Name) (amt : Nat) (tt : Bool) (b' : Bal) (ev : List Event)
      (hi : info = .sub typ owner n amt)
      (hOn : has s.ongoing n = false)
      (hPa : has s.passed n = false)
      (hFa : typ.isLock = false → has s.failed n = false)
      (hbal : (typ.isLock = true ∧ b' = s.bal ∧ ev = []) ∨
              (typ.isLock = false ∧ ev = [.debit n owner typ.cur amt] ∧
                ∃ b1, balSub s.bal owner typ.cur amt = some b1 ∧ balSub b1 c.supply typ.cur amt = some b')) :
      -- a lock erases `n` from `failed` if it is there, a redeem finds it absent (`hFa`): `aerase_of_not_has`
      Eff c s info { s with bal := b', failed := aerase s.failed n,
                            ongoing := upsert s.ongoing n (newTracker typ owner n amt tt c.witnesses) } ev
  | upd (n : Name) (t X : Tracker) (b' : Bal) (ev : List Event) (u : Upd c s info n t X)
      (pay : Pay c n t X s.bal b' ev) :
      Eff c s info { s with ongoing := upsert s.ongoing n X, bal := b' } ev
  | xfer (frm to : Addr) (cur amt : Nat) (b1 : Bal) (hi : info = .xf frm to)
      (h : balSub s.bal frm cur amt = some b1) :
      Eff c s info { s with bal := balAdd b1 to cur amt } [.xfer frm to cur amt]
  | toPassed (n : Name) (t : Tracker) (hget : alookup n s.ongoing = some t) :
      Eff c s info { s with passed := upsert s.passed n t.clean, ongoing := aerase s.ongoing n } []
  | toFailed (n : Name) (t : Tracker) (hget : alookup n s.ongoing = some t) (hnf : t.finalized = false) :
      Eff c s info { s with failed := upsert s.failed n t.clean, ongoing := aerase s.ongoing n } []

theorem wf_eff {c : Cfg} {s s' : St} {info : OpInfo} {ev : List Event} (wf : St.WF c s)
    (h : Eff c s info s' ev) : St.WF c s' := by
  cases h with
  | noop | xfer => exact wf
  | create => exact forall_alookup_upsert wf (newTracker_TOK ..)
  | upd _ _ _ _ _ u => exact forall_alookup_upsert wf u.tok
  | toPassed n | toFailed n => exact forall_alookup_aerase n wf

/-- how the three stores change under a transaction: only under one name, in one of a few ways -/
inductive StoreEff (c : Cfg) (s s' : St) : Prop
  | same (h1 : s'.ongoing = s.ongoing) (h2 : s'.passed = s.passed) (h3 : s'.failed = s.failed)
  /-- a record is put under `n` in the ongoing store (new, or replacing the previous one) -/
  | put (n : Name) (t : Tracker) (erase : Bool)
      (h1 : s'.ongoing = upsert s.ongoing n t) (h2 : s'.passed = s.passed)
      (h3 : s'.failed = if erase then aerase s.failed n else s.failed)

theorem failOut_fields {s : St} {out : Out} (h : ∃ r, out = failOut s r) :
    out.st = s ∧ out.ev = [] ∧ ∃ r, out.res = .fail r :=
  let ⟨r, e⟩ := h; e ▸ ⟨rfl, rfl, r, rfl⟩

theorem lock_cases (c : Cfg) (s : St) (erc : Bool) (pre : Nat) (l : Addr) (n : Name) (a : Nat) :
    (∃ r, step c s (.lock erc pre l n a) = failOut s r) ∨
    (has s.ongoing n = false ∧ has s.passed n = false ∧ ∃ tag, step c s (.lock erc pre l n a) =
      ⟨{ s with failed := aerase s.failed n,
                ongoing := upsert s.ongoing n (newTracker (subTyp false erc) l n a erc c.witnesses) },
       .ok tag, []⟩) := by
  have hf : (if has s.failed n then aerase s.failed n else s.failed) = aerase s.failed n := by
    cases hh : has s.failed n
    · exact (aerase_of_not_has hh).symm
    · rfl
  generalize hout : step c s (.lock erc pre l n a) = out
  cases erc
  case' false => simp only [step] at hout; unfold lockEth at hout
  case' true => simp only [step] at hout; unfold lockErc at hout
  all_goals
    rcases ite_eq_iff.mp hout with ⟨_, rfl⟩ | ⟨_, hout⟩; · exact .inl ⟨_, rfl⟩
    rcases ite_eq_iff.mp hout with ⟨_, rfl⟩ | ⟨_, hout⟩; · exact .inl ⟨_, rfl⟩
    rcases ite_eq_iff.mp hout with ⟨_, rfl⟩ | ⟨_, hout⟩; · exact .inl ⟨_, rfl⟩
    rcases ite_eq_iff.mp hout with ⟨_, rfl⟩ | ⟨_, hout⟩; · exact .inl ⟨_, rfl⟩
    rcases ite_eq_iff.mp hout with ⟨_, rfl⟩ | ⟨hex, hout⟩; · exact .inl ⟨_, rfl⟩
    rw [Bool.or_eq_true, not_or, Bool.not_eq_true, Bool.not_eq_true] at hex
    rw [hf] at hout
    exact .inr ⟨hex.1, hex.2, _, hout.symm⟩

theorem redeem_cases (c : Cfg) (s : St) (erc : Bool) (pre : Nat) (tt : Bool) (o : Addr) (n : Name) (a : Nat) :
    (∃ r, step c s (.redeem erc pre tt o n a) = failOut s r) ∨
    (∃ b1 b2 tag, balSub s.bal o (subTyp true erc).cur a = some b1 ∧
      balSub b1 c.supply (subTyp true erc).cur a = some b2 ∧
      has s.ongoing n = false ∧ has s.failed n = false ∧ has s.passed n = false ∧
      step c s (.redeem erc pre tt o n a) =
        ⟨{ s with bal := b2,
                  ongoing := upsert s.ongoing n (newTracker (subTyp true erc) o n a (erc && tt) c.witnesses) },
         .ok tag, [.debit n o (subTyp true erc).cur a]⟩) := by
  generalize hout : step c s (.redeem erc pre tt o n a) = out
  cases erc
  case' false => simp only [step] at hout; unfold redeemEth at hout
  case' true => simp only [step] at hout; unfold redeemErc at hout
  all_goals
    rcases ite_eq_iff.mp hout with ⟨_, rfl⟩ | ⟨_, hout⟩; · exact .inl ⟨_, rfl⟩
    split at hout; · exact .inl ⟨_, hout.symm⟩
    next b1 hb1 =>
    split at hout; · exact .inl ⟨_, hout.symm⟩
    next b2 hb2 =>
    rcases ite_eq_iff.mp hout with ⟨_, rfl⟩ | ⟨hex, hout⟩; · exact .inl ⟨_, rfl⟩
    simp only [Bool.or_eq_true, not_or, Bool.not_eq_true] at hex
    exact .inr ⟨b1, b2, _, hb1, hb2, hex.1.1, hex.1.2, hex.2, hout.symm⟩

structure VoteStep (c : Cfg) (s : St) (n : Name) (t t' : Tracker) (voter : Addr) (idx : Int) (okv : Bool) : Prop where
  hget : alookup n s.ongoing = some t
  hnf : t.finalized = false
  hnx : t.failedV = false
  hv : addVote t voter idx okv = .ok t'

theorem VoteStep.name' {c : Cfg} {s : St} {n : Name} {t t' : Tracker} {voter : Addr} {idx : Int} {okv : Bool}
    (hc : c.WF) (wf : St.WF c s) (h : VoteStep c s n t t' voter idx okv) : t'.name = n := by
  have tok := wf n t h.hget
  obtain ⟨vs, rfl, _⟩ := addVote_ok_votes (tok.twf hc) h.hv
  exact tok.name

section
variable {c : Cfg} {s s' : St} {n : Name}

theorem report_eff (hc : c.WF) (wf : St.WF c s) (n : Name) (l v : Addr) (i : Int) (ok : Bool) :
    Eff c s (.rep n l v i ok) (report c s n l v i ok).st (report c s n l v i ok).ev := by
  generalize hout : report c s n l v i ok = out
  unfold report at hout
  cases hget : alookup n s.ongoing with
  | none => rw [hget] at hout; subst hout; exact .noop
  | some t =>
    rw [hget] at hout; dsimp only at hout
    have tok := wf n t hget
    rcases ite_eq_iff.mp hout with ⟨_, rfl⟩ | ⟨hnf, hout⟩; · exact .noop
    rcases ite_eq_iff.mp hout with ⟨_, rfl⟩ | ⟨hnx, hout⟩; · exact .noop
    rw [Bool.not_eq_true] at hnf hnx
    cases hv : addVote t v i ok with
    | err => rw [hv] at hout; subst hout; exact .noop
    | panic => rw [hv] at hout; subst hout; exact .noop
    | ok t' =>
      rw [hv] at hout; dsimp only at hout
      obtain ⟨vs, rfl, hlen, hvs⟩ := addVote_ok_votes (tok.twf hc) hv
      -- the voted record, put into state `st`, replaces the undecided record `t`
      have upd : ∀ (st : TState), (Tracker.finalized { t with votes := vs } = true → st = .released) →
          st ≠ .finalized → st ≠ .broadcastSuccess → ∀ {b' ev},
          Pay c n t { t with votes := vs, state := st } s.bal b' ev → Eff c s (.rep n l v i ok)
            { s with ongoing := upsert s.ongoing n { t with votes := vs, state := st }, bal := b' } ev :=
        fun st hst h1 h2 b' ev pay => .upd n t _ b' ev
          ⟨hget, rfl, hvs.imp id fun ⟨j, hj, hw, h0, e⟩ => ⟨l, v, j, ok, by rw [hj], hw, h0, e⟩,
           ⟨tok.name, tok.wits, hlen.trans tok.len, hst, h1, h2⟩,
           (fun h => nomatch hnf.symm.trans h), (fun h => nomatch hnx.symm.trans h)⟩ pay
      obtain rfl := tok.name
      -- in fields: `cases typ` now reduces the `match` on the type, and `typ.cur` in `Pay.mint`
      obtain ⟨typ, st0, nm, owner, amount, toTok, ws, votes⟩ := t
      rcases ite_eq_iff.mp hout with ⟨h1, hout⟩ | ⟨h1, hout⟩
      · -- the vote makes the tracker finalized
        have upd := @upd .released (fun _ => rfl) nofun nofun
        cases typ
        · subst hout; exact upd (.mint hnf h1 rfl)
        · subst hout; exact upd .none
        · rcases ite_eq_iff.mp hout with ⟨_, rfl⟩ | ⟨_, rfl⟩
          · exact upd (.mint hnf h1 rfl)
          · exact .noop
        · rcases ite_eq_iff.mp hout with ⟨_, rfl⟩ | ⟨_, rfl⟩
          · exact upd .none
          · exact .noop
      · rw [Bool.not_eq_true] at h1
        rcases ite_eq_iff.mp hout with ⟨h2, hout⟩ | ⟨h2, rfl⟩
        · -- the vote makes the tracker failed
          have upd := @upd .failed (fun h => nomatch h1.symm.trans h) nofun nofun
          cases typ <;> subst hout
          · exact upd .none
          · exact upd (.refund hnx h2 rfl)
          · exact .noop
          · exact .noop
        · exact upd st0 (fun h => nomatch h1.symm.trans h) tok.nfin tok.nbs .none

theorem send_eff (c : Cfg) (s : St) (f t : Addr) (cur a : Nat) :
    Eff c s (.xf f t) (send s f t cur a).st (send s f t cur a).ev := by
  unfold send
  cases hb : balSub s.bal f cur a with
  | none => exact .noop
  | some b1 => exact .xfer f t cur a b1 rfl hb

theorem transition_released {t : Tracker} (h : t.state = .released) : transition t = .toPassed := by
  unfold transition; rw [h]

theorem transition_failed {t : Tracker} (h : t.state = .failed) : transition t = .toFailed := by
  unfold transition; rw [h]

theorem transition_cases (t : Tracker) :
    (t.state = .released ∧ transition t = .toPassed) ∨
    (t.state = .failed ∧ transition t = .toFailed) ∨
    (t.state = .finalized ∧ transition t = .panic) ∨
    (t.state ≠ .released ∧ t.state ≠ .failed ∧ (transition t = .none ∨
      ∃ st', transition t = .save { t with state := st' } ∧ st' ≠ .released ∧ st' ≠ .failed ∧
        st' ≠ .broadcastSuccess ∧ (st' = .finalized → t.finalized = true))) := by
  unfold transition
  cases t.state
  case released => exact .inl ⟨rfl, rfl⟩
  case failed => exact .inr (.inl ⟨rfl, rfl⟩)
  case finalized => exact .inr (.inr (.inl ⟨rfl, rfl⟩))
  all_goals refine .inr (.inr (.inr ⟨nofun, nofun, ?_⟩))
  case new => exact .inr ⟨_, rfl, nofun, nofun, nofun, nofun⟩
  case broadcastSuccess => exact .inl rfl
  case busyBroadcasting =>
    cases t.typ.isLock
    · exact .inl rfl
    · dsimp only; split
      · exact .inr ⟨_, rfl, nofun, nofun, nofun, nofun⟩
      · exact .inl rfl
  case busyFinalizing =>
    cases t.typ.isLock
    · exact .inl rfl
    · dsimp only; split
      · next h => exact .inr ⟨_, rfl, nofun, nofun, nofun, fun _ => h⟩
      · exact .inl rfl

theorem endOne_cases (h : endOne s n = some s') :
    ∃ t, alookup n s.ongoing = some t ∧
      ((t.state = .released ∧
          s' = { s with passed := upsert s.passed n t.clean, ongoing := aerase s.ongoing n }) ∨
       (t.state = .failed ∧
          s' = { s with failed := upsert s.failed n t.clean, ongoing := aerase s.ongoing n }) ∨
       (t.state ≠ .released ∧ t.state ≠ .failed ∧ (s' = s ∨
          ∃ st', s' = setOngoing s { t with state := st' } ∧ st' ≠ .released ∧ st' ≠ .failed ∧
            st' ≠ .broadcastSuccess ∧ (st' = .finalized → t.finalized = true)))) := by
  unfold endOne at h
  cases hget : alookup n s.ongoing with
  | none => rw [hget] at h; cases h
  | some t =>
    rw [hget] at h; dsimp only at h
    refine ⟨t, rfl, ?_⟩
    rcases transition_cases t with ⟨hs, e⟩ | ⟨hs, e⟩ | ⟨_, e⟩ | ⟨h1, h2, e | ⟨st', e, hst'⟩⟩ <;>
      rw [e] at h <;> cases h
    · exact .inl ⟨hs, rfl⟩
    · exact .inr (.inl ⟨hs, rfl⟩)
    · exact .inr (.inr ⟨h1, h2, .inl rfl⟩)
    · exact .inr (.inr ⟨h1, h2, .inr ⟨st', rfl, hst'⟩⟩)

theorem endOne_eff (wf : St.WF c s) (info : OpInfo)
    (h : endOne s n = some s') : Eff c s info s' [] := by
  obtain ⟨t, hget, ⟨hs, rfl⟩ | ⟨hs, rfl⟩ | ⟨h1, h2, rfl | ⟨st', rfl, h3, h4, h5, h6⟩⟩⟩ := endOne_cases h
  all_goals have tok := wf n t hget
  · exact .toPassed n t hget
  · refine .toFailed n t hget ?_
    cases hf : t.finalized with
    | false => rfl
    | true => exact nomatch hs.symm.trans (tok.fin hf)
  · exact .noop
  · -- a finalized record is Released already: the transition to `finalized` is never taken
    have hnf : t.finalized = true → False := fun hf => h1 (tok.fin hf)
    rw [show setOngoing s { t with state := st' } =
      { s with ongoing := upsert s.ongoing n { t with state := st' }, bal := s.bal } by rw [← tok.name]; rfl]
    exact .upd n t _ s.bal [] ⟨hget, rfl, .inl rfl,
      ⟨tok.name, tok.wits, tok.len, fun hf => (hnf hf).elim, fun e => hnf (h6 e), h5⟩, id, id⟩ .none

theorem endOne_some (wf : St.WF c s) (hn : has s.ongoing n = true) :
    ∃ s', endOne s n = some s' := by
  obtain ⟨t, ht⟩ := (has_eq_true_iff _ _).mp hn
  unfold endOne
  rw [ht]; dsimp only
  rcases transition_cases t with ⟨_, e⟩ | ⟨_, e⟩ | ⟨hs, _⟩ | ⟨_, _, e | ⟨_, e, _⟩⟩
  · rw [e]; exact ⟨_, rfl⟩
  · rw [e]; exact ⟨_, rfl⟩
  · exact absurd hs (wf n t ht).nfin
  · rw [e]; exact ⟨_, rfl⟩
  · rw [e]; exact ⟨_, rfl⟩

theorem endNames_cons {ns : List Name} (h : endNames s (n :: ns) = some s') :
    ∃ s1, endOne s n = some s1 ∧ endNames s1 ns = some s' := by
  unfold endNames at h
  cases h1 : endOne s n with
  | none => rw [h1] at h; cases h
  | some s1 => rw [h1] at h; exact ⟨s1, rfl, h⟩

theorem endNames_preserves {P : St → Prop} (info : OpInfo)
    (hP : ∀ {s s'}, St.WF c s → P s → Eff c s info s' [] → P s') :
    ∀ (ns : List Name) {s s' : St}, St.WF c s → P s → endNames s ns = some s' → P s'
  | [], _, _, _, p, h => by cases h; exact p
  | _ :: ns, _, _, wf, p, h => by
    obtain ⟨s1, h1, h2⟩ := endNames_cons h
    have e := endOne_eff wf info h1
    exact endNames_preserves info hP ns (wf_eff wf e) (hP wf p e) h2

theorem step_eff (hc : c.WF) (wf : St.WF c s) (op : Op) (hop : ∀ ns, op ≠ .endBlock ns) :
    Eff c s op.info (step c s op).st (step c s op).ev := by
  cases op with
  | lock erc pre l n a =>
    rcases lock_cases c s erc pre l n a with ⟨r, h⟩ | ⟨h1, h2, tag, h⟩ <;> rw [h]
    · exact .noop
    · exact .create (subTyp false erc) l n a erc s.bal [] rfl h1 h2
        (fun h => by cases erc <;> cases h) (.inl ⟨by cases erc <;> rfl, rfl, rfl⟩)
  | redeem erc pre tt o n a =>
    rcases redeem_cases c s erc pre tt o n a with ⟨r, h⟩ | ⟨b1, b2, tag, hb1, hb2, h1, h2, h3, h⟩ <;> rw [h]
    · exact .noop
    · rw [← aerase_of_not_has h2]
      exact .create (subTyp true erc) o n a (erc && tt) b2 _ rfl h1 h3 (fun _ => h2)
        (.inr ⟨by cases erc <;> rfl, rfl, b1, hb1, hb2⟩)
  | report n l v i ok => exact report_eff hc wf ..
  | send f t cur a => exact send_eff ..
  | endBlock ns => exact absurd rfl (hop ns)

/-- What holds of the state before the step with no events, and is kept by every effect of the
    operation, holds of the step's result and events: a transaction has one effect, a block end one
    per name (and no events). -/
theorem step_preserves (hc : c.WF) (wf : St.WF c s) (op : Op) {Q : St → List Event → Prop}
    (h0 : Q s []) (hQ : ∀ {s1 s2 ev}, St.WF c s1 → Q s1 [] → Eff c s1 op.info s2 ev → Q s2 ev) :
    Q (step c s op).st (step c s op).ev := by
  by_cases hop : ∃ ns, op = .endBlock ns
  · obtain ⟨ns, rfl⟩ := hop
    simp only [step]
    split
    · exact h0
    · next s' h => exact endNames_preserves (P := fun s => Q s []) .other hQ ns wf h0 h
  · exact hQ wf h0 (step_eff hc wf op (fun ns e => hop ⟨ns, e⟩))

end

theorem wf_step {c : Cfg} (hc : c.WF) {s : St} (wf : St.WF c s) (op : Op) : St.WF c (step c s op).st :=
  step_preserves hc wf op (Q := fun s _ => St.WF c s) wf fun wf _ e => wf_eff wf e

/-- A property of state, history so far and events that is kept when the history grows and by every
    effect of an operation of the history holds along `run`.  `St.WF` is carried along and handed to
    `eff`, so `P` need not contain it; the invariants of Lemmas.lean have a `wf` field only because
    `run_inv*` take no other hypothesis, and their `eff` ignores the argument. -/
theorem run_preserves {c : Cfg} (hc : c.WF) {P : St → List Op → List Event → Prop}
    (mono : ∀ {s d e} (op : Op), P s d e → P s (d ++ [op]) e)
    (eff : ∀ {s d e s' ev} {op : Op}, op ∈ d → St.WF c s → P s d e → Eff c s op.info s' ev → P s' d (e ++ ev)) :
    ∀ (ops : List Op) {s : St} {d : List Op} {e : List Event}, St.WF c s → P s d e →
      P (run c s ops).1 (d ++ ops) (e ++ (run c s ops).2)
  | [], _, _, _, _, p => by simpa [run] using p
  | op :: ops, s, d, e, wf, p => by
    have p1 := step_preserves hc wf op (Q := fun s' ev => P s' (d ++ [op]) (e ++ ev))
      ((List.append_nil e).symm ▸ mono op p)
      fun wf p h => eff (List.mem_append_right d List.mem_cons_self) wf (List.append_nil e ▸ p) h
    simpa [run, List.append_assoc] using run_preserves hc mono eff ops (wf_step hc wf op) p1

end OLP.Eth
