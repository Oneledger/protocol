/-
  The invariants behind the C15 theorems (OLP/Props/C15.lean), each proved once against the effect
  relation of OLP/Eth/Effect.lean and carried along `run` by `run_preserves`; the block-end loop;
  the example configuration and histories.
-/
import OLP.Eth.Effect

namespace OLP.Eth
open OLP

/-! ## specification vocabulary for histories -/

def Event.isMint (n : Name) : Event → Bool
  | .mint m _ _ _ => decide (m = n)
  | _ => false

def Event.isRefund (n : Name) : Event → Bool
  | .refund m _ _ _ => decide (m = n)
  | _ => false

/-- how often wrapped tokens were minted / refunded for the external transaction `n` -/
def mintCount (n : Name) (evs : List Event) : Nat := evs.countP (Event.isMint n)
def refundCount (n : Name) (evs : List Event) : Nat := evs.countP (Event.isRefund n)

/-- the external transaction backs a tracker record in some store -/
def St.knows (s : St) (n : Name) : Bool := has s.ongoing n || has s.passed n || has s.failed n

@[simp] theorem mintCount_nil (n : Name) : mintCount n [] = 0 := rfl
@[simp] theorem refundCount_nil (n : Name) : refundCount n [] = 0 := rfl

theorem countP_mint_refund (m n : Name) (to : Addr) (cur amt : Nat) :
    [Event.mint n to cur amt].countP (Event.isMint m) = (if m = n then 1 else 0) ∧
    [Event.refund n to cur amt].countP (Event.isRefund m) = (if m = n then 1 else 0) := by
  simp [Event.isMint, Event.isRefund, eq_comm]

theorem knows_false {s : St} {n : Name} (h : s.knows n = false) :
    has s.ongoing n = false ∧ has s.passed n = false ∧ has s.failed n = false := by
  simp only [St.knows, Bool.or_eq_false_iff] at h
  exact ⟨h.1.1, h.1.2, h.2⟩

/-- the effect of a transaction on the stores, with the name of the touched record -/
inductive Shape (s s' : St) (n : Name) : Prop
  /-- the record under `n` is replaced by `X`; nothing else -/
  | upd (X : Tracker) (hX : X.name = n) (hh : has s.ongoing n = true)
      (h1 : s'.ongoing = upsert s.ongoing n X) (h2 : s'.passed = s.passed) (h3 : s'.failed = s.failed)
  | same (h1 : s'.ongoing = s.ongoing) (h2 : s'.passed = s.passed) (h3 : s'.failed = s.failed)

/-- Why an event fires at most once per name: a predicate `W n` of the state records that it has
    fired for `n`; every step keeps `W`; a step that fires for `n` finds `¬ W n` and leaves `W n`. -/
theorem once_step {p : Name → Event → Bool} {W W' : Name → Prop} {evs ev : List Event}
    (I : ∀ m, evs.countP (p m) = 0 ∨ evs.countP (p m) = 1 ∧ W m)
    (keep : ∀ m, W m → W' m)
    (fire : (∀ m, ev.countP (p m) = 0) ∨ ∃ n, ¬ W n ∧ W' n ∧ ∀ m, ev.countP (p m) = if m = n then 1 else 0) :
    ∀ m, (evs ++ ev).countP (p m) = 0 ∨ (evs ++ ev).countP (p m) = 1 ∧ W' m := by
  intro m
  rw [List.countP_append]
  rcases fire with h0 | ⟨n, hn, hn', h1⟩
  · rw [h0, Nat.add_zero]; exact (I m).imp_right (.imp_right (keep m))
  · rw [h1]
    by_cases e : m = n
    · subst e; rw [if_pos rfl]
      rcases I m with h | ⟨_, w⟩
      · exact .inr ⟨by rw [h], hn'⟩
      · exact absurd w hn
    · rw [if_neg e, Nat.add_zero]; exact (I m).imp_right (.imp_right (keep m))

theorem le_one_of_once {a : Nat} {p : Prop} (h : a = 0 ∨ a = 1 ∧ p) : a ≤ 1 :=
  h.elim (fun h => h ▸ Nat.zero_le 1) (fun h => Nat.le_of_eq h.1)

/-! ## one name at a time

A step changes what the three stores hold under at most one name.  The invariants that relate the
stores to each other (one record per name, the marks of mint and refund) are therefore proved about
a single `View` and the relation `Loc` between the views before and after, with no store in sight;
`Eff.loc` is the one place where `upsert` and `aerase` meet the names. -/

/-- what the three stores hold under one name -/
structure View where
  on : Option Tracker
  pa : Bool
  fa : Bool

def St.view (s : St) (n : Name) : View := ⟨alookup n s.ongoing, has s.passed n, has s.failed n⟩

/-- what a step does under the name `n` it touches, and what it emits -/
inductive Loc (c : Cfg) (n : Name) : View → View → List Event → Prop
  | quiet (v : View) (ev : List Event) (hq : ∀ m, mintCount m ev = 0 ∧ refundCount m ev = 0) : Loc c n v v ev
  | create (T : Tracker) (fa : Bool) (ev : List Event) (hFa : T.typ.isLock = false → fa = false)
      (hq : ∀ m, mintCount m ev = 0 ∧ refundCount m ev = 0) : Loc c n ⟨none, false, fa⟩ ⟨some T, false, false⟩ ev
  | upd (t X : Tracker) (pa fa : Bool) (b b' : Bal) (ev : List Event) (hty : X.typ = t.typ)
      (hfin : t.finalized = true → X.finalized = true) (hfail : t.failedV = true → X.failedV = true)
      (pay : Pay c n t X b b' ev) : Loc c n ⟨some t, pa, fa⟩ ⟨some X, pa, fa⟩ ev
  | toPassed (t : Tracker) (pa fa : Bool) : Loc c n ⟨some t, pa, fa⟩ ⟨none, true, fa⟩ []
  | toFailed (t : Tracker) (pa fa : Bool) (hnf : t.finalized = false) : Loc c n ⟨some t, pa, fa⟩ ⟨none, pa, true⟩ []

section
variable {c : Cfg} {s s' : St} {info : OpInfo} {ev evs : List Event} {n : Name} {v v' : View}

theorem Eff.loc (h : Eff c s info s' ev) :
    ∃ n, (∀ m, m ≠ n → s'.view m = s.view m) ∧ Loc c n (s.view n) (s'.view n) ev := by
  cases h with
  | noop | xfer => exact ⟨0, fun _ _ => rfl, .quiet _ _ fun _ => ⟨rfl, rfl⟩⟩
  | create typ owner n amt tt b' ev hi hOn hPa hFa hbal =>
    refine ⟨n, fun m e => ?_, ?_⟩
    · simp [St.view, alookup_upsert_ne _ _ _ _ e, has_aerase, e]
    · have hq : ∀ m, mintCount m ev = 0 ∧ refundCount m ev = 0 := by
        rcases hbal with ⟨_, _, rfl⟩ | ⟨_, rfl, _⟩ <;> exact fun _ => ⟨rfl, rfl⟩
      simp only [St.view, (has_eq_false_iff _ _).mp hOn, hPa, alookup_upsert_self, has_aerase, decide_true,
        Bool.not_true, Bool.false_and]
      exact .create _ _ _ hFa hq
  | upd n t X b' ev u pay =>
    refine ⟨n, fun m e => ?_, ?_⟩
    · simp [St.view, alookup_upsert_ne _ _ _ _ e]
    · simp only [St.view, u.hget, alookup_upsert_self]
      exact .upd t X _ _ _ _ _ (by rw [u.hX]) u.hfin u.hfail pay
  | toPassed n t hget =>
    refine ⟨n, fun m e => ?_, ?_⟩
    · simp [St.view, alookup_aerase_ne _ _ _ e, has_upsert, e]
    · simp only [St.view, hget, alookup_aerase_self, has_upsert, decide_true, Bool.true_or]
      exact .toPassed t _ _
  | toFailed n t hget hnf =>
    refine ⟨n, fun m e => ?_, ?_⟩
    · simp [St.view, alookup_aerase_ne _ _ _ e, has_upsert, e]
    · simp only [St.view, hget, alookup_aerase_self, has_upsert, decide_true, Bool.true_or]
      exact .toFailed t _ _ hnf

/-- what holds of every view, and is kept at the touched name, holds of every view afterwards -/
theorem view_lift {W : View → Prop} (fr : ∀ m, m ≠ n → s'.view m = s.view m)
    (hn : W (s.view n) → W (s'.view n)) (m : Name) (w : W (s.view m)) : W (s'.view m) := by
  by_cases e : m = n
  · subst e; exact hn w
  · rw [fr m e]; exact w

/-! ## one record per external transaction across all three stores -/

def View.Disj (v : View) : Prop :=
  (v.on.isSome = true → v.pa = false) ∧ (v.on.isSome = true → v.fa = false) ∧ (v.pa = true → v.fa = false)

theorem View.Disj.loc (h : Loc c n v v' ev) (d : v.Disj) : v'.Disj := by
  cases h with
  | quiet | upd => exact d
  | create => exact ⟨fun _ => rfl, fun _ => rfl, nofun⟩
  | toPassed => exact ⟨nofun, nofun, fun _ => d.2.1 rfl⟩
  | toFailed => exact ⟨nofun, nofun, fun h => nomatch (d.1 rfl).symm.trans h⟩

structure InvD (c : Cfg) (s : St) : Prop where
  wf : St.WF c s
  dis : ∀ n, (s.view n).Disj

theorem invD_eff (I : InvD c s) (h : Eff c s info s' ev) : InvD c s' :=
  let ⟨_, fr, loc⟩ := h.loc
  ⟨wf_eff I.wf h, fun m => view_lift fr (.loc loc) m (I.dis m)⟩

theorem invD_empty (c : Cfg) : InvD c St.empty := ⟨wf_empty c, fun _ => ⟨nofun, nofun, nofun⟩⟩

theorem run_invD {c : Cfg} (hc : c.WF) (ops : List Op) : ∀ (s : St), InvD c s → InvD c (run c s ops).1 :=
  fun _ I => run_preserves hc (P := fun s _ _ => InvD c s) (fun _ I => I) (fun _ _ I h => invD_eff I h)
    ops (d := []) (e := []) I.wf I

/-! ## at most one mint per external transaction -/

/-- the mint has left its mark: the tracker is archived as passed, or ongoing and finalized -/
def View.Minted (v : View) : Prop := v.pa = true ∨ ∃ t, v.on = some t ∧ t.finalized = true

theorem View.Minted.loc (h : Loc c n v v' ev) (w : v.Minted) : v'.Minted := by
  cases h with
  | quiet => exact w
  | create => rcases w with h | ⟨_, h, _⟩ <;> cases h
  | upd t X _ _ _ _ _ _ hfin => exact w.imp id fun ⟨_, e, hf⟩ => ⟨X, rfl, hfin (by cases e; exact hf)⟩
  | toPassed => exact .inl rfl
  | toFailed t _ _ hnf =>
    rcases w with h | ⟨_, e, hf⟩
    · exact .inl h
    · cases e; exact nomatch hnf.symm.trans hf

/-- a mint is emitted only for the touched name, and only when the mark was absent and is now set -/
theorem Loc.mints (h : Loc c n v v' ev) (d : v.Disj) :
    (∀ m, mintCount m ev = 0) ∨ ¬ v.Minted ∧ v'.Minted ∧ ∀ m, mintCount m ev = if m = n then 1 else 0 := by
  cases h with
  | quiet _ _ hq | create _ _ _ _ hq => exact .inl fun m => (hq m).1
  | toPassed | toFailed => exact .inl fun _ => rfl
  | upd t X _ _ _ _ _ _ _ _ pay =>
    cases pay with
    | none | refund => exact .inl fun _ => rfl
    | mint hf hXf =>
      refine .inr ⟨fun w => ?_, .inr ⟨X, rfl, hXf⟩, fun m => (countP_mint_refund ..).1⟩
      rcases w with h | ⟨_, e, h⟩
      · exact nomatch (d.1 rfl).symm.trans h
      · cases e; exact nomatch hf.symm.trans h

structure InvM (c : Cfg) (s : St) (evs : List Event) : Prop extends InvD c s where
  minted : ∀ n, mintCount n evs = 0 ∨ mintCount n evs = 1 ∧ (s.view n).Minted

theorem invM_eff (I : InvM c s evs) (h : Eff c s info s' ev) : InvM c s' (evs ++ ev) :=
  let ⟨n, fr, loc⟩ := h.loc
  ⟨invD_eff I.toInvD h, once_step I.minted (view_lift fr (.loc loc)) ((loc.mints (I.dis n)).imp_right fun h => ⟨n, h⟩)⟩

theorem invM_empty (c : Cfg) : InvM c St.empty [] := ⟨invD_empty c, fun _ => .inl rfl⟩

theorem run_invM {c : Cfg} (hc : c.WF) (ops : List Op) : ∀ (s : St) (evs : List Event),
    InvM c s evs → InvM c (run c s ops).1 (evs ++ (run c s ops).2) :=
  fun _ _ I => run_preserves hc (P := fun s _ e => InvM c s e) (fun _ I => I) (fun _ _ I h => invM_eff I h)
    ops (d := []) I.wf I

/-! ## at most one refund per external transaction -/

/-- the refund has left its mark: some store knows the name (so no redeem can be submitted under it
    again), and if an ETH redeem tracker is ongoing under it, it has failed -/
def View.Refunded (v : View) : Prop :=
  (v.on.isSome || v.pa || v.fa) = true ∧ ∀ t, v.on = some t → t.typ = .redeem → t.failedV = true

theorem View.Refunded.loc (h : Loc c n v v' ev) (w : v.Refunded) : v'.Refunded := by
  cases h with
  | quiet => exact w
  | create T fa _ hFa =>
    -- a redeem is only created under a name no store knows
    refine ⟨rfl, fun _ e hty => ?_⟩
    cases e
    cases hFa (by rw [hty]; rfl)
    exact nomatch w.1
  | upd t X _ _ _ _ _ hty _ hfail =>
    exact ⟨w.1, fun _ e h => by cases e; exact hfail (w.2 t rfl (hty ▸ h))⟩
  | toPassed => exact ⟨rfl, fun _ e => nomatch e⟩
  | toFailed => exact ⟨Bool.or_true _, fun _ e => nomatch e⟩

theorem Loc.refunds (h : Loc c n v v' ev) :
    (∀ m, refundCount m ev = 0) ∨ ¬ v.Refunded ∧ v'.Refunded ∧ ∀ m, refundCount m ev = if m = n then 1 else 0 := by
  cases h with
  | quiet _ _ hq | create _ _ _ _ hq => exact .inl fun m => (hq m).2
  | toPassed | toFailed => exact .inl fun _ => rfl
  | upd t X _ _ _ _ _ _ _ _ pay =>
    cases pay with
    | none | mint => exact .inl fun _ => rfl
    | refund hf hXf ht =>
      exact .inr ⟨(fun w => nomatch hf.symm.trans (w.2 t rfl ht)),
        ⟨rfl, fun _ e _ => by cases e; exact hXf⟩, fun m => (countP_mint_refund ..).2⟩

structure InvR (c : Cfg) (s : St) (evs : List Event) : Prop where
  wf : St.WF c s
  refunded : ∀ n, refundCount n evs = 0 ∨ refundCount n evs = 1 ∧ (s.view n).Refunded

theorem invR_eff (I : InvR c s evs) (h : Eff c s info s' ev) : InvR c s' (evs ++ ev) :=
  let ⟨n, fr, loc⟩ := h.loc
  ⟨wf_eff I.wf h, once_step I.refunded (view_lift fr (.loc loc)) (loc.refunds.imp_right fun h => ⟨n, h⟩)⟩

theorem invR_empty (c : Cfg) : InvR c St.empty [] := ⟨wf_empty c, fun _ => .inl rfl⟩

theorem run_invR {c : Cfg} (hc : c.WF) (ops : List Op) : ∀ (s : St) (evs : List Event),
    InvR c s evs → InvR c (run c s ops).1 (evs ++ (run c s ops).2) :=
  fun _ _ I => run_preserves hc (P := fun s _ e => InvR c s e) (fun _ I => I) (fun _ _ I h => invR_eff I h)
    ops (d := []) I.wf I

end

/-! ## the supply counter equals the wrapped tokens in circulation -/

/-- sum of the balances of currency `cur` over every address except the supply address -/
def circ (sup : Addr) (cur : Nat) : Bal → Int
  | [] => 0
  | ((a, c), v) :: t => (if c = cur ∧ a ≠ sup then v else 0) + circ sup cur t

def OpInfo.avoids (sup : Addr) : OpInfo → Bool
  | .sub _ o _ _ => decide (o ≠ sup)
  | .rep _ _ _ _ _ => true          -- the report's Locker field is no longer read
  | .xf f t => decide (f ≠ sup) && decide (t ≠ sup)
  | .other => true

/-- no submitter, sender or receiver is the supply address itself (it is not a key-derived address:
    nobody can sign for it, and SEND's validation refuses it) -/
def Op.avoids (sup : Addr) (op : Op) : Bool := op.info.avoids sup

theorem circ_eq_asum (sup : Addr) (cur : Nat) (b : Bal) :
    circ sup cur b = asum (fun k v => if k.2 = cur ∧ k.1 ≠ sup then v else 0) b := by
  induction b with
  | nil => rfl
  | cons hd tl ih => obtain ⟨⟨a, c⟩, v⟩ := hd; simp only [circ, asum, ih]

theorem circ_balAdd (sup : Addr) (cur : Nat) (b : Bal) (a : Addr) (c : Nat) (x : Int) :
    circ sup cur (balAdd b a c x) = circ sup cur b + (if c = cur ∧ a ≠ sup then x else 0) := by
  unfold balAdd balGet
  rw [circ_eq_asum, circ_eq_asum, asum_upsert]
  cases alookup (a, c) b <;> simp only [Option.elim, Option.getD] <;> split <;> omega

theorem balGet_balAdd (b : Bal) (a : Addr) (c : Nat) (x : Int) (a' : Addr) (c' : Nat) :
    balGet (balAdd b a c x) a' c' = balGet b a' c' + (if (a', c') = (a, c) then x else 0) :=
  getD_alookup_credit b (a, c) (a', c') x

theorem balSub_some {b b' : Bal} {a : Addr} {c : Nat} {x : Int} (h : balSub b a c x = some b') :
    x ≤ balGet b a c ∧ b' = balAdd b a c (-x) :=
  let ⟨hn, e⟩ := of_guard h
  ⟨by omega, (Option.some.inj e).symm⟩

def gap (sup : Addr) (cur : Nat) (b : Bal) : Int := balGet b sup cur - circ sup cur b

theorem gap_balAdd (sup : Addr) (cur : Nat) (b : Bal) (a : Addr) (c : Nat) (x : Int) :
    gap sup cur (balAdd b a c x) = gap sup cur b + (if c = cur then (if a = sup then x else -x) else 0) := by
  unfold gap
  rw [circ_balAdd, balGet_balAdd]
  by_cases ec : c = cur
  · subst ec
    by_cases ea : a = sup
    · subst ea; rw [if_pos rfl, if_neg (fun h => h.2 rfl), if_pos rfl, if_pos rfl]; omega
    · rw [if_neg (fun h => ea (Prod.mk.inj h).1.symm), if_pos ⟨rfl, ea⟩, if_pos rfl, if_neg ea]; omega
  · rw [if_neg (fun h => ec (Prod.mk.inj h).2.symm), if_neg (fun h => ec h.1), if_neg ec]; omega

structure InvS (c : Cfg) (s : St) : Prop where
  wf : St.WF c s
  nodup : (akeys s.bal).Nodup
  eq : ∀ cur, gap c.supply cur s.bal = 0
  own : ∀ n t, alookup n s.ongoing = some t → t.owner ≠ c.supply

/-- two bookings in one currency whose effects on the gap cancel keep counter and circulation equal:
    the same amount for a holder and for the counter, or an amount moved between two holders -/
theorem InvS.pair {c : Cfg} {s s' : St} (I : InvS c s) (wf' : St.WF c s')
    (own' : ∀ n t, alookup n s'.ongoing = some t → t.owner ≠ c.supply) (a₁ a₂ : Addr) (cu : Nat) (x₁ x₂ : Int)
    (hb : s'.bal = balAdd (balAdd s.bal a₁ cu x₁) a₂ cu x₂)
    (h : (if a₁ = c.supply then x₁ else -x₁) + (if a₂ = c.supply then x₂ else -x₂) = 0) : InvS c s' := by
  refine ⟨wf', hb ▸ nodup_akeys_upsert _ _ _ (nodup_akeys_upsert _ _ _ I.nodup), fun cur => ?_, own'⟩
  rw [hb, gap_balAdd, gap_balAdd, I.eq cur]
  by_cases e : cu = cur
  · rw [if_pos e, if_pos e]; omega
  · rw [if_neg e, if_neg e]; rfl

theorem invS_eff {c : Cfg} {s s' : St} {info : OpInfo} {ev : List Event}
    (I : InvS c s) (h : Eff c s info s' ev) (hav : info.avoids c.supply = true) : InvS c s' := by
  have wf' := wf_eff I.wf h
  -- a holder and the counter are booked the same amount
  have credit : ∀ {a : Addr} (cu : Nat) (x : Int), a ≠ c.supply → _ :=
    fun {a} cu x ha own' => I.pair wf' own' a c.supply cu x x (h := by rw [if_neg ha, if_pos rfl]; omega)
  cases h with
  | noop => exact I
  | xfer frm to cur amt b1 hi hb =>
    subst hi
    simp only [OpInfo.avoids, Bool.and_eq_true, decide_eq_true_eq] at hav
    cases (balSub_some hb).2
    exact I.pair wf' I.own frm to cur (-amt) amt rfl (by rw [if_neg hav.1, if_neg hav.2]; omega)
  | create typ owner n amt tt b' ev hi hOn hPa hFa hbal =>
    subst hi
    have hav : owner ≠ c.supply := of_decide_eq_true hav
    have hown := forall_alookup_upsert (k := n) (v := newTracker typ owner n amt tt c.witnesses) I.own hav
    rcases hbal with ⟨_, rfl, _⟩ | ⟨_, _, b1, hb1, hb2⟩
    · exact ⟨wf', I.nodup, I.eq, hown⟩
    · cases (balSub_some hb1).2; cases (balSub_some hb2).2
      exact credit _ _ hav hown rfl
  | upd n t X b' ev u pay =>
    have hto := I.own n t u.hget
    have hown := forall_alookup_upsert (k := n) (v := X) I.own (by rw [u.hX]; exact hto)
    cases pay with
    | none => exact ⟨wf', I.nodup, I.eq, hown⟩
    | mint | refund => exact credit _ _ hto hown rfl
  | toPassed n | toFailed n => exact ⟨wf', I.nodup, I.eq, forall_alookup_aerase n I.own⟩

theorem invS_empty (c : Cfg) : InvS c St.empty :=
  ⟨wf_empty c, .nil, fun _ => rfl, fun _ _ h => nomatch h⟩

theorem run_invS {c : Cfg} (hc : c.WF) (ops : List Op) : ∀ (s : St),
    InvS c s → (∀ op ∈ ops, op.avoids c.supply = true) → InvS c (run c s ops).1 :=
  fun _ I hav => run_preserves hc (P := fun s d _ => (∀ op ∈ d, op.avoids c.supply = true) → InvS c s)
    (fun _ I hav => I fun o ho => hav o (List.mem_append_left _ ho))
    (fun ho _ I h hav => invS_eff (I hav) h (hav _ ho))
    ops (d := []) (e := []) I.wf (fun _ => I) (by simpa using hav)

/-! ## every counted vote, every mint and every refund is justified by the history -/

/-- the witnesses whose slot holds the value `v` -/
def slotWits (v : Nat) : List Addr → List Nat → List Addr
  | w :: ws, x :: xs => if x = v then w :: slotWits v ws xs else slotWits v ws xs
  | _, _ => []

theorem slotWits_sublist (v : Nat) (ws : List Addr) (xs : List Nat) : (slotWits v ws xs).Sublist ws := by
  fun_induction slotWits v ws xs with
  | case1 w _ _ ih => exact ih.cons_cons w
  | case2 w _ _ _ _ ih => exact ih.cons w
  | case3 => exact List.nil_sublist _

theorem slotWits_length (v : Nat) (ws : List Addr) (xs : List Nat) (h : xs.length = ws.length) :
    (slotWits v ws xs).length = countVotes v xs := by
  fun_induction slotWits v ws xs with
  | case1 _ _ _ ih => rw [List.length_cons, countVotes, if_pos rfl, ih (Nat.succ.inj h), Nat.add_comm]
  | case2 _ _ _ _ hx ih => rw [countVotes, if_neg hx, ih (Nat.succ.inj h), Nat.zero_add]
  | case3 ws xs hne =>
    cases xs with
    | nil => rfl
    | cons x xs => cases ws with
      | nil => cases h
      | cons w ws => exact (hne w ws x xs rfl rfl).elim

theorem slotWits_mem {v : Nat} {ws : List Addr} {xs : List Nat} {w : Addr} (h : w ∈ slotWits v ws xs) :
    ∃ j : Nat, ws[j]? = some w ∧ xs[j]? = some v := by
  fun_induction slotWits v ws xs with
  | case1 _ _ _ ih =>
    rcases List.mem_cons.mp h with rfl | h'
    · exact ⟨0, rfl, rfl⟩
    · let ⟨j, hj⟩ := ih h'; exact ⟨j + 1, hj⟩
  | case2 _ _ _ _ _ ih => let ⟨j, hj⟩ := ih h; exact ⟨j + 1, hj⟩
  | case3 => cases h

/-- more than two thirds of the recorded witnesses, pairwise different, each sent a report with
    verdict `ok` for the tracker `n` -/
def TwoThirds (c : Cfg) (done : List Op) (n : Name) (ok : Bool) : Prop :=
  ∃ ws : List Addr, ws.Nodup ∧ (∀ w ∈ ws, w ∈ c.witnesses ∧ ∃ l i, Op.report n l w i ok ∈ done) ∧
    2 * c.witnesses.length < 3 * ws.length

/-- a mint is justified: two thirds reported success, and a lock submission of this external
    transaction by the beneficiary itself carries exactly the minted amount in that currency -/
def MintOK (c : Cfg) (done : List Op) (n : Name) (to : Addr) (cur amt : Nat) : Prop :=
  TwoThirds c done n true ∧
  (∃ op ∈ done, ∃ typ, op.info = .sub typ to n amt ∧ typ.isLock = true ∧ typ.cur = cur)

/-- a refund is justified: two thirds reported failure and it pays the submitter of an ETH redeem of
    this external transaction exactly the redeemed amount -/
def RefundOK (c : Cfg) (done : List Op) (n : Name) (to : Addr) (cur amt : Nat) : Prop :=
  TwoThirds c done n false ∧ (∃ op ∈ done, op.info = .sub .redeem to n amt) ∧ cur = 0

theorem TwoThirds.mono {c : Cfg} {done done' : List Op} {n : Name} {ok : Bool} (hs : ∀ o ∈ done, o ∈ done') :
    TwoThirds c done n ok → TwoThirds c done' n ok :=
  fun ⟨ws, h1, h2, h3⟩ => ⟨ws, h1, fun w hw => let ⟨hw', l, i, hm⟩ := h2 w hw; ⟨hw', l, i, hs _ hm⟩, h3⟩

/-- what the history must hold for an event of a step: nothing for a debit or a transfer -/
def Justified (c : Cfg) (done : List Op) : Event → Prop
  | .mint n to cur amt => MintOK c done n to cur amt
  | .refund n to cur amt => RefundOK c done n to cur amt
  | _ => True

/-- every non-empty slot of the record was filled by a report of the witness it belongs to -/
@[reducible] def Backed (done : List Op) (n : Name) (t : Tracker) : Prop :=
  ∀ (j : Nat) (v : Nat), t.votes[j]? = some v → v ≠ 0 →
    ∃ l w ok, t.witnesses[j]? = some w ∧ v = (if ok then 1 else 2) ∧ Op.report n l w (j : Int) ok ∈ done

structure InvH (c : Cfg) (s : St) (done : List Op) (evs : List Event) : Prop where
  wf : St.WF c s
  backed : ∀ n t, alookup n s.ongoing = some t → Backed done n t
  origin : ∀ n t, alookup n s.ongoing = some t → ∃ op ∈ done, op.info = .sub t.typ t.owner n t.amount
  mints : ∀ n to cur amt, Event.mint n to cur amt ∈ evs → MintOK c done n to cur amt
  refunds : ∀ n to cur amt, Event.refund n to cur amt ∈ evs → RefundOK c done n to cur amt

section
variable {c : Cfg} {s s' : St} {done done' : List Op} {ev evs : List Event}

theorem twoThirds_of_backed (hc : c.WF) {n : Name} {X : Tracker} (ok : Bool)
    (hw : X.witnesses = c.witnesses) (hl : X.votes.length = X.witnesses.length) (hb : Backed done n X)
    (hcount : X.threshold ≤ countVotes (if ok then 1 else 2) X.votes) : TwoThirds c done n ok := by
  refine ⟨slotWits (if ok then 1 else 2) X.witnesses X.votes, ?_, ?_, ?_⟩
  · exact (slotWits_sublist _ _ _).nodup (hw ▸ hc.nodup)
  · intro w hwm
    obtain ⟨j, h1, h2⟩ := slotWits_mem hwm
    obtain ⟨l, w', ok', h3, h4, h5⟩ := hb j _ h2 (by cases ok <;> decide)
    rw [h1] at h3; cases h3
    have : ok' = ok := by revert h4; cases ok <;> cases ok' <;> decide
    subst this
    exact ⟨hw ▸ List.mem_of_getElem? h1, l, j, h5⟩
  · rw [slotWits_length _ _ _ hl]
    have := (threshold_more_than_two_thirds X).1
    rw [hw] at this
    omega

theorem InvH.mono (hs : ∀ o ∈ done, o ∈ done') (I : InvH c s done evs) : InvH c s done' evs :=
  ⟨I.wf,
   fun n t h j v h1 h2 => let ⟨l, w, ok, h3, h4, h5⟩ := I.backed n t h j v h1 h2; ⟨l, w, ok, h3, h4, hs _ h5⟩,
   fun n t h => let ⟨op, h1, h2⟩ := I.origin n t h; ⟨op, hs _ h1, h2⟩,
   fun n to cur amt h => let ⟨h1, op, hop, h2⟩ := I.mints n to cur amt h; ⟨h1.mono hs, op, hs _ hop, h2⟩,
   fun n to cur amt h =>
     let ⟨h1, ⟨op, hop, h2⟩, h3⟩ := I.refunds n to cur amt h; ⟨h1.mono hs, ⟨op, hs _ hop, h2⟩, h3⟩⟩

theorem InvH.extend (I : InvH c s done evs) (wf' : St.WF c s')
    (hb : ∀ n t, alookup n s'.ongoing = some t → Backed done n t)
    (ho : ∀ n t, alookup n s'.ongoing = some t → ∃ op ∈ done, op.info = .sub t.typ t.owner n t.amount)
    (hev : ∀ x ∈ ev, Justified c done x) : InvH c s' done (evs ++ ev) :=
  ⟨wf', hb, ho,
   fun n to cur amt h => (List.mem_append.mp h).elim (I.mints n to cur amt) (hev _),
   fun n to cur amt h => (List.mem_append.mp h).elim (I.refunds n to cur amt) (hev _)⟩

theorem invH_eff {op : Op} (hc : c.WF) (I : InvH c s done evs) (h : Eff c s op.info s' ev) (hop : op ∈ done) :
    InvH c s' done (evs ++ ev) := by
  have wf' := wf_eff I.wf h
  cases h with
  | noop => exact I.extend wf' I.backed I.origin nofun
  | xfer => exact I.extend wf' I.backed I.origin (List.forall_mem_singleton.mpr trivial)
  | toPassed n | toFailed n =>
    exact I.extend wf' (forall_alookup_aerase n I.backed) (forall_alookup_aerase n I.origin) nofun
  | create typ owner n amt tt b' ev hi hOn hPa hFa hbal =>
    -- the new record has no filled slot, and the submission is its origin
    refine I.extend wf' (forall_alookup_upsert I.backed fun j v h1 h2 =>
        absurd (List.eq_of_mem_replicate (List.mem_of_getElem? h1)) h2)
      (forall_alookup_upsert I.origin ⟨op, hop, hi⟩) ?_
    rcases hbal with ⟨_, _, rfl⟩ | ⟨_, rfl, _⟩
    · nofun
    · exact List.forall_mem_singleton.mpr trivial
  | upd n t X b' ev u pay =>
    -- the new record's slots are backed: the one the report fills by the report itself
    have hbX : Backed done n X := by
      intro j v h1 h2
      rw [u.hX]
      rcases u.hvs with hv | ⟨l, w, i, ok, hi, hw, h0, hv⟩ <;> rw [hv] at h1
      · exact I.backed n t u.hget j v h1 h2
      · by_cases e : j = i
        · subst e
          rw [List.getElem?_set_self (List.getElem?_eq_some_iff.mp h0).1] at h1
          cases h1
          exact ⟨l, w, ok, hw, rfl, Op.info_eq_rep hi ▸ hop⟩
        · rw [List.getElem?_set_ne (Ne.symm e)] at h1
          exact I.backed n t u.hget j v h1 h2
    obtain ⟨op0, h1, h2⟩ := I.origin n t u.hget
    refine I.extend wf' (forall_alookup_upsert I.backed hbX)
      (forall_alookup_upsert (k := n) (v := X) I.origin (by rw [u.hX]; exact ⟨op0, h1, h2⟩)) ?_
    cases pay with
    | none => nofun
    | mint hf hXf hl =>
      exact List.forall_mem_singleton.mpr
        ⟨twoThirds_of_backed hc true u.tok.wits u.tok.len hbX (of_decide_eq_true hXf), op0, h1, t.typ, h2, hl, rfl⟩
    | refund hf hXf ht =>
      exact List.forall_mem_singleton.mpr
        ⟨twoThirds_of_backed hc false u.tok.wits u.tok.len hbX (of_decide_eq_true hXf), ⟨op0, h1, ht ▸ h2⟩, rfl⟩

end

theorem invH_empty (c : Cfg) : InvH c St.empty [] [] :=
  ⟨wf_empty c, (fun _ _ h => nomatch h), (fun _ _ h => nomatch h), nofun, nofun⟩

theorem run_invH {c : Cfg} (hc : c.WF) (ops : List Op) : ∀ (s : St) (done : List Op) (evs : List Event),
    InvH c s done evs → InvH c (run c s ops).1 (done ++ ops) (evs ++ (run c s ops).2) :=
  fun _ _ _ I => run_preserves hc (P := InvH c) (fun _ I => I.mono fun _ h => List.mem_append_left _ h)
    (fun ho _ I h => invH_eff hc I h ho) ops I.wf I

/-! ## the block-end loop -/

theorem endNames_some {c : Cfg} : ∀ (ns : List Name) {s : St}, St.WF c s → ns.Nodup →
    (∀ n ∈ ns, has s.ongoing n = true) → ∃ s', endNames s ns = some s'
  | [], s, _, _, _ => ⟨s, rfl⟩
  | n :: ns, s, wf, hnd, hin => by
    obtain ⟨s1, h1⟩ := endOne_some wf (hin n (List.mem_cons_self ..))
    have hnd' := List.nodup_cons.mp hnd
    -- the iteration for `n` leaves the other names in the ongoing store
    have hin' : ∀ m ∈ ns, has s1.ongoing m = true := fun m hm => by
      have e : m ≠ n := fun e => hnd'.1 (e ▸ hm)
      have hm := hin m (List.mem_cons_of_mem _ hm)
      obtain ⟨t, -, ⟨-, rfl⟩ | ⟨-, rfl⟩ | ⟨-, -, rfl | ⟨st', rfl, -⟩⟩⟩ := endOne_cases h1
      · simp [has_aerase, e, hm]
      · simp [has_aerase, e, hm]
      · exact hm
      · simp [has_upsert, hm]
    obtain ⟨s2, h2⟩ := endNames_some ns (wf_eff wf (endOne_eff wf .other h1)) hnd'.2 hin'
    exact ⟨s2, by simp [endNames, h1, h2]⟩

theorem endNames_bal : ∀ (ns : List Name) {s s' : St}, endNames s ns = some s' → s'.bal = s.bal
  | [], _, _, h => by cases h; rfl
  | _ :: ns, _, _, h => by
    obtain ⟨s1, h1, h2⟩ := endNames_cons h
    rw [endNames_bal ns h2]
    obtain ⟨t, -, ⟨-, rfl⟩ | ⟨-, rfl⟩ | ⟨-, -, rfl | ⟨st', rfl, -⟩⟩⟩ := endOne_cases h1 <;> rfl

def Tracker.decided (t : Tracker) : Prop := t.state = .released ∨ t.state = .failed

theorem endOne_decided {c : Cfg} {s s1 : St} {n : Name} (wf : St.WF c s) (h : endOne s n = some s1)
    (m : Name) (t : Tracker) (hm : alookup m s1.ongoing = some t) (hd : t.decided) :
    m ≠ n ∧ alookup m s.ongoing = some t := by
  obtain ⟨t0, hget, ⟨-, rfl⟩ | ⟨-, rfl⟩ | ⟨h1, h2, rfl | ⟨st', rfl, h3, h4, -⟩⟩⟩ := endOne_cases h
  · exact of_guard ((alookup_aerase ..).symm.trans hm)
  · exact of_guard ((alookup_aerase ..).symm.trans hm)
  · exact ⟨fun e => by subst e; rw [hget] at hm; cases hm; exact hd.elim h1 h2, hm⟩
  · rw [setOngoing_ongoing, show Tracker.name _ = n from (wf n t0 hget).name] at hm
    rcases ite_eq_iff.mp ((alookup_upsert ..).symm.trans hm) with ⟨_, e⟩ | h
    · cases e; exact (hd.elim h3 h4).elim
    · exact h

theorem endNames_decided {c : Cfg} : ∀ (ns : List Name) {s s' : St}, St.WF c s → endNames s ns = some s' →
    ∀ m t, alookup m s'.ongoing = some t → t.decided → m ∉ ns ∧ alookup m s.ongoing = some t
  | [], _, _, _, h, _, _, hm, _ => by cases h; exact ⟨nofun, hm⟩
  | n :: ns, _, _, wf, h, m, t, hm, hd => by
    obtain ⟨s1, h1, h2⟩ := endNames_cons h
    obtain ⟨h3, h4⟩ := endNames_decided ns (wf_eff wf (endOne_eff wf .other h1)) h2 m t hm hd
    obtain ⟨h5, h6⟩ := endOne_decided wf h1 m t h4 hd
    exact ⟨by simp [h3, h5], h6⟩

/-! ## example configuration and histories (for the non-vacuity and regression examples of C15) -/

def exCfg : Cfg := { witnesses := [11, 12, 13], supply := 99, ethCap := 1000, tokCap := 1000 }

theorem exCfg_wf : exCfg.WF := ⟨by decide⟩

/-- account 1 locks 40 wei (external tx 7); the three witnesses report success naming account 1 -/
def exHonest : List Op :=
  [.lock false 0 1 7 40, .report 7 1 11 0 true, .report 7 1 12 1 true, .report 7 1 13 2 true, .endBlock [7]]

/-- as above, but the report that crosses the threshold names account 2 (harmless since 0a509b2) -/
def exLiar : List Op :=
  [.lock false 0 1 7 40, .report 7 1 11 0 true, .report 7 1 12 1 true, .report 7 2 13 2 true]

/-- an ERC20 lock (external tx 8, 30 tokens) is minted and archived; the resubmission is refused
    (before repair 9de5f06 it was accepted and minted again) -/
def exDoubleMint : List Op :=
  [.lock true 0 1 8 30, .report 8 1 11 0 true, .report 8 1 12 1 true, .report 8 1 13 2 true, .endBlock [8],
   .lock true 0 1 8 30, .report 8 1 11 0 true, .report 8 1 12 1 true, .report 8 1 13 2 true]

/-- an ETH redeem after a mint: debit, the three witnesses report failure, refund -/
def exRefund : List Op :=
  exHonest ++ [.redeem false 0 false 1 9 25, .report 9 1 11 0 false, .report 9 1 12 1 false, .report 9 1 13 2 false,
    .endBlock [9]]

/-- ETH and ERC20 locks are minted to account 1; an ETH redeem (external tx 9) fails and is archived
    in the failed store; an ERC20 redeem carrying the same external transaction is refused (before
    repair efdfa81 runERC20Reddem did not consult the failed store and accepted it) -/
def exTwoRecords : List Op :=
  [.lock false 0 1 7 40, .report 7 1 11 0 true, .report 7 1 12 1 true, .report 7 1 13 2 true,
   .lock true 0 1 8 30, .report 8 1 11 0 true, .report 8 1 12 1 true, .report 8 1 13 2 true, .endBlock [7, 8],
   .redeem false 0 false 1 9 5, .report 9 1 11 0 false, .report 9 1 12 1 false, .report 9 1 13 2 false, .endBlock [9],
   .redeem true 0 false 1 9 5]

end OLP.Eth
