/-
  OLP.Stake.Lemmas — the invariant groups of the stake model together, for the C11 property
  theorems (OLP/Props/C11.lean), with their guards made decidable.  `Cons`, `Paid` and `MatInv`
  hold of every history; `NonNeg` needs sane genesis amounts, `SchedAt` a maturity option ≥ 0 (≥ 1 in
  block 1), `Rec` a finite universe, the supply bound, duplicate-free verdict lists and
  0 ≤ pen ≤ total.
-/
import OLP.Stake.Cons
import OLP.Stake.Mat
import OLP.Stake.Rec

namespace OLP.Stake

theorem gMaturing_nonneg {s : St} (h : MatInv s) (hn : NonNeg s) (d : Addr) : 0 ≤ s.gMaturing d :=
  h.maturing d ▸ sumL_nonneg fun k _ => amtOf_nonneg d (s.mat k) (hn.mat k)

/-! ## the guards are decidable (used by the non-vacuity examples: `decide` on concrete histories) -/

def decForallSome {α : Type} (o : Option α) (P : α → Prop) [∀ a, Decidable (P a)] :
    Decidable (∀ a, o = some a → P a) :=
  match o with
  | none => isTrue (fun _ h => by cases h)
  | some x =>
    if h : P x then isTrue (fun a e => by cases e; exact h)
    else isFalse (fun f => h (f x rfl))

instance (U : List Addr) (s : St) (v d : Addr) (a : Int) : Decidable (StakeGuard U s v d a) :=
  @instDecidableAnd _ _ inferInstance
    (@instDecidableAnd _ _ inferInstance
      (decForallSome (s.vals v) (fun r => r.staking + a < two63)))

-- a wildcard arm would be elaborated with a variable `t`, for which the guard does not reduce
instance (U : List Addr) (s : St) : (t : Tx) → Decidable (RecGuard U s t)
  | .stake v d a => (inferInstance : Decidable ((txStake s v d a).2 = .ok → StakeGuard U s v d a))
  | .genesisStake v d a =>
    @instDecidableAnd _ _ inferInstance
      (@instDecidableAnd _ _ inferInstance
        (@instDecidableAnd _ _ (decForallSome (s.vals v) (fun r => r.sa = d))
          (inferInstance : Decidable ((runGenesisStake s v d a).2 = .ok → StakeGuard U s v d a))))
  | .unstake _ _ _ => isTrue trivial
  | .withdraw _ _ _ => isTrue trivial
  | .freeze _ => isTrue trivial
  | .release _ => isTrue trivial
  | .allege _ => isTrue trivial
  | .closeRequest _ => isTrue trivial
  | .setMaturity _ => isTrue trivial
  | .credit _ _ => isTrue trivial
  | .setIterVals _ => isTrue trivial

instance (s : St) : (t : Tx) → Decidable (MatGuard s t)
  | .setMaturity m => (inferInstance : Decidable (0 ≤ m ∧ (s.height ≤ 1 → 1 ≤ m)))
  | .stake _ _ _ => isTrue trivial
  | .unstake _ _ _ => isTrue trivial
  | .withdraw _ _ _ => isTrue trivial
  | .genesisStake _ _ _ => isTrue trivial
  | .freeze _ => isTrue trivial
  | .release _ => isTrue trivial
  | .allege _ => isTrue trivial
  | .closeRequest _ => isTrue trivial
  | .credit _ _ => isTrue trivial
  | .setIterVals _ => isTrue trivial

instance (s : St) (b : Block) : Decidable (EndGuard s b) :=
  (inferInstance : Decidable b.guilty.Nodup)

instance (t : Tx) : Decidable t.GenesisSane := by
  cases t <;> dsimp only [Tx.GenesisSane] <;> infer_instance

instance (b : Block) : Decidable b.GenesisSane :=
  inferInstanceAs (Decidable (∀ t ∈ b.txs, t.GenesisSane))

def decTxsOK (G : St → Tx → Prop) [∀ s t, Decidable (G s t)] :
    (s : St) → (txs : List Tx) → Decidable (TxsOK G s txs)
  | _, [] => isTrue trivial
  | s, t :: ts => @instDecidableAnd _ _ inferInstance (decTxsOK G (stepTx s t).1 ts)

instance (G : St → Tx → Prop) [∀ s t, Decidable (G s t)] (s : St) (txs : List Tx) :
    Decidable (TxsOK G s txs) := decTxsOK G s txs

instance (G : St → Tx → Prop) (B : St → Block → Prop) [∀ s t, Decidable (G s t)]
    [∀ s b, Decidable (B s b)] (s : St) (b : Block) : Decidable (BlockOK G B s b) :=
  (inferInstance : Decidable (TxsOK G (beginBlock s (s.height + 1)) b.txs ∧
    B (runTxs (beginBlock s (s.height + 1)) b.txs) b))

def decRunOK (G : St → Tx → Prop) (B : St → Block → Prop) [∀ s t, Decidable (G s t)]
    [∀ s b, Decidable (B s b)] (c : Cfg) :
    (s : St) → (bs : List Block) → Decidable (RunOK G B c s bs)
  | _, [] => isTrue trivial
  | s, b :: bs => @instDecidableAnd _ _ inferInstance (decRunOK G B c (execBlock c s b) bs)

instance (G : St → Tx → Prop) (B : St → Block → Prop) [∀ s t, Decidable (G s t)]
    [∀ s b, Decidable (B s b)] (c : Cfg) (s : St) (bs : List Block) :
    Decidable (RunOK G B c s bs) := decRunOK G B c s bs

end OLP.Stake
