/-
  OLP.Stake.NonNeg — no stake record is ever negative.
-/
import OLP.Stake.Step

namespace OLP.Stake

/-- the entries of the genesis document are not validated by any handler: the amounts of
    `genesisStake` are assumed sane (a trusted input, as the genesis balances are) -/
def Tx.GenesisSane : Tx → Prop
  | .genesisStake _ _ a => 0 ≤ a ∧ a < two63
  | _ => True

/-- genesis entries of the block are sane (no other hypothesis on amounts is needed: what gets
    past `Validate` is in range) -/
def Block.GenesisSane (b : Block) : Prop := ∀ t ∈ b.txs, t.GenesisSane

structure NonNeg (s : St) : Prop where
  vd : ∀ v d, 0 ≤ s.vd v d
  tot : ∀ v, 0 ≤ s.tot v
  eff : ∀ d, 0 ≤ s.eff d
  bnd : ∀ d, 0 ≤ s.bnd d
  mat : ∀ k e, e ∈ s.mat k → 0 ≤ e.2

theorem nonNeg_empty (m : Int) : NonNeg (St.empty m) := by
  constructor <;> simp [St.empty]

section
variable {s s' : St}

/-- STAKE, UNSTAKE and a verdict all move one amount `δ` in the three records of `(v, d)`.  The
    trailing equations are discharged by `rfl` when `s'` is an explicit record update: calls omit them. -/
theorem NonNeg.bump (h : NonNeg s) (v d : Addr) (δ : Int) (hm : ∀ k e, e ∈ s'.mat k → 0 ≤ e.2)
    (h1 : 0 ≤ s.tot v + δ) (h2 : 0 ≤ s.vd v d + δ) (h3 : 0 ≤ s.eff d + δ)
    (ht : s'.tot = upd s.tot v (s.tot v + δ) := by rfl)
    (hvd : s'.vd = upd2 s.vd v d (s.vd v d + δ) := by rfl)
    (he : s'.eff = upd s.eff d (s.eff d + δ) := by rfl) (hb : s'.bnd = s.bnd := by rfl) :
    NonNeg s' := by
  refine ⟨fun v' d' => ?_, fun v' => ?_, fun d' => ?_, hb ▸ h.bnd, hm⟩
  · rw [hvd]; exact upd2_ind (fun _ => h2) fun _ => h.vd v' d'
  · rw [ht]; exact upd_ind (fun _ => h1) fun _ => h.tot v'
  · rw [he]; exact upd_ind (fun _ => h3) fun _ => h.eff d'

theorem nonNeg_staked (h : NonNeg s) {v d : Addr} {a : Int} {u : Bool} {b : Addr → Int} {p : Int}
    (h0 : 0 ≤ a) : NonNeg (staked s v d a u b p) :=
  h.bump v d a h.mat (Int.add_nonneg (h.tot v) h0) (Int.add_nonneg (h.vd v d) h0)
    (Int.add_nonneg (h.eff d) h0)

theorem nonNeg_tx {t : Tx} {p : St × Code} (h : NonNeg s) (ha : t.GenesisSane) (e : TxEffect s t p) :
    NonNeg p.1 := by
  cases e with
  | fail => exact h
  | stake v d a g => exact nonNeg_staked h g.nonneg
  | gstake v d a => exact nonNeg_staked h ha.1
  | unstake v d a r g =>
    refine h.bump v d (-a) (fun k e he => ?_) (Int.sub_nonneg_of_le g.tot)
      (Int.sub_nonneg_of_le g.vd) (Int.sub_nonneg_of_le g.eff)
    revert he
    refine upd_ind (P := fun l => e ∈ l → 0 ≤ e.2) (fun _ he => ?_) (fun _ => h.mat k e)
    rcases List.mem_append.mp ((perm_sortByAddr _).mem_iff.mp he) with he | he
    · exact h.mat _ e he
    · cases List.mem_singleton.mp he; exact Int.le_of_lt g.pos
  | withdraw v d a g =>
    exact { h with bnd := fun d' => upd_ind (fun _ => Int.sub_nonneg_of_le g.bnd) fun _ => h.bnd d' }
  | _ => exact { h with }

theorem nonNeg_sweep (h : NonNeg s) (dl p : List Addr) : NonNeg (sweep s dl p) := by
  refine { h with bnd := fun d => ?_, mat := fun k e => ?_ }
  · exact le_of_le_of_eq (Int.add_nonneg (h.bnd d) (amtOf_nonneg d _ (h.mat _)))
      (creditAll_apply ..).symm
  · exact upd_ind (P := fun l => e ∈ l → 0 ≤ e.2) (fun _ he => nomatch he) fun _ => h.mat k e

theorem nonNeg_slash {c : Cfg} (h : NonNeg s) (v : Addr) : NonNeg (slash c s v) := by
  rcases slash_cases c s v with ⟨q, e⟩ | ⟨sa, hm, e⟩ <;> rw [e]
  · exact { h with }
  · exact h.bump v sa (-c.pen (s.tot v)) h.mat (Int.sub_nonneg_of_le hm.tot) (Int.sub_nonneg_of_le hm.vd)
      (Int.sub_nonneg_of_le hm.eff)

theorem nonNeg_run (c : Cfg) (h : NonNeg s) (bs : List Block) (hb : ∀ b ∈ bs, b.GenesisSane) :
    NonNeg (run c s bs) :=
  run_invariant NonNeg (fun h _ => { h with }) nonNeg_tx nonNeg_sweep nonNeg_slash
    (fun h => { h with }) s bs h (.of_mem hb s)

end

end OLP.Stake
