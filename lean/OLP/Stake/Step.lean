/-
  OLP.Stake.Step — what each operation of the model does, in closed form.  A staking transaction
  either changes nothing and reports a failure, or its guards held and the new state is an
  explicit record update; an event of the environment leaves the stake records alone
  (`TxEffect`).  Likewise `MinusFromAddress` (`minus_cases`) and a verdict (`slash_cases`).  Every
  invariant is proved against these descriptions and carried over blocks and histories by the
  induction principles at the end.

  Idiom: for `h : Inv s`, `{ h with f := … }` proves `Inv s'`: the other fields are those of `h`,
  well typed because the record update `s'` agrees with `s` on what they read.
-/
import OLP.Stake.Basic

namespace OLP.Stake

set_option hygiene false in
/-- `by_eq a b`: case split on `a = b`, the hypothesis is called `hEq` -/
macro "by_eq " a:term:max b:term:max : tactic => `(tactic| by_cases hEq : $a = $b)

/-! ## `Validate` -/

theorem validateStake_cases (s : St) (d : Addr) (a : Int) :
    (∃ c, c ≠ .ok ∧ validateStake s d a = some c) ∨
    (0 ≤ a ∧ a < two63 ∧ coinOf a = a * oltBase ∧ a * oltBase ≤ s.bal d ∧
      validateStake s d a = none) := by
  unfold validateStake
  by_cases hi : isInt64 a = true
  · have hc := coinOf_of_isInt64 hi
    rw [if_neg (by rw [hi]; decide), hc]
    by_cases h1 : a * oltBase < 0
    · exact .inl ⟨.invalidamount, nofun, if_pos h1⟩
    by_cases h2 : s.bal d - a * oltBase < 0
    · exact .inl ⟨.nofunds, nofun, (if_neg h1).trans (if_pos h2)⟩
    refine .inr ⟨?_, ((isInt64_iff a).mp hi).2, rfl, Int.sub_nonneg.mp (Int.not_lt.mp h2),
      (if_neg h1).trans (if_neg h2)⟩
    exact Int.le_of_not_gt fun hn => h1 (Int.mul_neg_of_neg_of_pos hn oltBase_pos)
  · exact .inl ⟨.invalidamount, nofun, if_pos (by simpa using hi)⟩

theorem validateOut_cases (s : St) (v d : Addr) (a : Int) :
    (∃ c, c ≠ .ok ∧ validateOut s v d a = some c) ∨
    (¬ otherAddr s v d ∧ 0 < a ∧ a < two63 ∧ coinOf a = a * oltBase ∧
      validateOut s v d a = none) := by
  unfold validateOut
  by_cases ho : otherAddr s v d = true
  · exact .inl ⟨.mismatch, nofun, if_pos ho⟩
  rw [if_neg ho]
  by_cases hi : isInt64 a = true
  · have hc := coinOf_of_isInt64 hi
    rw [if_neg (by rw [hi]; decide), hc]
    by_cases h1 : a * oltBase ≤ 0
    · exact .inl ⟨.invalidamount, nofun, if_pos h1⟩
    refine .inr ⟨ho, ?_, ((isInt64_iff a).mp hi).2, rfl, if_neg h1⟩
    exact Int.lt_of_not_ge fun hn =>
      h1 (Int.mul_nonpos_of_nonpos_of_nonneg hn (Int.le_of_lt oltBase_pos))
  · exact .inl ⟨.invalidamount, nofun, if_pos (by simpa using hi)⟩

/-! ## the "stake address in use" rule -/

theorem hasPending_false {s : St} {addr : Addr} {h count : Int}
    (hp : hasPending s addr h count = false) (i : Nat) (hi : (i : Int) < count) :
    ∀ e ∈ s.mat (h + i), e.1 = addr → e.2 = 0 := by
  unfold hasPending at hp
  rw [List.any_eq_false] at hp
  have := hp i (List.mem_range.mpr (Int.lt_toNat.mpr hi))
  rw [Bool.not_eq_true, List.any_eq_false] at this
  intro e he hea
  simpa [hea] using this e he

theorem isClean_iff (s : St) (v : Addr) (r : VRec) :
    isClean s v r = true ↔ s.vd v r.sa = 0 ∧
      hasPending s r.sa s.height (s.maturity + 1) = false ∧ s.bnd r.sa = 0 := by
  simp [isClean, and_assoc]

theorem inUse_rule {s : St} {v d : Addr} (hu : ¬ inUse s v d) {r : VRec} (hr : s.vals v = some r)
    (hne : r.sa ≠ d) : isClean s v r = true := by
  unfold inUse at hu
  rw [hr] at hu
  simpa [hne] using hu

/-! ## `MinusFromAddress` and the states the handlers produce -/

/-- what `MinusFromAddress` checks before it takes `a` from the three records of `(v, d)` -/
structure CanMinus (s : St) (v d : Addr) (a : Int) : Prop where
  tot : a ≤ s.tot v
  vd : a ≤ s.vd v d
  eff : a ≤ s.eff d

theorem minus_cases (s : St) (v d : Addr) (a : Int) :
    minusFromAddress s v d a = (s, false) ∨
    (CanMinus s v d a ∧ minusFromAddress s v d a = (addToAddress s v d (-a), true)) := by
  unfold minusFromAddress
  by_cases h : s.tot v - a < 0 ∨ s.vd v d - a < 0 ∨ s.eff d - a < 0
  · exact .inl (if_pos h)
  · have le := fun {x : Int} (hx : ¬ x - a < 0) => Int.sub_nonneg.mp (Int.not_lt.mp hx)
    exact .inr ⟨⟨le fun h' => h (.inl h'), le fun h' => h (.inr (.inl h')),
      le fun h' => h (.inr (.inr h'))⟩, if_neg h⟩

/-- the record written by `HandleStake` -/
def stakeRec (s : St) (v d : Addr) (a : Int) (u : Bool) : VRec :=
  match s.vals v with
  | none => ⟨a, powerOf a, d⟩
  | some r => ⟨r.staking + a, powerOf (r.staking + a), if u then d else r.sa⟩

/-- the state after a successful stake of `a` paid with `p`, the balances then being `b` -/
def staked (s : St) (v d : Addr) (a : Int) (u : Bool) (b : Addr → Int) (p : Int) : St :=
  { s with tot := upd s.tot v (s.tot v + a), vd := upd2 s.vd v d (s.vd v d + a),
           eff := upd s.eff d (s.eff d + a),
           vals := upd s.vals v (some (stakeRec s v d a u)), bal := b,
           gStaked := upd s.gStaked d (s.gStaked d + a),
           gPaidIn := upd s.gPaidIn d (s.gPaidIn d + p) }

def unstaked (s : St) (v d : Addr) (a : Int) (r : VRec) : St :=
  { s with tot := upd s.tot v (s.tot v - a), vd := upd2 s.vd v d (s.vd v d - a),
           eff := upd s.eff d (s.eff d - a),
           mat := upd s.mat (s.height + s.maturity)
                    (sortByAddr (s.mat (s.height + s.maturity) ++ [(d, a)])),
           vals := upd s.vals v (some ⟨r.staking - a, powerOf (r.staking - a), r.sa⟩),
           gMaturing := upd s.gMaturing d (s.gMaturing d + a),
           gSched := upd2 s.gSched (s.height + s.maturity) d
                      (s.gSched (s.height + s.maturity) d + a),
           gKeys := if (s.height + s.maturity) ∈ s.gKeys then s.gKeys
                    else (s.height + s.maturity) :: s.gKeys }

def withdrawn (s : St) (d : Addr) (a : Int) : St :=
  { s with bnd := upd s.bnd d (s.bnd d - a),
           bal := upd s.bal d (s.bal d + a * oltBase),
           gWithdrawn := upd s.gWithdrawn d (s.gWithdrawn d + a),
           gPaidOut := upd s.gPaidOut d (s.gPaidOut d + a * oltBase) }

/-! ## what one transaction does -/

/-- what `Validate` and `runCheckStake` established when a STAKE went through -/
structure CanStake (s : St) (v d : Addr) (a : Int) : Prop where
  nonneg : 0 ≤ a
  lt : a < two63
  frozen : ¬ s.frozen v
  inUse : ¬ inUse s v d
  bal : a * oltBase ≤ s.bal d
  purge : ¬ purgeBlocks s v s.height

structure CanUnstake (s : St) (v d : Addr) (a : Int) (r : VRec) : Prop where
  record : s.vals v = some r
  sa : r.sa = d
  pos : 0 < a
  lt : a < two63
  frozen : ¬ s.frozen v
  req : ¬ s.req v
  tot : a ≤ s.tot v
  vd : a ≤ s.vd v d
  eff : a ≤ s.eff d
  purge : ¬ purgeBlocks s v s.height

structure CanWithdraw (s : St) (v d : Addr) (a : Int) : Prop where
  pos : 0 < a
  lt : a < two63
  sa : ¬ otherAddr s v d
  frozen : ¬ s.frozen v
  owner : ¬ frozenOwner s d
  bnd : a ≤ s.bnd d

def Tx.isEnv : Tx → Prop
  | .stake .. | .unstake .. | .withdraw .. | .genesisStake .. => False
  | _ => True

/-- the effect of one transaction on the stake records: nothing (any failure), the explicit update
    of a success together with what `Validate` and the handler's guards established, or an event
    of the environment, which leaves them alone (and only `setMaturity` changes the maturity) -/
inductive TxEffect (s : St) : Tx → St × Code → Prop
  | fail {t : Tx} {c : Code} (hc : c ≠ .ok) : TxEffect s t (s, c)
  | stake (v d : Addr) (a : Int) (g : CanStake s v d a) :
      TxEffect s (.stake v d a)
        (staked s v d a (otherAddr s v d) (upd s.bal d (s.bal d - a * oltBase)) (a * oltBase), .ok)
  | gstake (v d : Addr) (a : Int) (hp : ¬ purgeBlocks s v 0) :
      TxEffect s (.genesisStake v d a) (staked s v d a false s.bal (a * oltBase), .ok)
  | unstake (v d : Addr) (a : Int) (r : VRec) (g : CanUnstake s v d a r) :
      TxEffect s (.unstake v d a) (unstaked s v d a r, .ok)
  | withdraw (v d : Addr) (a : Int) (g : CanWithdraw s v d a) :
      TxEffect s (.withdraw v d a) (withdrawn s d a, .ok)
  | env {t : Tx} {f q : Addr → Bool} {m : Int} {b : Addr → Int} {l : List Addr} (ht : t.isEnv)
      (hm : m = s.maturity ∨ t = .setMaturity m) :
      TxEffect s t ({ s with frozen := f, req := q, maturity := m, bal := b, iterVals := l }, .ok)

theorem stakeCore_cases (s : St) (v d : Addr) (a : Int) (u : Bool) (h : Int) :
    stakeCore s v d a u h = none ∨
    (¬ purgeBlocks s v h ∧ ∃ s', stakeCore s v d a u h = some s' ∧
      ∀ p, ghostStake s' d a p = staked s v d a u s.bal p) := by
  by_cases hp : purgeBlocks s v h = true
  · exact .inl (if_pos hp)
  · exact .inr ⟨hp, _, if_neg hp, fun _ => rfl⟩

theorem runGenesisStake_effect (s : St) (v d : Addr) (a : Int) :
    TxEffect s (.genesisStake v d a) (runGenesisStake s v d a) := by
  unfold runGenesisStake
  rcases stakeCore_cases s v d a false 0 with e | ⟨hp, s', e, hs⟩ <;> rw [e]
  · exact .fail nofun
  · show TxEffect s _ (ghostStake s' d a _, .ok)
    rw [hs]
    exact .gstake v d a hp

theorem txStake_effect (s : St) (v d : Addr) (a : Int) :
    TxEffect s (.stake v d a) (txStake s v d a) := by
  unfold txStake
  rcases validateStake_cases s d a with ⟨c, hc, e⟩ | ⟨h0, hlt, hc, hb, e⟩ <;> rw [e]
  · exact .fail hc
  show TxEffect s _ (runStake s v d a)
  unfold runStake
  rw [hc]
  refine ite_ind (fun _ => .fail nofun) fun hf => ite_ind (fun _ => .fail nofun) fun hu =>
    ite_ind (fun _ => .fail nofun) fun _ => ?_
  show TxEffect s _ (match stakeCore _ v d a _ _ with
    | none => (s, .purge)
    | some s' => (ghostStake s' d a (a * oltBase), .ok))
  rcases stakeCore_cases { s with bal := upd s.bal d (s.bal d - a * oltBase) } v d a
    (otherAddr s v d) s.height with e | ⟨hp, s', e, hs⟩ <;> rw [e]
  · exact .fail nofun
  · show TxEffect s _ (ghostStake s' d a _, .ok)
    rw [hs]
    exact .stake v d a ⟨h0, hlt, hf, hu, hb, hp⟩

theorem txUnstake_effect (s : St) (v d : Addr) (a : Int) :
    TxEffect s (.unstake v d a) (txUnstake s v d a) := by
  unfold txUnstake
  rcases validateOut_cases s v d a with ⟨c, hc, e⟩ | ⟨ho, h0, hlt, _, e⟩ <;> rw [e]
  · exact .fail hc
  show TxEffect s _ (runUnstake s v d a)
  unfold runUnstake
  refine ite_ind (fun _ => .fail nofun) fun hf => ite_ind (fun _ => .fail nofun) fun hr => ?_
  rcases minus_cases s v d a with e | ⟨hm, e⟩ <;> rw [e]
  · exact .fail nofun
  show TxEffect s _ (match s.vals v with
    | none => (s, .novalidator)
    | some r => if purgeBlocks s v s.height then (s, .purge) else (unstaked s v d a r, .ok))
  cases hv : s.vals v with
  | none => exact .fail nofun
  | some r =>
    refine ite_ind (fun _ => .fail nofun) fun hp => ?_
    have hsa : r.sa = d := by simpa [otherAddr, hv] using ho
    exact .unstake v d a r ⟨hv, hsa, h0, hlt, hf, hr, hm.tot, hm.vd, hm.eff, hp⟩

theorem txWithdraw_effect (s : St) (v d : Addr) (a : Int) :
    TxEffect s (.withdraw v d a) (txWithdraw s v d a) := by
  unfold txWithdraw
  rcases validateOut_cases s v d a with ⟨c, hc, e⟩ | ⟨ho, h0, hlt, hc, e⟩ <;> rw [e]
  · exact .fail hc
  show TxEffect s _ (runWithdraw s v d a)
  unfold runWithdraw
  rw [hc]
  exact ite_ind (fun _ => .fail nofun) fun hf => ite_ind (fun _ => .fail nofun) fun hfo =>
    ite_ind (fun _ => .fail nofun) fun hb =>
      .withdraw v d a ⟨h0, hlt, ho, hf, hfo, Int.sub_nonneg.mp (Int.not_lt.mp hb)⟩

/-- `generalize stepTx s t = p at e ⊢` before `cases e`, which cannot solve `stepTx s t = (_, c)` -/
theorem stepTx_effect (s : St) (t : Tx) : TxEffect s t (stepTx s t) := by
  cases t with
  | stake v d a => exact txStake_effect s v d a
  | unstake v d a => exact txUnstake_effect s v d a
  | withdraw v d a => exact txWithdraw_effect s v d a
  | genesisStake v d a => exact runGenesisStake_effect s v d a
  | setMaturity m => exact .env (by trivial) (.inr rfl)
  | _ => exact .env (by trivial) (.inl rfl)

def Accepted (s : St) : Tx → Prop
  | .stake v d a => CanStake s v d a
  | .unstake v d a => ∃ r, CanUnstake s v d a r
  | .withdraw v d a => CanWithdraw s v d a
  | _ => True

theorem refused_or_accepted (s : St) (t : Tx) :
    ((stepTx s t).1 = s ∧ (stepTx s t).2 ≠ .ok) ∨ Accepted s t := by
  have e := stepTx_effect s t
  generalize stepTx s t = p at e
  cases e with
  | fail hc => exact .inl ⟨rfl, hc⟩
  | stake _ _ _ g => exact .inr g
  | unstake _ _ _ r g => exact .inr ⟨r, g⟩
  | withdraw _ _ _ g => exact .inr g
  | gstake => exact .inr trivial
  | env ht =>
    -- a staking transaction is no event of the environment; the other kinds have no guard
    cases t <;> first | exact ht.elim | exact .inr trivial

/-! ## what a verdict does -/

/-- the state after a verdict against `v` whose penalty `p` was taken from the stake address `sa` -/
def slashed (s : St) (v sa : Addr) (p : Int) : St :=
  { s with frozen := upd s.frozen v true,
           tot := upd s.tot v (s.tot v - p), vd := upd2 s.vd v sa (s.vd v sa - p),
           eff := upd s.eff sa (s.eff sa - p),
           delayed := upd2 s.delayed s.height v (some p),
           req := upd s.req v false,
           gPenal := upd s.gPenal sa (s.gPenal sa + p) }

/-- A verdict takes nothing (no record of the previous block, or `MinusFromAddress` refused), or
    the whole penalty from the three records of the stake address. -/
theorem slash_cases (c : Cfg) (s : St) (v : Addr) :
    (∃ q, slash c s v = { s with frozen := upd s.frozen v true, req := q }) ∨
    (∃ sa, CanMinus s v sa (c.pen (s.tot v)) ∧ slash c s v = slashed s v sa (c.pen (s.tot v))) := by
  unfold slash
  cases s.prev v with
  | none => exact .inl ⟨_, rfl⟩
  | some r' =>
    rcases minus_cases { s with frozen := upd s.frozen v true } v (slashAddr s v r')
      (c.pen (s.tot v)) with e | ⟨hm, e⟩
    · -- nothing taken: `gPenal` grows by `eff − eff`
      refine .inl ⟨upd s.req v false, ?_⟩
      simp only [e, Int.sub_self, Int.add_zero, upd_self]
      rfl
    · refine .inr ⟨_, { hm with }, ?_⟩
      have hx : ∀ x p : Int, x - (x + -p) = p := by lia
      simp only [e, addToAddress, upd_same, hx]
      rfl

/-! ## BeginBlock and EndBlock -/

theorem beginBlock_vals (s : St) (v : Addr) :
    ((beginBlock s (s.height + 1)).vals v = s.vals v ∧
      (s.vals v = none ∨ s.delayed s.height v = none)) ∨
    ∃ r p, s.vals v = some r ∧ s.delayed s.height v = some p ∧
      (beginBlock s (s.height + 1)).vals v = some ⟨r.staking - p, powerOf (r.staking - p), r.sa⟩ := by
  simp only [beginBlock, Int.add_sub_cancel]
  cases s.vals v with
  | none => exact .inl ⟨rfl, .inl rfl⟩
  | some r =>
    cases s.delayed s.height v with
    | none => exact .inl ⟨rfl, .inr rfl⟩
    | some p => exact .inr ⟨r, p, rfl, rfl, rfl⟩

/-- the first half of EndBlock in one record: powerless records deleted, purge heights written,
    the amounts maturing at this height unlocked; the verdicts follow -/
def sweep (s : St) (dl p : List Addr) : St :=
  { s with vals := (deleteZeroPower s dl).vals, purge := (writePurge s p).purge,
           bnd := creditAll s.bnd (s.mat s.height), mat := upd s.mat s.height [],
           gUnlocked := creditAll s.gUnlocked (s.mat s.height),
           gMaturing := debitAll s.gMaturing (s.mat s.height) }

theorem endBlock_eq (c : Cfg) (s : St) (g p dl : List Addr) :
    endBlock c s g p dl = if s.height ≤ 1 then s else g.foldl (slash c) (sweep s dl p) := rfl

theorem deleteZeroPower_vals (s : St) (dl : List Addr) (v : Addr) :
    ((deleteZeroPower s dl).vals v = s.vals v) ∨
    ((deleteZeroPower s dl).vals v = none ∧ ∃ r, s.vals v = some r ∧ r.power ≤ 0) := by
  simp only [deleteZeroPower]
  cases s.prev v with
  | none => exact .inl rfl
  | some r' =>
    cases s.vals v with
    | none => exact .inl rfl
    | some r =>
      by_cases hc : r'.power ≤ 0 ∧ r.power ≤ 0 ∧ v ∈ dl
      · exact .inr ⟨if_pos hc, r, rfl, hc.2.1⟩
      · exact .inl (if_neg hc)

/-! ## guards evaluated along a run, and induction over blocks and histories

  A guard `G s t` is a predicate of the state in which transaction `t` is executed.  `TxsOK`,
  `BlockOK`, `RunOK` say that it holds at every step of a block / a history. -/

def TxsOK (G : St → Tx → Prop) : St → List Tx → Prop
  | _, [] => True
  | s, t :: ts => G s t ∧ TxsOK G (stepTx s t).1 ts

/-- the guard holds for the transactions of block `b` executed from boundary state `s`, and the
    block-level condition `B` holds for the state on which EndBlock runs -/
def BlockOK (G : St → Tx → Prop) (B : St → Block → Prop) (s : St) (b : Block) : Prop :=
  TxsOK G (beginBlock s (s.height + 1)) b.txs ∧ B (runTxs (beginBlock s (s.height + 1)) b.txs) b

def RunOK (G : St → Tx → Prop) (B : St → Block → Prop) (c : Cfg) : St → List Block → Prop
  | _, [] => True
  | s, b :: bs => BlockOK G B s b ∧ RunOK G B c (execBlock c s b) bs

theorem run_induction {G : St → Tx → Prop} {B : St → Block → Prop} {c : Cfg} (I : St → Prop)
    (step : ∀ s b, I s → BlockOK G B s b → I (execBlock c s b))
    (s : St) (bs : List Block) (h0 : I s) (hg : RunOK G B c s bs) : I (run c s bs) := by
  induction bs generalizing s with
  | nil => exact h0
  | cons b t ih => exact ih _ (step s b h0 hg.1) hg.2

theorem txs_induction {G : St → Tx → Prop} (I : St → Prop)
    (step : ∀ s t, I s → G s t → I (stepTx s t).1)
    (s : St) (txs : List Tx) (h0 : I s) (hg : TxsOK G s txs) : I (runTxs s txs) := by
  induction txs generalizing s with
  | nil => exact h0
  | cons t ts ih => exact ih _ (step s t h0 hg.1) hg.2

theorem TxsOK.of_mem {G : Tx → Prop} {txs : List Tx} (h : ∀ t ∈ txs, G t) (s : St) :
    TxsOK (fun _ => G) s txs := by
  induction txs generalizing s with
  | nil => trivial
  | cons t ts ih =>
    obtain ⟨ht, hts⟩ := List.forall_mem_cons.mp h
    exact ⟨ht, ih hts _⟩

theorem RunOK.of_mem {G : Tx → Prop} {c : Cfg} {bs : List Block} (h : ∀ b ∈ bs, ∀ t ∈ b.txs, G t)
    (s : St) : RunOK (fun _ => G) (fun _ _ => True) c s bs := by
  induction bs generalizing s with
  | nil => trivial
  | cons b bs ih =>
    obtain ⟨hb, hbs⟩ := List.forall_mem_cons.mp h
    exact ⟨⟨.of_mem hb _, trivial⟩, ih hbs _⟩

theorem RunOK.trivial (c : Cfg) (s : St) (bs : List Block) :
    RunOK (fun _ _ => True) (fun _ _ => True) c s bs :=
  .of_mem (G := fun _ => True) (fun _ _ _ _ => True.intro) s

/-- the verdicts of one EndBlock, for a predicate `K g` indexed by the verdicts still to come -/
theorem foldSlash_induction {c : Cfg} {K : List Addr → St → Prop}
    (step : ∀ {s v g}, K (v :: g) s → K g (slash c s v)) (g : List Addr) (s : St) (h0 : K g s) :
    K [] (g.foldl (slash c) s) := by
  induction g generalizing s with
  | nil => exact h0
  | cons v t ih => exact ih _ (step h0)

/-- One block, for a predicate that changes with the phase: `I` between blocks, `J` while the
    transactions run, `K g` from the sweep to Commit with the verdicts `g` still to come.  EndBlock
    does nothing at height 1 (`hfirst`). -/
theorem execBlock_induction {G : St → Tx → Prop} {B : St → Block → Prop} {c : Cfg}
    {I J : St → Prop} {K : List Addr → St → Prop} {s : St} {b : Block}
    (hbegin : I s → J (beginBlock s (s.height + 1)))
    (htx : ∀ s t, J s → G s t → J (stepTx s t).1)
    (hfirst : ∀ {s}, J s → s.height ≤ 1 → I (commit s))
    (hsweep : ∀ {s}, J s → B s b → 1 < s.height → K b.guilty (sweep s b.deletable b.purged))
    (hverdict : ∀ {s v g}, K (v :: g) s → K g (slash c s v))
    (hcommit : ∀ {s}, K [] s → I (commit s))
    (h : I s) (hb : BlockOK G B s b) : I (execBlock c s b) := by
  have h1 := txs_induction J htx _ b.txs (hbegin h) hb.1
  show I (commit (endBlock c _ _ _ _))
  rw [endBlock_eq]
  exact ite_ind (P := fun s => I (commit s)) (hfirst h1) fun h2 =>
    hcommit (foldSlash_induction hverdict _ _ (hsweep h1 hb.2 (Int.not_le.mp h2)))

theorem run_invariant {G : St → Tx → Prop} {B : St → Block → Prop} {c : Cfg} (I : St → Prop)
    (hbegin : ∀ {s}, I s → ∀ h, I (beginBlock s h))
    (htx : ∀ {s t p}, I s → G s t → TxEffect s t p → I p.1)
    (hsweep : ∀ {s}, I s → ∀ dl p, I (sweep s dl p))
    (hverdict : ∀ {s}, I s → ∀ v, I (slash c s v))
    (hcommit : ∀ {s}, I s → I (commit s))
    (s : St) (bs : List Block) (h0 : I s) (hg : RunOK G B c s bs) : I (run c s bs) :=
  run_induction I (fun _ _ => execBlock_induction (K := fun _ => I) (hbegin · _)
    (fun s t h g => htx h g (stepTx_effect s t)) (fun h _ => hcommit h) (fun h _ _ => hsweep h ..)
    (hverdict · _) hcommit) s bs h0 hg

end OLP.Stake
