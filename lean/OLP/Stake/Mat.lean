/-
  OLP.Stake.Mat — the maturity bookkeeping: the maturing records agree with the ghost schedule
  written by successful unstakes, and amounts become withdrawable exactly at `EndBlock` of the
  scheduled height.
-/
import OLP.Stake.Step

namespace OLP.Stake

theorem amtOf_unstaked (s : St) (v d : Addr) (a : Int) (r : VRec) (k : Int) (d' : Addr) :
    amtOf d' ((unstaked s v d a r).mat k) =
      amtOf d' (s.mat k) + if k = s.height + s.maturity then (if d' = d then a else 0) else 0 := by
  show amtOf d' (upd s.mat _ _ k) = _
  unfold upd; split
  · next h =>
    rw [amtOf_perm d' (perm_sortByAddr _), amtOf_append, h]
    simp only [amtOf, eq_comm (a := d), Int.add_zero]
  · exact (Int.add_zero _).symm

/-! ## MatInv: no hypothesis -/

structure MatInv (s : St) : Prop where
  nodup : s.gKeys.Nodup
  off : ∀ k, k ∉ s.gKeys → s.mat k = []
  maturing : ∀ d, s.gMaturing d = sumL s.gKeys (fun k => amtOf d (s.mat k))
  bnd : ∀ d, s.bnd d = s.gUnlocked d - s.gWithdrawn d

theorem matInv_empty (m : Int) : MatInv (St.empty m) := by
  constructor <;> simp [St.empty, sumL]

theorem matInv_tx {s : St} {t : Tx} {p : St × Code} (h : MatInv s) (e : TxEffect s t p) :
    MatInv p.1 := by
  cases e with
  | fail => exact h
  | unstake v d a r g =>
    show MatInv (unstaked s v d a r)
    refine { h with nodup := nodup_addKey _ h.nodup, off := fun k hk => ?_, maturing := fun d' => ?_ }
    · have hk := fun hx => hk (mem_addKey.mpr hx)
      exact (upd_ne fun e => hk (.inl e)).trans (h.off k fun e => hk (.inr e))
    · -- the new entry is counted once: its key is among the keys now
      show upd s.gMaturing d _ d' = sumL (if _ ∈ s.gKeys then s.gKeys else _ :: s.gKeys) _
      rw [sumL_bump (nodup_addKey _ h.nodup) _ _ (fun _ => mem_addKey.mpr (.inl rfl))
          fun k _ => amtOf_unstaked s v d a r k d',
        sumL_addKey fun hn => congrArg (amtOf d') (h.off _ hn), ← h.maturing]
      exact upd_add ..
  | withdraw v d a g =>
    refine { h with bnd := fun d' => ?_ }
    have := h.bnd d'
    by_eq d' d
    · subst hEq; simp only [withdrawn, upd_same]; rw [this]; exact Int.sub_sub ..
    · simp only [withdrawn, upd_ne hEq]; exact this
  | _ => exact { h with }

theorem matInv_sweep {s : St} (h : MatInv s) (dl p : List Addr) : MatInv (sweep s dl p) := by
  refine { h with off := fun k hk => upd_ind (P := (· = [])) (fun _ => rfl) fun _ => h.off k hk,
                  maturing := fun d => ?_, bnd := fun d => ?_ }
  · have hk : ∀ k ∈ s.gKeys, amtOf d (upd s.mat s.height [] k) =
        amtOf d (s.mat k) + if k = s.height then -amtOf d (s.mat s.height) else 0 := by
      intro k _
      unfold upd; split
      · next e => rw [e]; exact (Int.add_right_neg _).symm
      · exact (Int.add_zero _).symm
    show debitAll s.gMaturing (s.mat s.height) d = sumL s.gKeys fun k => amtOf d (upd s.mat s.height [] k)
    -- a height that never received an entry has nothing to give
    rw [debitAll_apply, sumL_bump h.nodup _ _
      (fun hx => Decidable.byContradiction fun hn => hx (by rw [h.off _ hn]; rfl)) hk, ← h.maturing]
    rfl
  · show creditAll s.bnd (s.mat s.height) d = creditAll s.gUnlocked (s.mat s.height) d - s.gWithdrawn d
    rw [creditAll_apply, creditAll_apply, h.bnd]
    lia

theorem matInv_slash {s : St} {c : Cfg} (h : MatInv s) (v : Addr) : MatInv (slash c s v) := by
  rcases slash_cases c s v with ⟨q, e⟩ | ⟨sa, _, e⟩ <;> rw [e] <;>
    exact { h with }

theorem matInv_run {s : St} (c : Cfg) (h : MatInv s) (bs : List Block) : MatInv (run c s bs) :=
  run_invariant MatInv (fun h _ => { h with }) (fun h _ => matInv_tx h) matInv_sweep matInv_slash
    (fun h => { h with }) s bs h (.trivial c s bs)

/-! ## Sched: the maturing records are the schedule; keys below `lo` are spent -/

structure Sched (s : St) (lo : Int) : Prop where
  past : ∀ k, k < lo → s.mat k = []
  future : ∀ k d, lo ≤ k → amtOf d (s.mat k) = s.gSched k d
  maturity : 0 ≤ s.maturity ∧ (s.height ≤ 1 → 1 ≤ s.maturity)

/-- the maturity option is never negative and is at least 1 during block 1 (governance only
    admits 109200 … 468000) -/
def MatGuard (s : St) : Tx → Prop
  | .setMaturity m => 0 ≤ m ∧ (s.height ≤ 1 → 1 ≤ m)
  | _ => True

/-- the heights EndBlock has spent after block `h`: 2, 3, …, h -/
def spentKeys (h : Int) : List Int := (List.range (h - 1).toNat).map (fun (i : Nat) => (i : Int) + 2)

theorem spentKeys_succ (h : Int) (hh : 2 ≤ h) : spentKeys h = spentKeys (h - 1) ++ [h] := by
  unfold spentKeys
  have e : (h - 1).toNat = (h - 1 - 1).toNat + 1 := by lia
  rw [e, List.range_succ, List.map_append]
  simp only [List.map_cons, List.map_nil]
  congr 2
  lia

theorem spentKeys_le (h : Int) : ∀ k ∈ spentKeys h, k ≤ h := by
  intro k hk
  unfold spentKeys at hk
  simp only [List.mem_map, List.mem_range] at hk
  obtain ⟨i, hi, rfl⟩ := hk
  lia

/-- The bookkeeping while `n` is the next height whose EndBlock spends its key: inside block `n`
    and, with `n = height + 1`, during the verdicts and between blocks.  EndBlock does nothing at
    height 1, so the lowest unspent key is never below 2; everything unlocked so far is the
    schedule of the spent heights. -/
structure SchedAt (s : St) (n : Int) : Prop extends Sched s (max 2 n) where
  pos : 1 ≤ n
  unlocked : ∀ d, s.gUnlocked d = sumL (spentKeys (n - 1)) (fun k => s.gSched k d)

theorem schedAt_empty (m : Int) (hm : 1 ≤ m) : SchedAt (St.empty m) 1 :=
  ⟨⟨fun _ _ => rfl, fun _ _ _ => rfl, Int.le_trans (by decide) hm, fun _ => hm⟩, Int.le_refl 1,
    fun _ => rfl⟩

section
variable {s : St}

/-- an unstake matures at a key EndBlock has not processed yet -/
theorem unspent_key (hh : 1 ≤ s.height) (hm : 0 ≤ s.maturity ∧ (s.height ≤ 1 → 1 ≤ s.maturity)) :
    max 2 s.height ≤ s.height + s.maturity := by
  refine Int.max_le.mpr ⟨?_, Int.le_add_of_nonneg_right hm.1⟩
  by_cases h1 : s.height ≤ 1
  · exact Int.add_le_add hh (hm.2 h1)
  · exact Int.le_trans (Int.not_le.mp h1) (Int.le_add_of_nonneg_right hm.1)

theorem schedAt_tx {t : Tx} {p : St × Code} (h : SchedAt s s.height) (hg : MatGuard s t)
    (e : TxEffect s t p) : SchedAt p.1 p.1.height := by
  cases e with
  | fail => exact h
  | unstake v d a r g =>
    have hne : ∀ k, k < max 2 s.height → k ≠ s.height + s.maturity := fun k hk =>
      Int.ne_of_lt (Int.lt_of_lt_of_le hk (unspent_key h.pos h.maturity))
    refine { h with past := fun k hk => (upd_ne (hne k hk)).trans (h.past k hk), future := fun k d' hk => ?_,
                    unlocked := fun d' => (h.unlocked d').trans (sumL_congr fun k hk => ?_) }
    · show amtOf d' ((unstaked s v d a r).mat k) = upd2 s.gSched _ d _ k d'
      rw [amtOf_unstaked, h.future k d' hk, upd2_add_col]
    · -- the spent keys lie below the current height
      have hk := Int.lt_of_lt_of_le (Int.lt_of_le_sub_one (spentKeys_le _ k hk)) (Int.le_max_right 2 _)
      exact ((upd2_apply ..).trans (if_neg fun e => hne k hk e.1)).symm
  | env _ hm =>
    refine { h with maturity := hm.elim (· ▸ h.maturity) fun e => ?_ }
    subst e; exact hg
  | _ => exact { h with }

theorem schedAt_sweep (h : SchedAt s s.height) (h2 : 2 ≤ s.height) (dl p : List Addr) :
    SchedAt (sweep s dl p) (s.height + 1) := by
  have hs : Sched s s.height := Int.max_eq_right h2 ▸ h.toSched
  have h3 : 2 ≤ s.height + 1 := Int.le_trans h2 (Int.le_add_of_nonneg_right (by decide))
  refine ⟨⟨fun k hk => ?_, fun k d hk => ?_, hs.maturity⟩, Int.le_trans (by decide) h3, fun d => ?_⟩
  · have hk := Int.lt_add_one_iff.mp (Int.max_eq_right h3 ▸ hk)
    exact upd_ind (P := (· = [])) (fun _ => rfl) fun hne => hs.past k (Int.lt_iff_le_and_ne.mpr ⟨hk, hne⟩)
  · have hk : s.height < k := Int.add_one_le_iff.mp (Int.max_eq_right h3 ▸ hk)
    exact (congrArg (amtOf d) (upd_ne (Int.ne_of_gt hk))).trans (hs.future k d (Int.le_of_lt hk))
  · show creditAll s.gUnlocked _ d = sumL (spentKeys (s.height + 1 - 1)) fun k => s.gSched k d
    rw [creditAll_apply, Int.add_sub_cancel, spentKeys_succ _ h2, sumL_append, h.unlocked d,
      hs.future _ d (Int.le_refl _)]
    simp only [sumL, Int.add_zero]

theorem schedAt_slash {c : Cfg} (h : SchedAt s (s.height + 1)) (v : Addr) :
    SchedAt (slash c s v) ((slash c s v).height + 1) := by
  rcases slash_cases c s v with ⟨q, e⟩ | ⟨sa, _, e⟩ <;> rw [e] <;> exact { h with }

theorem schedAt_execBlock {B : St → Block → Prop} (c : Cfg) (h : SchedAt s (s.height + 1)) (b : Block)
    (hg : BlockOK MatGuard B s b) : SchedAt (execBlock c s b) ((execBlock c s b).height + 1) :=
  execBlock_induction (I := fun s => SchedAt s (s.height + 1)) (J := fun s => SchedAt s s.height)
    (K := fun _ s => SchedAt s (s.height + 1))
    (fun h => { h with maturity := ⟨h.maturity.1, fun (h' : s.height + 1 ≤ 1) =>
      h.maturity.2 (Int.le_trans (Int.le_add_of_nonneg_right (by decide)) h')⟩ })
    (fun s t h g => schedAt_tx h g (stepTx_effect s t))
    (fun {s} h h1 => by
      -- height 1: nothing is spent yet, and the lowest unspent key stays 2
      show SchedAt (commit s) (s.height + 1)
      have e1 : s.height = 1 := Int.le_antisymm h1 h.pos
      rw [e1] at h ⊢
      exact { h with pos := by decide })
    (fun h _ h2 => schedAt_sweep h h2 ..) (fun h => schedAt_slash h _) (fun h => { h with }) h hg

end

end OLP.Stake
