/-
  OLP.Stake.Rec — the record invariants: a validator's locked total is the sum of its
  delegators' amounts, a delegator's effective amount is the sum over validators, only the
  current stake address of a validator holds stake with it, and the validator record's `staking`
  equals the locked total plus the slash that is still postponed to the next BeginBlock
  (`pendOf`).  The postponed slash is what the proof turns on: none is pending while the
  transactions of a block run, EndBlock leaves at most one per validator, BeginBlock applies it.

  The well-formedness hypotheses (universe, supply bound, genesis entries, duplicate-free verdict
  lists) are stated as guards evaluated along the run; none is forced by a defect of the code.
-/
import OLP.Stake.NonNeg

namespace OLP.Stake

/-- the slash decided in the EndBlock of the current height and not yet applied to the record -/
def pendOf (s : St) (v : Addr) : Int := (s.delayed s.height v).getD 0

structure Rec (U : List Addr) (s : St) : Prop where
  sup : ∀ v d, s.vd v d ≠ 0 → v ∈ U ∧ d ∈ U
  sumV : ∀ v, s.tot v = sumL U (fun d => s.vd v d)
  sumD : ∀ d, s.eff d = sumL U (fun v => s.vd v d)
  /-- only the current stake address of a validator holds stake with it -/
  single : ∀ v d, s.vd v d ≠ 0 → ∃ r, s.vals v = some r ∧ r.sa = d
  staking : ∀ v r, s.vals v = some r →
    r.staking = s.tot v + pendOf s v ∧ r.power = r.staking ∧ r.staking < two63
  absent : ∀ v, s.vals v = none → s.tot v = 0

/-! ## the hypotheses, as guards evaluated along the run -/

/-- What a *successful* stake must satisfy for the record invariants to survive:
    * `v`, `d` belong to the finite universe the sums range over (no restriction: any list that
      contains the addresses of the history will do);
    * supply bound: the record's `staking` stays below 2^63 whole tokens, so that
      `calculatePower` (`Int64()`) is the identity. -/
def StakeGuard (U : List Addr) (s : St) (v d : Addr) (a : Int) : Prop :=
  v ∈ U ∧ d ∈ U ∧ (∀ r, s.vals v = some r → r.staking + a < two63)

def RecGuard (U : List Addr) (s : St) : Tx → Prop
  | .stake v d a => (txStake s v d a).2 = .ok → StakeGuard U s v d a
  | .genesisStake v d a =>
    0 ≤ a ∧ a < two63 ∧ (∀ r, s.vals v = some r → r.sa = d) ∧
    ((runGenesisStake s v d a).2 = .ok → StakeGuard U s v d a)
  | _ => True

/-- the facts about the penalty function the proofs use (true of `penalty30`) -/
def PenOK (c : Cfg) : Prop := ∀ t, 0 ≤ t → 0 ≤ c.pen t ∧ c.pen t ≤ t

theorem penalty30_ok : PenOK { pen := penalty30 } := by
  intro t ht
  simp only [penalty30]
  constructor <;> lia

/-- What EndBlock needs: the tally tries a validator at most once (`CleanTracker` removes
    duplicate requests against one validator before the tally). -/
def EndGuard (_ : St) (b : Block) : Prop := b.guilty.Nodup

/-- The postponed unstakes: none for later heights, none yet at the current height for the
    validators in `P`, never negative.  `P` is everything between BeginBlock and EndBlock, the
    validators still to be tried while the verdicts run, and nothing after Commit. -/
structure Delay (s : St) (P : Addr → Prop) : Prop where
  future : ∀ k v, s.height < k → s.delayed k v = none
  clean : ∀ v, P v → s.delayed s.height v = none
  nonneg : ∀ v, 0 ≤ pendOf s v

/-- the record invariants together with what makes them inductive -/
structure RecInv (U : List Addr) (s : St) (P : Addr → Prop) : Prop where
  recs : Rec U s
  nn : NonNeg s
  delay : Delay s P

theorem recInv_empty (U : List Addr) (m : Int) : RecInv U (St.empty m) fun _ => False :=
  ⟨⟨fun _ _ h => absurd rfl h, fun _ => (sumL_zero fun _ _ => rfl).symm,
      fun _ => (sumL_zero fun _ _ => rfl).symm, fun _ _ h => absurd rfl h, nofun, fun _ _ => rfl⟩,
    nonNeg_empty m, fun _ _ _ => rfl, nofun, fun _ => Int.le_refl 0⟩

section
variable {U : List Addr} {s s' : St} {P Q : Addr → Prop}

theorem Delay.pend (h : Delay s P) {v : Addr} (hv : P v) : pendOf s v = 0 := by
  unfold pendOf; rw [h.clean v hv]; rfl

/-- the equations are auto-parameters, as in `NonNeg.bump` -/
theorem RecInv.frame (h : RecInv U s P) (hn : NonNeg s') (hQ : ∀ v, Q v → P v)
    (e1 : s'.tot = s.tot := by rfl) (e2 : s'.vd = s.vd := by rfl) (e3 : s'.eff = s.eff := by rfl)
    (e4 : s'.vals = s.vals := by rfl) (e5 : s'.delayed = s.delayed := by rfl)
    (e6 : s'.height = s.height := by rfl) : RecInv U s' Q := by
  obtain ⟨hR, _, hD⟩ := h
  -- `s'` becomes a record with the six fields of `s`
  cases s'
  subst e1 e2 e3 e4 e5 e6
  exact ⟨{ hR with }, hn, hD.future, fun v hv => hD.clean v (hQ v hv), hD.nonneg⟩

theorem recInv_begin (h : RecInv U s fun _ => False) :
    RecInv U (beginBlock s (s.height + 1)) fun _ => True := by
  obtain ⟨hR, hn, hD⟩ := h
  have hclean : ∀ v, s.delayed (s.height + 1) v = none := fun v =>
    hD.future _ v (Int.lt_succ _)
  have hpend : ∀ v, pendOf (beginBlock s (s.height + 1)) v = 0 := fun v =>
    show (s.delayed (s.height + 1) v).getD 0 = 0 from hclean v ▸ rfl
  refine ⟨{ hR with single := fun v d hvd => ?_, staking := fun v r' hr' => ?_, absent := fun v hv => ?_ },
    { hn with }, fun k v (hk : s.height + 1 < k) => hD.future k v (Int.lt_trans (Int.lt_succ _) hk),
    fun v _ => hclean v, fun v => hpend v ▸ Int.le_refl 0⟩
  · obtain ⟨r, hr, hsa⟩ := hR.single v d hvd
    rcases beginBlock_vals s v with ⟨e, _⟩ | ⟨r0, p, hv, _, e⟩ <;> rw [e]
    · exact ⟨r, hr, hsa⟩
    · exact ⟨_, rfl, (Option.some.inj (hv ▸ hr)) ▸ hsa⟩
  · rw [hpend, Int.add_zero]
    rcases beginBlock_vals s v with ⟨e, hp⟩ | ⟨r0, p, hv, hp, e⟩ <;> rw [e] at hr'
    · have := hR.staking v r' hr'
      unfold pendOf at this
      rwa [hp.resolve_left (hr' ▸ nofun), Option.getD_none, Int.add_zero] at this
    · obtain ⟨h1, _, h3⟩ := hR.staking v r0 hv
      have h0 := hD.nonneg v
      unfold pendOf at h1 h0
      rw [hp, Option.getD_some] at h1 h0
      have h1 : r0.staking - p = s.tot v := by rw [h1, Int.add_sub_cancel]
      cases hr'
      exact ⟨h1, powerOf_of_range (h1 ▸ hn.tot v) (Int.lt_of_le_of_lt (Int.sub_le_self _ h0) h3),
        Int.lt_of_le_of_lt (Int.sub_le_self _ h0) h3⟩
  · rcases beginBlock_vals s v with ⟨e, _⟩ | ⟨r0, p, _, _, e⟩ <;> rw [e] at hv
    · exact hR.absent v hv
    · cases hv

variable (hU : U.Nodup)
include hU

/-- STAKE, UNSTAKE and a verdict all move one amount `δ` in the three records of `(v, d)`.  The
    sums follow; of the facts about validator records only those about `v` are left to the caller. -/
theorem Rec.bump (h : Rec U s) (v d : Addr) (δ : Int) (hin : δ ≠ 0 → v ∈ U ∧ d ∈ U)
    (hframe : ∀ v', v' ≠ v → s'.vals v' = s.vals v' ∧ pendOf s' v' = pendOf s v')
    (hsingle : ∀ d', s'.vd v d' ≠ 0 → ∃ r, s'.vals v = some r ∧ r.sa = d')
    (hstaking : ∀ r, s'.vals v = some r →
      r.staking = s'.tot v + pendOf s' v ∧ r.power = r.staking ∧ r.staking < two63)
    (habsent : s'.vals v = none → s'.tot v = 0)
    (ht : s'.tot = upd s.tot v (s.tot v + δ) := by rfl)
    (hvd : s'.vd = upd2 s.vd v d (s.vd v d + δ) := by rfl)
    (he : s'.eff = upd s.eff d (s.eff d + δ) := by rfl) : Rec U s' := by
  have hne : ∀ {v' d'}, ¬ (v' = v ∧ d' = d) → s'.vd v' d' = s.vd v' d' := fun hc => by
    rw [hvd, upd2_apply, if_neg hc]
  have hin' : ∀ {c : Prop} [Decidable c], (if c then δ else 0) ≠ 0 → v ∈ U ∧ d ∈ U := fun hx =>
    hin fun e => hx (by rw [e, ite_self])
  refine ⟨fun v' d' => ?_, fun v' => ?_, fun d' => ?_, fun v' d' hvd' => ?_, fun v' r hr => ?_,
    fun v' hv' => ?_⟩
  · rw [hvd]
    refine upd2_ind (P := fun x => x ≠ 0 → v' ∈ U ∧ d' ∈ U) (fun hc hx => ?_) fun _ => h.sup v' d'
    exact hc.1 ▸ hc.2 ▸ Decidable.byCases
      (fun hδ : δ = 0 => h.sup v d (by rwa [hδ, Int.add_zero] at hx)) hin
  · rw [ht, hvd, upd_add, h.sumV v',
      sumL_bump hU d (if v' = v then δ else 0) (fun hx => (hin' hx).2) fun _ _ => upd2_add_row ..]
  · rw [he, hvd, upd_add, h.sumD d',
      sumL_bump hU v (if d' = d then δ else 0) (fun hx => (hin' hx).1) fun _ _ => upd2_add_col ..]
  · by_eq v' v
    · exact hEq ▸ hsingle d' (hEq ▸ hvd')
    · rw [(hframe v' hEq).1]; exact h.single v' d' (hne (fun hc => hEq hc.1) ▸ hvd')
  · by_eq v' v
    · exact hEq ▸ hstaking r (hEq ▸ hr)
    · rw [ht, upd_ne hEq, (hframe v' hEq).2]
      exact h.staking v' r ((hframe v' hEq).1 ▸ hr)
  · by_eq v' v
    · exact hEq ▸ habsent (hEq ▸ hv')
    · rw [ht, upd_ne hEq]; exact h.absent v' ((hframe v' hEq).1 ▸ hv')

/-! ## the transactions of a block -/

theorem recInv_staked (h : RecInv U s fun _ => True) {v d : Addr} {a : Int} {u : Bool}
    {b : Addr → Int} {p : Int} (h0 : 0 ≤ a) (hlt : a < two63) (hg : StakeGuard U s v d a)
    (hsa : (stakeRec s v d a u).sa = d)
    (hrule : ∀ r, s.vals v = some r → r.sa ≠ d → s.vd v r.sa = 0) :
    RecInv U (staked s v d a u b p) fun _ => True := by
  obtain ⟨hR, hn, hD⟩ := h
  obtain ⟨hvU, hdU, hsup⟩ := hg
  refine ⟨hR.bump hU v d a (fun _ => ⟨hvU, hdU⟩) (fun v' hv' => ⟨upd_ne hv', rfl⟩)
      (fun d' hd' => ⟨_, upd_same .., ?_⟩) (fun r hr => ?_)
      (fun hv => nomatch (upd_same ..).symm.trans hv),
    nonNeg_staked hn h0, hD.future, hD.clean, hD.nonneg⟩
  · -- stake left under another address contradicts the in-use rule
    by_eq d' d
    · exact hEq ▸ hsa
    · rw [show (staked s v d a u b p).vd v d' = _ from upd2_apply .., if_neg fun hc => hEq hc.2] at hd'
      obtain ⟨r, hr, hrs⟩ := hR.single v d' hd'
      exact absurd (hrs ▸ hrule r hr (hrs ▸ hEq)) hd'
  · cases (Option.some.inj ((upd_same ..).symm.trans hr))
    show _ = upd s.tot v (s.tot v + a) v + pendOf s v ∧ _
    rw [upd_same, hD.pend trivial, Int.add_zero]
    unfold stakeRec
    cases hv : s.vals v with
    | none => exact ⟨by rw [hR.absent v hv, Int.zero_add], powerOf_of_range h0 hlt, hlt⟩
    | some r0 =>
      have h1 := (hR.staking v r0 hv).1
      rw [hD.pend trivial, Int.add_zero] at h1
      exact ⟨congrArg (· + a) h1, powerOf_of_range (h1 ▸ Int.add_nonneg (hn.tot v) h0) (hsup r0 hv),
        hsup r0 hv⟩

theorem recInv_unstaked (h : RecInv U s fun _ => True) {v d : Addr} {a : Int} {r : VRec}
    (g : CanUnstake s v d a r) : RecInv U (unstaked s v d a r) fun _ => True := by
  obtain ⟨hR, hn, hD⟩ := h
  have hne : s.vd v d ≠ 0 := fun e => Int.lt_irrefl 0 (Int.lt_of_lt_of_le g.pos (e ▸ g.vd))
  obtain ⟨h1, _, h3⟩ := hR.staking v r g.record
  rw [hD.pend trivial, Int.add_zero] at h1
  refine ⟨hR.bump hU v d (-a) (fun _ => hR.sup v d hne) (fun v' hv' => ⟨upd_ne hv', rfl⟩)
      (fun d' hd' => ⟨_, upd_same .., ?_⟩) (fun r' hr' => ?_)
      (fun hv => nomatch (upd_same ..).symm.trans hv),
    nonNeg_tx (t := .unstake v d a) hn trivial (.unstake v d a r g), hD.future, hD.clean, hD.nonneg⟩
  · by_eq d' d
    · exact hEq ▸ g.sa
    · rw [show (unstaked s v d a r).vd v d' = _ from upd2_apply .., if_neg fun hc => hEq hc.2] at hd'
      obtain ⟨r2, hr2, hrs⟩ := hR.single v d' hd'
      exact (Option.some.inj (g.record ▸ hr2)) ▸ hrs
  · cases (Option.some.inj ((upd_same ..).symm.trans hr'))
    show _ = upd s.tot v (s.tot v - a) v + pendOf s v ∧ _
    rw [upd_same, hD.pend trivial, Int.add_zero]
    have hlt : r.staking - a < two63 := Int.lt_of_le_of_lt (Int.sub_le_self _ (Int.le_of_lt g.pos)) h3
    exact ⟨congrArg (· - a) h1, powerOf_of_range (h1 ▸ Int.sub_nonneg_of_le g.tot) hlt, hlt⟩

theorem recInv_tx {t : Tx} (h : RecInv U s fun _ => True) (hg : RecGuard U s t) :
    RecInv U (stepTx s t).1 fun _ => True := by
  have e := stepTx_effect s t
  generalize he : stepTx s t = p at e
  cases e with
  | fail => exact h
  | stake v d a g =>
    exact recInv_staked hU h g.nonneg g.lt (hg (congrArg Prod.snd he))
      (by unfold stakeRec otherAddr; cases s.vals v <;> simp)
      fun r hr hne => ((isClean_iff ..).mp (inUse_rule g.inUse hr hne)).1
  | gstake v d a =>
    obtain ⟨h0, hlt, hsa, hok⟩ := hg
    refine recInv_staked hU h h0 hlt (hok (congrArg Prod.snd he)) ?_ fun r hr hne => absurd (hsa r hr) hne
    unfold stakeRec
    cases hv : s.vals v with
    | none => rfl
    | some r => exact hsa r hv
  | unstake v d a r g => exact recInv_unstaked hU h g
  | withdraw v d a g =>
    exact h.frame (nonNeg_tx (t := .withdraw v d a) h.nn trivial (.withdraw v d a g)) fun _ => id
  | _ => exact h.frame { h.nn with } fun _ => id

/-! ## EndBlock -/

omit hU in
theorem vd_le_tot (h : Rec U s) (hn : NonNeg s) (v d : Addr) : s.vd v d ≤ s.tot v := by
  by_cases h0 : s.vd v d = 0
  · rw [h0]; exact hn.tot v
  · rw [h.sumV v]
    exact le_sumL_of_mem (f := fun d => s.vd v d) (h.sup v d h0).2 (fun a _ => hn.vd v a)

omit hU in
/-- a record is deleted only when it has no power, hence nothing locked -/
theorem recInv_sweep (h : RecInv U s fun _ => True) (dl p : List Addr) (P : Addr → Prop) :
    RecInv U (sweep s dl p) P := by
  obtain ⟨hR, hn, hD⟩ := h
  have hzero : ∀ v r, s.vals v = some r → r.power ≤ 0 → s.tot v = 0 := fun v r hr hpow => by
    obtain ⟨h1, h2, _⟩ := hR.staking v r hr
    rw [hD.pend trivial, Int.add_zero] at h1
    exact Int.le_antisymm (h1 ▸ h2 ▸ hpow) (hn.tot v)
  refine ⟨{ hR with single := fun v d hne => ?_, staking := fun v r hr => ?_, absent := fun v hv => ?_ },
    nonNeg_sweep hn dl p, hD.future, fun v _ => hD.clean v trivial, hD.nonneg⟩
  · obtain ⟨r, hr, hsa⟩ := hR.single v d hne
    rcases deleteZeroPower_vals s dl v with e | ⟨_, r2, hr2, hpow⟩
    · exact ⟨r, e.trans hr, hsa⟩
    · exact absurd (Int.le_antisymm (hzero v r2 hr2 hpow ▸ vd_le_tot hR hn v d) (hn.vd v d)) hne
  · rcases deleteZeroPower_vals s dl v with e | ⟨e, _⟩
    · exact hR.staking v r (e ▸ hr)
    · cases e.symm.trans hr
  · rcases deleteZeroPower_vals s dl v with e | ⟨_, r2, hr2, hpow⟩
    · exact hR.absent v (e ▸ hv)
    · exact hzero v r2 hr2 hpow

variable {c : Cfg} (hpen : PenOK c)
include hpen

theorem recInv_slash {v : Addr} {rest : List Addr} (h : RecInv U s (· ∈ v :: rest))
    (hnd : v ∉ rest) : RecInv U (slash c s v) (· ∈ rest) := by
  have hn := h.nn
  have hn' := nonNeg_slash (c := c) hn v
  rcases slash_cases c s v with ⟨q, e⟩ | ⟨sa, hm, e⟩ <;> rw [e] at hn' ⊢
  · exact h.frame hn' fun _ => List.mem_cons_of_mem _
  obtain ⟨hR, _, hD⟩ := h
  have hp0 := (hpen (s.tot v) (hn.tot v)).1
  have hpv : pendOf s v = 0 := hD.pend (List.mem_cons_self ..)
  generalize c.pen (s.tot v) = x at *
  have hpend : ∀ v', pendOf (slashed s v sa x) v' = if v' = v then x else pendOf s v' := fun v' => by
    show (upd2 s.delayed s.height v (some x) s.height v').getD 0 = _
    rw [upd2_apply]
    simp only [true_and]
    split <;> rfl
  -- nothing left with the stake address means nothing taken
  have hx0 : s.vd v sa = 0 → x = 0 := fun h0 => Int.le_antisymm (h0 ▸ hm.vd) hp0
  have hvd : ∀ d', (slashed s v sa x).vd v d' ≠ 0 → s.vd v d' ≠ 0 := fun d' hne h0 =>
    hne (upd2_ind (P := (· = 0)) (fun hc => by rw [hx0 (hc.2 ▸ h0), ← hc.2, h0]; rfl) fun _ => h0)
  refine ⟨hR.bump hU v sa (-x) (fun hx => hR.sup v sa fun h0 => hx (hx0 h0 ▸ Int.neg_zero))
      (fun v' hv' => ⟨rfl, by rw [hpend, if_neg hv']⟩) (fun d' hd' => hR.single v d' (hvd d' hd'))
      (fun r hr => ?_) (fun hv => ?_),
    hn', fun k v' (hk : s.height < k) => ?_, fun v' hv' => ?_, fun v' => ?_⟩
  · obtain ⟨g1, g2, g3⟩ := hR.staking v r hr
    show _ = upd s.tot v (s.tot v - x) v + _ ∧ _
    rw [hpend, if_pos rfl, upd_same, Int.sub_add_cancel]
    rw [hpv, Int.add_zero] at g1
    exact ⟨g1, g2, g3⟩
  · show upd s.tot v (s.tot v - x) v = 0
    have h1 := hm.tot
    rw [hR.absent v hv] at h1 ⊢
    rw [upd_same, Int.le_antisymm h1 hp0]; rfl
  · exact ((upd2_apply ..).trans (if_neg fun (hc : k = _ ∧ _) => Int.lt_irrefl _ (hc.1 ▸ hk))).trans
      (hD.future k v' hk)
  · exact ((upd2_apply ..).trans (if_neg fun (hc : _ ∧ v' = v) => hnd (hc.2 ▸ hv'))).trans
      (hD.clean v' (List.mem_cons_of_mem _ hv'))
  · rw [hpend]; split
    · exact hp0
    · exact hD.nonneg v'

theorem recInv_execBlock (h : RecInv U s fun _ => False) (b : Block)
    (hg : BlockOK (RecGuard U) EndGuard s b) : RecInv U (execBlock c s b) fun _ => False :=
  execBlock_induction (I := (RecInv U · fun _ => False)) (J := (RecInv U · fun _ => True))
    (K := fun g s => RecInv U s (· ∈ g) ∧ g.Nodup) recInv_begin (fun _ _ => recInv_tx hU)
    (fun h _ => h.frame { h.nn with } nofun) (fun h hB _ => ⟨recInv_sweep h .., hB⟩)
    (fun ⟨h, hnd⟩ =>
      have hnd := List.nodup_cons.mp hnd
      ⟨recInv_slash hU hpen h hnd.1, hnd.2⟩)
    (fun h => h.1.frame { h.1.nn with } nofun) h hg

theorem recInv_run (h : RecInv U s fun _ => False) (bs : List Block)
    (hg : RunOK (RecGuard U) EndGuard c s bs) : RecInv U (run c s bs) fun _ => False :=
  run_induction (RecInv U · fun _ => False) (fun _ b h hb => recInv_execBlock hU hpen h b hb)
    s bs h hg

end

end OLP.Stake
