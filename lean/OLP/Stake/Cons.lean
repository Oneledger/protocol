/-
  OLP.Stake.Cons — the two bookkeeping laws of the ghost accumulators, for every history
  whatsoever: per delegator conservation (`Cons`), and balance side = record side × 10^18 (`Paid`).
-/
import OLP.Stake.Step

namespace OLP.Stake

/-- locked + maturing + withdrawable + withdrawn + slashed = staked -/
def Cons (s : St) : Prop :=
  ∀ d, s.eff d + s.gMaturing d + s.bnd d + s.gWithdrawn d + s.gPenal d = s.gStaked d

theorem cons_empty (m : Int) : Cons (St.empty m) := fun _ => rfl

/-- every handler moves its amount between two of the six terms at one delegator -/
theorem cons_tx {s : St} {t : Tx} {p : St × Code} (h : Cons s) (e : TxEffect s t p) :
    Cons p.1 := by
  intro d'
  have := h d'
  cases e with
  | stake v d a _ | gstake v d a _ | unstake v d a _ _ | withdraw v d a _ =>
    by_eq d' d
    · subst hEq; simp only [staked, unstaked, withdrawn, upd_same]; lia
    · simp only [staked, unstaked, withdrawn, upd_ne hEq]; exact this
  | _ => exact this

theorem cons_sweep {s : St} (h : Cons s) (dl p : List Addr) : Cons (sweep s dl p) := by
  intro d
  have := h d
  show s.eff d + debitAll _ _ d + creditAll _ _ d + s.gWithdrawn d + s.gPenal d = s.gStaked d
  rw [debitAll_apply, creditAll_apply]
  lia

theorem cons_slash {s : St} {c : Cfg} (h : Cons s) (v : Addr) : Cons (slash c s v) := by
  intro d
  have := h d
  rcases slash_cases c s v with ⟨q, e⟩ | ⟨sa, _, e⟩ <;> rw [e]
  · exact this
  · by_eq d sa
    · subst hEq; simp only [slashed, upd_same]; lia
    · simp only [slashed, upd_ne hEq]; exact this

theorem cons_run {s : St} (c : Cfg) (h : Cons s) (bs : List Block) : Cons (run c s bs) :=
  run_invariant Cons (fun h _ => h) (fun h _ => cons_tx h) cons_sweep cons_slash
    (fun h => h) s bs h (.trivial c s bs)

/-! ## balance side = record side × 10^18 -/

def Paid (s : St) : Prop :=
  ∀ d, s.gPaidIn d = s.gStaked d * oltBase ∧ s.gPaidOut d = s.gWithdrawn d * oltBase

theorem paid_empty (m : Int) : Paid (St.empty m) := by intro d; simp [St.empty]

theorem paid_tx {s : St} {t : Tx} {p : St × Code} (h : Paid s) (e : TxEffect s t p) :
    Paid p.1 := by
  intro d'
  have := h d'
  cases e with
  | stake v d a _ | gstake v d a _ =>
    by_eq d' d
    · subst hEq; simp only [staked, upd_same]; exact ⟨by rw [this.1, Int.add_mul], this.2⟩
    · simp only [staked, upd_ne hEq]; exact this
  | withdraw v d a _ =>
    by_eq d' d
    · subst hEq; simp only [withdrawn, upd_same]; exact ⟨this.1, by rw [this.2, Int.add_mul]⟩
    · simp only [withdrawn, upd_ne hEq]; exact this
  | _ => exact this

theorem paid_slash {s : St} {c : Cfg} (h : Paid s) (v : Addr) : Paid (slash c s v) := by
  rcases slash_cases c s v with ⟨q, e⟩ | ⟨sa, _, e⟩ <;> rw [e] <;> exact h

theorem paid_run {s : St} (c : Cfg) (h : Paid s) (bs : List Block) : Paid (run c s bs) :=
  run_invariant Paid (fun h _ => h) (fun h _ => paid_tx h) (fun h _ _ => h) paid_slash
    (fun h => h) s bs h (.trivial c s bs)

end OLP.Stake
