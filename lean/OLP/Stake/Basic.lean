/-
  OLP.Stake.Basic — point updates, the int64 truncation, sums over duplicate-free lists and
  maturing lists.
-/
import OLP.Base.Guard
import OLP.Base.Sort
import OLP.Stake.Model

namespace OLP.Stake

section upd
variable {α β γ : Type} [DecidableEq α] [DecidableEq β]

@[simp] theorem upd_same (f : α → γ) (k : α) (x : γ) : upd f k x k = x := if_pos rfl

theorem upd_ne {f : α → γ} {k i : α} {x : γ} (h : i ≠ k) : upd f k x i = f i := if_neg h

theorem upd_apply (f : α → γ) (k i : α) (x : γ) : upd f k x i = if i = k then x else f i := rfl

@[simp] theorem upd2_same (f : α → β → γ) (k : α) (j : β) (x : γ) : upd2 f k j x k j = x := by
  simp [upd2]

theorem upd2_apply (f : α → β → γ) (k i : α) (j l : β) (x : γ) :
    upd2 f k j x i l = if i = k ∧ l = j then x else f i l := by
  unfold upd2 upd
  by_cases h1 : i = k <;> simp [h1]

theorem upd_ind {P : γ → Prop} {f : α → γ} {k i : α} {x : γ} (hx : i = k → P x)
    (hf : i ≠ k → P (f i)) : P (upd f k x i) := by
  unfold upd; split
  · exact hx ‹_›
  · exact hf ‹_›

theorem upd_self (f : α → γ) (k : α) : upd f k (f k) = f :=
  funext fun i => upd_ind (P := (· = f i)) (fun h => h ▸ rfl) fun _ => rfl

theorem upd2_ind {P : γ → Prop} {f : α → β → γ} {k i : α} {j l : β} {x : γ}
    (hx : i = k ∧ l = j → P x) (hf : ¬ (i = k ∧ l = j) → P (f i l)) : P (upd2 f k j x i l) := by
  rw [upd2_apply]; split
  · exact hx ‹_›
  · exact hf ‹_›

theorem upd_add (f : α → Int) (k i : α) (δ : Int) :
    upd f k (f k + δ) i = f i + if i = k then δ else 0 := by
  unfold upd; split
  · next h => rw [h]
  · exact (Int.add_zero _).symm

/-- the same for the matrix, in the nesting that suits a sum down a column and in the one that
    suits a sum along a row -/
theorem upd2_add_col (f : α → β → Int) (k i : α) (j l : β) (δ : Int) :
    upd2 f k j (f k j + δ) i l = f i l + if i = k then (if l = j then δ else 0) else 0 := by
  unfold upd2; split
  · next h => rw [h]; exact upd_add ..
  · exact (Int.add_zero _).symm

theorem upd2_add_row (f : α → β → Int) (k i : α) (j l : β) (δ : Int) :
    upd2 f k j (f k j + δ) i l = f i l + if l = j then (if i = k then δ else 0) else 0 := by
  rw [upd2_add_col]; split <;> split <;> rfl

end upd

/-! ## the int64 truncation -/

theorem two63_pos : (0 : Int) < two63 := by decide

theorem oltBase_pos : (0 : Int) < oltBase := by decide

theorem wrapU_eq (n : Int) : wrapU n = (n + two63) % two64 - two63 := by
  unfold wrapU two63 two64
  simp only []
  lia

theorem int64Of_eq (x : Int) : int64Of x = (x + two63) % two64 - two63 := by
  unfold int64Of
  split
  · exact wrapU_eq x
  · -- `wrapU (-x) = -x - two64 * q`, and a multiple of 2^64 does not change the residue
    rw [wrapU_eq (-x), wrapU_eq, Int.emod_def (-x + two63)]
    generalize (-x + two63) / two64 = q
    have : -(-x + two63 - two64 * q - two63) + two63 = x + two63 + two64 * q := by
      generalize two64 * q = z; lia
    rw [this, Int.add_mul_emod_self_left]

theorem isInt64_iff (a : Int) : isInt64 a = true ↔ -two63 ≤ a ∧ a < two63 := by
  simp [isInt64]

theorem int64Of_of_isInt64 {a : Int} (h : isInt64 a = true) : int64Of a = a := by
  have h := (isInt64_iff a).mp h
  rw [int64Of_eq, Int.emod_eq_of_lt] <;> simp only [two63, two64] at * <;> lia

theorem coinOf_of_isInt64 {a : Int} (h : isInt64 a = true) : coinOf a = a * oltBase := by
  unfold coinOf; rw [int64Of_of_isInt64 h]

theorem int64Of_of_range {x : Int} (h0 : 0 ≤ x) (h1 : x < two63) : int64Of x = x :=
  int64Of_of_isInt64 ((isInt64_iff x).mpr ⟨by have := two63_pos; lia, h1⟩)

theorem coinOf_of_range {x : Int} (h0 : 0 ≤ x) (h1 : x < two63) : coinOf x = x * oltBase := by
  unfold coinOf; rw [int64Of_of_range h0 h1]

theorem powerOf_of_range {x : Int} (h0 : 0 ≤ x) (h1 : x < two63) : powerOf x = x :=
  int64Of_of_range h0 h1

/-! ## sums over lists -/

def sumL {α : Type} : List α → (α → Int) → Int
  | [], _ => 0
  | a :: t, f => f a + sumL t f

section sumL
variable {α : Type}

theorem sumL_congr {l : List α} {f g : α → Int} (h : ∀ a ∈ l, f a = g a) : sumL l f = sumL l g := by
  induction l with
  | nil => rfl
  | cons a t ih =>
    obtain ⟨ha, ht⟩ := List.forall_mem_cons.mp h
    rw [sumL, sumL, ha, ih ht]

theorem sumL_nonneg {l : List α} {f : α → Int} (h : ∀ a ∈ l, 0 ≤ f a) : 0 ≤ sumL l f := by
  induction l with
  | nil => exact Int.le_refl 0
  | cons a t ih =>
    obtain ⟨ha, ht⟩ := List.forall_mem_cons.mp h
    exact Int.add_nonneg ha (ih ht)

theorem sumL_zero {l : List α} {f : α → Int} (h : ∀ a ∈ l, f a = 0) : sumL l f = 0 := by
  induction l with
  | nil => rfl
  | cons a t ih =>
    obtain ⟨ha, ht⟩ := List.forall_mem_cons.mp h
    rw [sumL, ha, ih ht]; rfl

theorem sumL_add {l : List α} {f g : α → Int} : sumL l (fun a => f a + g a) = sumL l f + sumL l g := by
  induction l with
  | nil => rfl
  | cons a t ih => simp only [sumL, ih]; lia

theorem sumL_append (l₁ l₂ : List α) (f : α → Int) :
    sumL (l₁ ++ l₂) f = sumL l₁ f + sumL l₂ f := by
  induction l₁ with
  | nil => simp [sumL]
  | cons a t ih => simp only [List.cons_append, sumL, ih]; exact (Int.add_assoc ..).symm

theorem le_sumL_of_mem {l : List α} {f : α → Int} {k : α} (hk : k ∈ l) (h : ∀ a ∈ l, 0 ≤ f a) :
    f k ≤ sumL l f := by
  induction l with
  | nil => cases hk
  | cons a t ih =>
    obtain ⟨ha, ht⟩ := List.forall_mem_cons.mp h
    rcases List.mem_cons.mp hk with e | e
    · exact e ▸ Int.le_add_of_nonneg_right (sumL_nonneg ht)
    · exact Int.le_trans (ih e ht) (Int.le_add_of_nonneg_left ha)

variable [DecidableEq α]

theorem sumL_indicator {l : List α} (hn : l.Nodup) (k : α) (x : Int) :
    sumL l (fun a => if a = k then x else 0) = if k ∈ l then x else 0 := by
  induction l with
  | nil => rfl
  | cons a t ih =>
    have hn' := List.nodup_cons.mp hn
    simp only [sumL, ih hn'.2, List.mem_cons]
    by_cases e : a = k
    · have : k ∉ t := e ▸ hn'.1
      simp [e, this]
    · have : ¬ k = a := fun h => e h.symm
      simp [e, this]

theorem sumL_bump {l : List α} (hn : l.Nodup) {f g : α → Int} (k : α) (x : Int) (hk : x ≠ 0 → k ∈ l)
    (h : ∀ a ∈ l, g a = f a + if a = k then x else 0) : sumL l g = sumL l f + x := by
  rw [sumL_congr h, sumL_add, sumL_indicator hn]
  split
  · rfl
  · next hm => rw [Decidable.byContradiction fun hx => hm (hk hx)]

/-! `gKeys` after an unstake: `if k ∈ l then l else k :: l` -/

theorem nodup_addKey {l : List α} (k : α) (h : l.Nodup) : (if k ∈ l then l else k :: l).Nodup :=
  ite_ind (fun _ => h) fun hn => List.nodup_cons.mpr ⟨hn, h⟩

theorem mem_addKey {l : List α} {k x : α} : x ∈ (if k ∈ l then l else k :: l) ↔ x = k ∨ x ∈ l := by
  split
  · next h => exact ⟨.inr, fun hx => hx.elim (· ▸ h) id⟩
  · exact List.mem_cons

theorem sumL_addKey {l : List α} {k : α} {f : α → Int} (hf : k ∉ l → f k = 0) :
    sumL (if k ∈ l then l else k :: l) f = sumL l f := by
  split
  · rfl
  · next h => rw [sumL, hf h, Int.zero_add]

end sumL

/-! ## maturing lists -/

theorem amtOf_append (d : Addr) (l₁ l₂ : List (Addr × Int)) :
    amtOf d (l₁ ++ l₂) = amtOf d l₁ + amtOf d l₂ := by
  induction l₁ with
  | nil => simp [amtOf]
  | cons h t ih => simp only [List.cons_append, amtOf, ih]; exact (Int.add_assoc ..).symm

theorem perm_insertByAddr (x : Addr × Int) (l : List (Addr × Int)) :
    (insertByAddr x l).Perm (x :: l) :=
  ins_perm insertByAddr (fun _ => rfl) (fun _ _ _ => rfl) x l

theorem perm_sortByAddr (l : List (Addr × Int)) : (sortByAddr l).Perm l := by
  suffices h : ∀ acc, (l.foldl (fun acc x => insertByAddr x acc) acc).Perm (acc ++ l) from h []
  intro acc
  induction l generalizing acc with
  | nil => exact .of_eq (List.append_nil _).symm
  | cons h t ih =>
    exact ((ih _).trans ((perm_insertByAddr h acc).append_right t)).trans List.perm_middle.symm

theorem amtOf_perm (d : Addr) {l₁ l₂ : List (Addr × Int)} (h : l₁.Perm l₂) :
    amtOf d l₁ = amtOf d l₂ := by
  induction h with
  | nil => rfl
  | cons x _ ih => simp only [amtOf, ih]
  | swap x y l => simp only [amtOf]; exact Int.add_left_comm ..
  | trans _ _ ih₁ ih₂ => exact ih₁.trans ih₂

theorem amtOf_nonneg (d : Addr) (l : List (Addr × Int)) (h : ∀ e ∈ l, 0 ≤ e.2) : 0 ≤ amtOf d l := by
  induction l with
  | nil => exact Int.le_refl 0
  | cons y t ih =>
    obtain ⟨hy, ht⟩ := List.forall_mem_cons.mp h
    exact Int.add_nonneg (ite_ind (P := (0 ≤ ·)) (fun _ => hy) fun _ => Int.le_refl 0) (ih ht)

/-- one step of the loops of `UpdateWithdrawReward`; `g` is `+` or `-`, and skipping the entries
    with amount 0 makes no difference to the result -/
theorem upd_skip (g : Int → Int → Int) (hg : ∀ y, g y 0 = y) (f : Addr → Int) (x d : Addr)
    (a : Int) :
    (if a = 0 then f else upd f x (g (f x) a)) d = g (f d) (if x = d then a else 0) := by
  by_cases ha : a = 0
  · rw [if_pos ha, ha, ite_self, hg]
  · rw [if_neg ha]
    exact upd_ind (P := (· = g (f d) (if x = d then a else 0))) (fun h => by rw [h, if_pos rfl])
      fun h => by rw [if_neg (Ne.symm h), hg]

theorem creditAll_apply (f : Addr → Int) (l : List (Addr × Int)) (d : Addr) :
    creditAll f l d = f d + amtOf d l := by
  induction l generalizing f with
  | nil => exact (Int.add_zero _).symm
  | cons y t ih =>
    rw [creditAll, amtOf, ih, ← Int.add_assoc]
    exact congrArg (· + _) (upd_skip (· + ·) Int.add_zero ..)

theorem debitAll_apply (f : Addr → Int) (l : List (Addr × Int)) (d : Addr) :
    debitAll f l d = f d - amtOf d l := by
  induction l generalizing f with
  | nil => exact (Int.sub_zero _).symm
  | cons y t ih =>
    rw [debitAll, amtOf, ih, ← Int.sub_sub]
    exact congrArg (· - _) (upd_skip (· - ·) Int.sub_zero ..)

theorem updateWithdrawReward_apply (s : St) (h : Int) (d : Addr) :
    (updateWithdrawReward s h).bnd d = s.bnd d + amtOf d (s.mat h) ∧
    (updateWithdrawReward s h).gUnlocked d = s.gUnlocked d + amtOf d (s.mat h) ∧
    (updateWithdrawReward s h).gMaturing d = s.gMaturing d - amtOf d (s.mat h) :=
  ⟨creditAll_apply .., creditAll_apply .., debitAll_apply ..⟩

end OLP.Stake
