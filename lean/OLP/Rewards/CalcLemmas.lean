/-
  Layer D — the reward calculator and its histories (C13).  A fact about every state of every run
  is an invariant `I k ys` of the year records that one block of a freshly restarted node keeps
  (`calcStep_restarted_years` says what such a block does; `yearsInv_step` for the `YearsInv`
  shape): `calcRun_good` carries it through any restart pattern.
-/
import OLP.Rewards.Model
import OLP.Base.Guard

namespace OLP.Rewards

/-! ## height arithmetic -/

theorem ediv_emod_succ {c : Int} (hc : 0 < c) (k : Int) :
    (k % c ≠ 0 ∧ k / c = (k - 1) / c ∧ k % c = (k - 1) % c + 1) ∨
    (k % c = 0 ∧ k / c = (k - 1) / c + 1 ∧ (k - 1) % c = c - 1) := by
  have h1 := Int.emod_add_mul_ediv (k - 1) c
  have h2 := Int.emod_nonneg (k - 1) (Int.ne_of_gt hc)
  have h3 := Int.emod_lt_of_pos (k - 1) hc
  generalize (k - 1) / c = q at h1 ⊢
  generalize (k - 1) % c = r at h1 h2 h3 ⊢
  by_cases hr : r + 1 < c
  · obtain ⟨a, b⟩ := (Int.ediv_emod_unique (a := k) (r := r + 1) (q := q) hc).2
      ⟨by omega, Int.le_add_one h2, hr⟩
    exact Or.inl ⟨by omega, a, b⟩
  · have h4 : c * (q + 1) = c * q + c := by rw [Int.mul_add, Int.mul_one]
    obtain ⟨a, b⟩ := (Int.ediv_emod_unique (a := k) (r := 0) (q := q + 1) hc).2
      ⟨by omega, Int.le_refl 0, hc⟩
    exact Or.inr ⟨b, a, by omega⟩

theorem firstInCycle_succ (o : Opts) (k : Int) : firstInCycle o (k + 1) = lastInCycle o k := by
  unfold firstInCycle lastInCycle
  rw [Int.add_sub_cancel]

theorem lastInCycle_iff {o : Opts} {k : Int} (hk : 1 ≤ k) :
    lastInCycle o k = true ↔ k % o.cycle = 0 := by
  unfold lastInCycle
  rw [Int.tmod_eq_emod_of_nonneg (by omega)]
  exact beq_iff_eq

theorem cycleNo_eq {o : Opts} {k : Int} (hk : 1 ≤ k) : cycleNo o k = (k - 1) / o.cycle + 1 := by
  unfold cycleNo
  rw [Int.tdiv_eq_ediv_of_nonneg (by omega)]

theorem cycleNo_pos {o : Opts} {k : Int} (hk : 1 ≤ k) (hc : 0 < o.cycle) : 0 < cycleNo o k := by
  rw [cycleNo_eq hk]
  have := Int.ediv_nonneg (a := k - 1) (b := o.cycle) (by omega) (by omega)
  omega

theorem cycleNo_mono {o : Opts} {a b : Int} (ha : 1 ≤ a) (hab : a ≤ b) (hc : 0 < o.cycle) :
    cycleNo o a ≤ cycleNo o b := by
  rw [cycleNo_eq ha, cycleNo_eq (by omega)]
  have := Int.ediv_le_ediv (a := a - 1) (b := b - 1) hc (by omega)
  omega

/-- number of blocks of the cycle of `k` that come before `k` -/
def cyclePos (o : Opts) (k : Int) : Int := (k - 1) % o.cycle

theorem cycle_succ {o : Opts} {k : Int} (hk : 1 ≤ k) (hc : 0 < o.cycle) :
    (lastInCycle o k = false →
      cycleNo o (k + 1) = cycleNo o k ∧ cyclePos o (k + 1) = cyclePos o k + 1) ∧
    (lastInCycle o k = true → cycleNo o (k + 1) = cycleNo o k + 1 ∧ cyclePos o k = o.cycle - 1) := by
  unfold cyclePos
  rw [cycleNo_eq hk, cycleNo_eq (by omega), Int.add_sub_cancel]
  rcases ediv_emod_succ hc k with ⟨h0, h1, h2⟩ | ⟨h0, h1, h2⟩
  · exact ⟨fun _ => ⟨by rw [h1], h2⟩, fun hl => absurd ((lastInCycle_iff hk).1 hl) h0⟩
  · refine ⟨fun hl => ?_, fun _ => ⟨by rw [h1], h2⟩⟩
    rw [(lastInCycle_iff hk).2 h0] at hl
    cases hl

theorem spc_succ_of_not_last {e : Env} {k : Int} (hk : 1 ≤ k) (hc : 0 < e.o.cycle)
    (hl : lastInCycle e.o k = false) :
    secondsPerCycleLatest e (k + 1) = secondsPerCycleLatest e k := by
  have hne : k ≠ e.o.cycle := fun h => by
    rw [(lastInCycle_iff hk).2 (h ▸ Int.emod_self)] at hl
    cases hl
  have hd := ((cycle_succ hk hc).1 hl).1
  unfold cycleNo at hd
  unfold secondsPerCycleLatest
  rw [show (k + 1 - 1).tdiv e.o.cycle = (k - 1).tdiv e.o.cycle by omega]
  by_cases h1 : k > e.o.cycle
  · rw [if_pos h1, if_pos (by omega)]
  · rw [if_neg h1, if_neg (by omega)]

/-! ## the forecast -/

theorem selectYear_congr (e : Env) (spc tEnd : Int) :
    ∀ (ys ys' : List Year) (i : Nat), ys.map (·.close) = ys'.map (·.close) →
      selectYear e spc tEnd ys i = selectYear e spc tEnd ys' i
  | [], [], _, _ => rfl
  | [], _ :: _, _, h => by simp at h
  | _ :: _, [], _, h => by simp at h
  | y :: ys, y' :: ys', i, h => by
    simp only [List.map_cons, List.cons.injEq] at h
    unfold selectYear
    rw [h.1, selectYear_congr e spc tEnd ys ys' (i + 1) h.2]

theorem numMoreBlocks_congr {e : Env} {ys ys' : List Year} {h h' : Int}
    (hs : secondsPerCycleLatest e h' = secondsPerCycleLatest e h)
    (hcl : ys'.map (·.close) = ys.map (·.close)) :
    numMoreBlocks e ys' h' = numMoreBlocks e ys h := by
  unfold numMoreBlocks
  rw [hs]
  exact selectYear_congr e _ _ ys' ys 0 hcl

/-- `(0, -1)` when no year is open; else an open year, with a forecast of at least one cycle -/
theorem selectYear_spec (e : Env) (spc tEnd : Int) :
    ∀ (ys : List Year) (i : Nat),
      (selectYear e spc tEnd ys i = (0, -1) ∧ ∀ yr ∈ ys, yr.close - tEnd < e.o.window) ∨
      ∃ (j : Nat) (yr : Year) (n : Int), ys[j]? = some yr ∧
        selectYear e spc tEnd ys i = (n, ((i + j : Nat) : Int)) ∧
        e.o.cycle ≤ n ∧ e.o.window ≤ yr.close - tEnd
  | [], _ => Or.inl ⟨rfl, fun _ h => by cases h⟩
  | y :: ys, i => by
    unfold selectYear
    by_cases hw : y.close - tEnd ≥ e.o.window
    · rw [if_pos hw]
      refine Or.inr ⟨0, y, _, rfl, rfl, ?_, hw⟩
      split <;> omega
    · rw [if_neg hw]
      rcases selectYear_spec e spc tEnd ys (i + 1) with ⟨h, hall⟩ | ⟨j, yr, n, h1, h2, h3, h4⟩
      · refine Or.inl ⟨h, fun yr hyr => ?_⟩
        rcases List.mem_cons.1 hyr with rfl | hm
        · omega
        · exact hall yr hm
      · exact Or.inr ⟨j + 1, yr, n, h1, by rw [h2, Nat.add_right_comm, Nat.add_assoc], h3, h4⟩

theorem numMoreBlocks_spec (e : Env) (ys : List Year) (h : Int) :
    (numMoreBlocks e ys h = (0, -1) ∧
      ∀ yr ∈ ys, yr.close - (secondsPerCycleLatest e h).2 < e.o.window) ∨
    ∃ (j : Nat) (yr : Year) (n : Int), ys[j]? = some yr ∧ numMoreBlocks e ys h = (n, (j : Int)) ∧
      e.o.cycle ≤ n ∧ e.o.window ≤ yr.close - (secondsPerCycleLatest e h).2 := by
  have := selectYear_spec e (secondsPerCycleLatest e h).1 (secondsPerCycleLatest e h).2 ys 0
  simp only [Nat.zero_add] at this
  exact this

theorem numMoreBlocks_snd_of_zero (e : Env) (ys : List Year) (h : Int) (hc : 0 < e.o.cycle)
    (hz : (numMoreBlocks e ys h).1 = 0) : (numMoreBlocks e ys h).2 = -1 := by
  rcases numMoreBlocks_spec e ys h with ⟨h0, _⟩ | ⟨j, yr, n, _, h2, h3, _⟩
  · rw [h0]
  · rw [h2] at hz
    have : n = 0 := hz
    omega

theorem ediv_forecast_bounds {L n c : Int} (hc : 0 < c) (hn : c ≤ n) (hL : 0 ≤ L) :
    0 ≤ L / n ∧ L / n ≤ L ∧ c * (L / n) ≤ L := by
  have h0 : 0 ≤ L / n := Int.ediv_nonneg hL (by omega)
  refine ⟨h0, Int.ediv_le_self _ hL, ?_⟩
  have h1 : c * (L / n) ≤ n * (L / n) := Int.mul_le_mul_of_nonneg_right hn h0
  have h2 : n * (L / n) ≤ L := Int.mul_ediv_self_le (by omega)
  omega

/-! ## one recalculation -/

/-- the four ways a recalculation can end: after the schedule (forecast 0), without a share for
    the forecast's year, with more recorded than the share, within the schedule -/
theorem recalc_cases (e : Env) (ys : List Year) (h : Int) :
    ((numMoreBlocks e ys h).1 = 0 ∧ ∀ c, recalc e ys c h =
        .ok e.o.burnout ⟨(numMoreBlocks e ys h).2, cycleNo e.o h, true, e.o.burnout⟩) ∨
    ∃ (y : Nat) (yr : Year) (n : Int), n ≠ 0 ∧ numMoreBlocks e ys h = (n, (y : Int)) ∧
      ys[y]? = some yr ∧ e.o.cycle ≤ n ∧
      e.o.window ≤ yr.close - (secondsPerCycleLatest e h).2 ∧
      ((e.o.shares[y]? = none ∧ ∀ c, recalc e ys c h = .crash) ∨
        ∃ supply, e.o.shares[y]? = some supply ∧
          ((supply - yr.till < 0 ∧ ∀ c, recalc e ys c h = .err c) ∨
            (0 ≤ supply - yr.till ∧ ∀ c, recalc e ys c h =
              .ok ((supply - yr.till) / n) ⟨y, cycleNo e.o h, false, (supply - yr.till) / n⟩))) := by
  unfold recalc
  dsimp only
  rcases numMoreBlocks_spec e ys h with ⟨h0, _⟩ | ⟨y, yr, n, hy, hn, hcn, hw⟩
  · rw [h0]
    exact Or.inl ⟨rfl, fun _ => rfl⟩
  · rw [hn]
    dsimp only
    by_cases h0 : n = 0
    · exact Or.inl ⟨h0, fun _ => if_pos h0⟩
    · refine Or.inr ⟨y, yr, n, h0, rfl, hy, hcn, hw, ?_⟩
      simp only [if_neg h0, Int.toNat_natCast, hy]
      cases e.o.shares[y]? with
      | none => exact Or.inl ⟨rfl, fun _ => rfl⟩
      | some supply =>
        refine Or.inr ⟨supply, rfl, ?_⟩
        by_cases hl : supply - yr.till < 0
        · exact Or.inl ⟨hl, fun _ => if_pos hl⟩
        · exact Or.inr ⟨Int.not_lt.1 hl, fun _ => if_neg hl⟩

theorem recalc_cache (e : Env) (ys : List Year) (c : Cache) (h : Int) :
    recalc e ys c h = match recalc e ys Cache.fresh h with
      | .err _ => .err c
      | r => r := by
  rcases recalc_cases e ys h with
    ⟨_, hk⟩ | ⟨_, _, _, _, _, _, _, _, ⟨_, hk⟩ | ⟨_, _, ⟨_, hk⟩ | ⟨_, hk⟩⟩⟩ <;>
  rw [hk c, hk Cache.fresh]

theorem recalc_ok_cache_indep {e : Env} {ys : List Year} {c : Cache} (c2 : Cache) {h a : Int} {c' : Cache}
    (hr : recalc e ys c h = .ok a c') : recalc e ys c2 h = .ok a c' := by
  rw [recalc_cache e ys c] at hr
  rw [recalc_cache e ys c2]
  cases hf : recalc e ys Cache.fresh h with
  | ok _ _ => rwa [hf] at hr
  | err _ => rw [hf] at hr; cases hr
  | crash => rw [hf] at hr; cases hr

theorem recalc_ok_cache {e : Env} {ys : List Year} {c c' : Cache} {h amt : Int}
    (hr : recalc e ys c h = .ok amt c') :
    c'.cycleNo = cycleNo e.o h ∧ c'.amount = amt ∧ (c'.burnedout = true → amt = e.o.burnout) := by
  rcases recalc_cases e ys h with
    ⟨_, hk⟩ | ⟨_, _, _, _, _, _, _, _, ⟨_, hk⟩ | ⟨_, _, ⟨_, hk⟩ | ⟨_, hk⟩⟩⟩ <;>
  rw [hk c] at hr <;> cases hr
  · exact ⟨rfl, rfl, fun _ => rfl⟩
  · exact ⟨rfl, rfl, nofun⟩

theorem recalc_congr {e : Env} {ys ys' : List Year} (c : Cache) {h h' : Int}
    (hs : secondsPerCycleLatest e h' = secondsPerCycleLatest e h)
    (hcy : cycleNo e.o h' = cycleNo e.o h) (hcl : ys'.map (·.close) = ys.map (·.close))
    (ht : ys'.map (·.till) = ys.map (·.till)) : recalc e ys' c h' = recalc e ys c h := by
  unfold recalc
  simp only [numMoreBlocks_congr hs hcl, hcy]
  generalize (numMoreBlocks e ys h).2.toNat = i
  have hi : (ys'[i]?).map (·.till) = (ys[i]?).map (·.till) := by
    rw [← List.getElem?_map, ← List.getElem?_map, ht]
  generalize ys'[i]? = o', ys[i]? = o at hi ⊢
  rcases o' with _ | yr' <;> rcases o with _ | yr
  · rfl
  · cases hi
  · cases hi
  · cases e.o.shares[i]? with
    | none => rfl
    | some sup => simp only [Option.some.inj hi]

/-! ## `Calculate` -/

theorem calculate_eq {e : Env} (ys : List Year) (c : Cache) (h : Int) (hc : e.o.cycle ≠ 0) :
    calculate e ys c h =
      if c.cycleNo > 0 ∧ c.cycleNo = cycleNo e.o h then .ok c.amount c else recalc e ys c h :=
  if_neg hc

theorem calculate_fresh {e : Env} (ys : List Year) (h : Int) (hc : e.o.cycle ≠ 0) :
    calculate e ys Cache.fresh h = recalc e ys Cache.fresh h :=
  (calculate_eq ys _ h hc).trans (if_neg (fun h => absurd h.1 (by decide)))

/-! ## `ConsumeRewards` and the year records -/

theorem addYearDist_length (ys : List Year) (y : Nat) (x : Int) (l : Bool) :
    (addYearDist ys y x l).length = ys.length := by
  unfold addYearDist
  split
  · rfl
  · simp

theorem addYearDist_getElem? (ys : List Year) (y i : Nat) (x : Int) (l : Bool) :
    (addYearDist ys y x l)[i]? = if y = i then
        ys[i]?.map fun yr => ⟨yr.close, yr.dist + x, if l then yr.dist + x else yr.till⟩
      else ys[i]? := by
  unfold addYearDist
  by_cases h : y = i
  · subst h
    rw [if_pos rfl]
    cases hy : ys[y]? with
    | none => exact hy
    | some yr => exact List.getElem?_set_self (List.getElem?_eq_some_iff.1 hy).1
  · rw [if_neg h]
    split
    · rfl
    · exact List.getElem?_set_ne h

theorem addYearDist_map {α : Type} (g : Year → α) {ys : List Year} {y : Nat} {x : Int} {l : Bool}
    (hg : ∀ yr : Year, g ⟨yr.close, yr.dist + x, if l then yr.dist + x else yr.till⟩ = g yr) :
    (addYearDist ys y x l).map g = ys.map g := by
  apply List.ext_getElem?
  intro i
  rw [List.getElem?_map, List.getElem?_map, addYearDist_getElem?]
  split
  · cases ys[i]? with
    | none => rfl
    | some yr => exact congrArg some (hg yr)
  · rfl

theorem consumeRewards_some {o : Opts} {years : List Year} {tdist : Int} {c : Cache}
    {h consumed : Int} {ys : List Year} {td : Int}
    (hc : consumeRewards o years tdist c h consumed = some (ys, td)) :
    td = tdist + consumed ∧ (c.burnedout = true → ys = years) ∧
    (c.burnedout = false → ∃ (y : Nat) (yr : Year), c.year = (y : Int) ∧ years[y]? = some yr ∧
      ys = addYearDist years y consumed (lastInCycle o h)) := by
  unfold consumeRewards at hc
  by_cases hb : c.burnedout = true
  · rw [if_pos hb] at hc
    cases hc
    exact ⟨rfl, fun _ => rfl, fun hf => by rw [hb] at hf; cases hf⟩
  · rw [if_neg hb] at hc
    obtain ⟨hy, hc⟩ := of_guard hc
    cases hc
    have hy2 : c.year.toNat < years.length := by omega
    exact ⟨rfl, fun ht => absurd ht hb, fun _ =>
      ⟨c.year.toNat, years[c.year.toNat], by omega, List.getElem?_eq_getElem hy2, rfl⟩⟩

/-! ## one block -/

section
variable {e : Env} {use : Int → Int → Int} {pool : Int → Int}

theorem calcStep_eq (s : CS) (h : Int) (r : Bool) :
    calcStep e use pool s h r =
      match calculate e s.years (if r then Cache.fresh else s.cache) h with
      | .crash => ({ s with cache := if r then Cache.fresh else s.cache }, none)
      | .err c => ({ s with cache := c }, none)
      | .ok a c =>
        match consumeRewards e.o s.years s.tdist c h
            (use h (if c.burnedout = true ∧ pool h < a then pool h else a)) with
        | none => ({ s with cache := c }, none)
        | some (ys, td) =>
          (⟨ys, td, c⟩, some (if c.burnedout = true ∧ pool h < a then pool h else a)) := by
  unfold calcStep pullRewards
  simp only []
  cases calculate e s.years (if r then Cache.fresh else s.cache) h with
  | crash => rfl
  | err c => rfl
  | ok a c =>
    by_cases hlt : c.burnedout = true ∧ pool h < a
    · simp only [if_pos hlt]
      rfl
    · simp only [if_neg hlt]
      rfl

theorem calcStep_map {α : Type} (g : Year → α) (s : CS) (h : Int) (r : Bool)
    (hg : ∀ (yr : Year) (x : Int),
      g ⟨yr.close, yr.dist + x, if lastInCycle e.o h then yr.dist + x else yr.till⟩ = g yr) :
    (calcStep e use pool s h r).1.years.map g = s.years.map g := by
  rw [calcStep_eq]
  split
  · rfl
  · rfl
  · split
    · rfl
    · rename_i c _ _ _ _ hcr
      obtain ⟨_, h1, h2⟩ := consumeRewards_some hcr
      cases hb : c.burnedout with
      | true => rw [h1 hb]
      | false =>
        obtain ⟨y, _, _, _, h3⟩ := h2 hb
        rw [h3]
        exact addYearDist_map g (hg · _)

theorem calcStep_close (s : CS) (h : Int) (r : Bool) :
    (calcStep e use pool s h r).1.years.map (·.close) = s.years.map (·.close) :=
  calcStep_map _ s h r (fun _ _ => rfl)

theorem calcStep_till (s : CS) (r : Bool) {h : Int} (hl : lastInCycle e.o h = false) :
    (calcStep e use pool s h r).1.years.map (·.till) = s.years.map (·.till) :=
  calcStep_map _ s h r (fun _ _ => by rw [hl]; rfl)

/-! ## restart independence: the simulation -/

/-- what the cache of a running node satisfies before block `k`: it is not from a later cycle,
    and when it is from the current cycle it is what a recalculation would give -/
def GoodCache (e : Env) (k : Int) (c : Cache) (ys : List Year) : Prop :=
  c.cycleNo ≤ cycleNo e.o k ∧
    (c.cycleNo > 0 → c.cycleNo = cycleNo e.o k → recalc e ys Cache.fresh k = .ok c.amount c)

theorem goodCache_fresh {k : Int} (ys : List Year) (hk : 1 ≤ k) (hc : 0 < e.o.cycle) :
    GoodCache e k Cache.fresh ys :=
  ⟨Int.le_of_lt (cycleNo_pos hk hc), fun h => absurd h (by decide)⟩

theorem recalc_next {ys ys' : List Year} {k : Int} (hk : 1 ≤ k) (hc : 0 < e.o.cycle)
    (hl : lastInCycle e.o k = false)
    (hcl : ys'.map (·.close) = ys.map (·.close)) (ht : ys'.map (·.till) = ys.map (·.till)) :
    recalc e ys' Cache.fresh (k + 1) = recalc e ys Cache.fresh k :=
  recalc_congr Cache.fresh (spc_succ_of_not_last hk hc hl) ((cycle_succ hk hc).1 hl).1 hcl ht

theorem goodCache_succ {ys ys' : List Year} {k : Int} {c : Cache} (hk : 1 ≤ k)
    (hc : 0 < e.o.cycle) (hg : GoodCache e k c ys) (hcl : ys'.map (·.close) = ys.map (·.close))
    (ht : lastInCycle e.o k = false → ys'.map (·.till) = ys.map (·.till)) :
    GoodCache e (k + 1) c ys' := by
  obtain ⟨h1, h2⟩ := cycle_succ (o := e.o) hk hc
  have hle := hg.1
  cases hl : lastInCycle e.o k with
  | true =>
    have := (h2 hl).1
    exact ⟨by omega, fun _ _ => by omega⟩
  | false =>
    have := (h1 hl).1
    refine ⟨by omega, fun hpos heq => ?_⟩
    rw [recalc_next hk hc hl hcl (ht hl)]
    exact hg.2 hpos (by omega)

theorem calculate_sim {ys : List Year} {c : Cache} {k : Int} (hc : 0 < e.o.cycle)
    (hg : GoodCache e k c ys) :
    calculate e ys c k = match recalc e ys Cache.fresh k with
      | .err _ => .err c
      | r => r := by
  rw [calculate_eq ys c k (by omega)]
  split
  · rename_i hcond
    rw [hg.2 hcond.1 hcond.2]
  · exact recalc_cache e ys c k

/-- one block of the simulation: a node with a good cache for `k` (restarted or not) and one that
    restarts, on the same records, pull the same and agree after; the first has a good cache for `k + 1` -/
theorem calcStep_sim {s si : CS} {k : Int} (r : Bool) (hk : 1 ≤ k) (hc : 0 < e.o.cycle)
    (hy : s.years = si.years) (ht : s.tdist = si.tdist)
    (hg : GoodCache e k s.cache s.years) :
    (calcStep e use pool s k r).2 = (calcStep e use pool si k true).2 ∧
    (calcStep e use pool s k r).1.years = (calcStep e use pool si k true).1.years ∧
    (calcStep e use pool s k r).1.tdist = (calcStep e use pool si k true).1.tdist ∧
    GoodCache e (k + 1) (calcStep e use pool s k r).1.cache (calcStep e use pool s k r).1.years := by
  have hg0 : GoodCache e k (if r then Cache.fresh else s.cache) s.years := by
    cases r with
    | true => exact goodCache_fresh s.years hk hc
    | false => exact hg
  -- a cache that is good for `k` against the records before the block is good after it
  have hnext := fun c (h : GoodCache e k c s.years) =>
    goodCache_succ hk hc h (calcStep_close (use := use) (pool := pool) s k r) (calcStep_till s r)
  rw [calcStep_eq si, if_pos rfl, calculate_fresh _ _ (by omega), ← hy, ← ht]
  -- also under the binder of `hnext` (the `calcStep … s k r` there does not mention the bound cache):
  -- its conclusion must name the same unfolded state as the goal before the cases on `recalc`
  rw [calcStep_eq s, calculate_sim hc hg0] at hnext ⊢
  cases hrec : recalc e s.years Cache.fresh k with
  | ok a ci =>
    obtain ⟨g1, g2, _⟩ := recalc_ok_cache hrec
    have hci := hnext ci ⟨Int.le_of_eq g1, fun _ _ => by rw [g2]; exact hrec⟩
    rw [hrec] at hci
    dsimp only at hci ⊢
    generalize consumeRewards e.o s.years s.tdist ci k
        (use k (if ci.burnedout = true ∧ pool k < a then pool k else a)) = cr at hci ⊢
    cases cr <;> exact ⟨rfl, rfl, rfl, hci⟩
  | err ci =>
    rw [hrec] at hnext
    exact ⟨rfl, rfl, rfl, hnext _ hg0⟩
  | crash =>
    rw [hrec] at hnext
    exact ⟨rfl, rfl, rfl, hnext _ hg0⟩

/-! ## runs, block by block

  The state before block `j` of a run over `rs` is the final state of the run over `rs.take j`. -/

theorem calcRun_cons (s : CS) (h : Int) (r : Bool) (rs : List Bool) :
    calcRun e use pool s h (r :: rs) =
      ((calcRun e use pool (calcStep e use pool s h r).1 (h + 1) rs).1,
        (calcStep e use pool s h r).2 :: (calcRun e use pool (calcStep e use pool s h r).1 (h + 1) rs).2) :=
  rfl

variable (use pool) in
theorem calcRun_close (rs : List Bool) (s : CS) (k : Int) :
    (calcRun e use pool s k rs).1.years.map (·.close) = s.years.map (·.close) := by
  induction rs generalizing s k with
  | nil => rfl
  | cons r rs ih => exact (ih _ (k + 1)).trans (calcStep_close s k r)

theorem calcRun_take_succ (rs : List Bool) (s : CS) (k : Int) {j : Nat} (hj : j < rs.length) :
    (calcRun e use pool s k (rs.take (j + 1))).1 =
      (calcStep e use pool (calcRun e use pool s k (rs.take j)).1 (k + (j : Int)) rs[j]).1 := by
  induction rs generalizing s k j with
  | nil => cases hj
  | cons r rs ih =>
    cases j with
    | zero =>
      rw [List.take_zero, Int.natCast_zero, Int.add_zero]
      rfl
    | succ j =>
      rw [List.take_succ_cons, calcRun_cons, ih _ (k + 1) (Nat.lt_of_succ_lt_succ hj),
        List.take_succ_cons, calcRun_cons,
        show k + ((j + 1 : Nat) : Int) = k + 1 + (j : Int) by omega]
      rfl

theorem calcRun_till_of_same_cycle (hc : 0 < e.o.cycle) (rs : List Bool) (s : CS) {k : Int}
    (hk : 1 ≤ k) {i j : Nat} (hij : i ≤ j) (hj : j ≤ rs.length)
    (hcy : cycleNo e.o (k + i) = cycleNo e.o (k + j)) :
    (calcRun e use pool s k (rs.take j)).1.years.map (·.till) =
      (calcRun e use pool s k (rs.take i)).1.years.map (·.till) := by
  induction hij with
  | refl => rfl
  | @step j hij ih =>
    have hij : i ≤ j := hij
    have hm := cycleNo_mono (o := e.o) (a := k + i) (b := k + j) (by omega) (by omega) hc
    obtain ⟨h1, h2⟩ := cycle_succ (o := e.o) (k := k + j) (by omega) hc
    rw [Int.natCast_succ, ← Int.add_assoc] at hcy
    cases hl : lastInCycle e.o (k + j) with
    | true =>
      have := (h2 hl).1
      omega
    | false =>
      rw [calcRun_take_succ rs s k hj, calcStep_till _ _ hl]
      exact ih (Nat.le_of_succ_le hj) (hcy.trans (h1 hl).1)

theorem calcRun_out_getElem? (rs : List Bool) (s : CS) (k : Int) (j : Nat) :
    (calcRun e use pool s k rs).2[j]? = rs[j]?.map fun r =>
      (calcStep e use pool (calcRun e use pool s k (rs.take j)).1 (k + (j : Int)) r).2 := by
  induction rs generalizing s k j with
  | nil => rfl
  | cons r rs ih =>
    cases j with
    | zero =>
      rw [calcRun_cons, List.take_zero, Int.natCast_zero, Int.add_zero]
      rfl
    | succ j =>
      rw [calcRun_cons, List.getElem?_cons_succ, ih _ (k + 1) j,
        List.getElem?_cons_succ, List.take_succ_cons, calcRun_cons,
        show k + ((j + 1 : Nat) : Int) = k + 1 + (j : Int) by omega]

/-- along a run that starts with a good cache the cache stays good, and so does every invariant
    `I` of the year records that a block of a freshly restarted node preserves: before every
    block `j`, and after the last one (`j = rs.length`) -/
theorem calcRun_good (hc : 0 < e.o.cycle) (I : Int → List Year → Prop)
    (hI : ∀ {s : CS} {k : Int}, 1 ≤ k → I k s.years →
      I (k + 1) (calcStep e use pool s k true).1.years)
    (rs : List Bool) (s : CS) {k : Int} (hk : 1 ≤ k) (hg : GoodCache e k s.cache s.years)
    (h0 : I k s.years) : ∀ {j : Nat}, j ≤ rs.length →
    GoodCache e (k + (j : Int)) (calcRun e use pool s k (rs.take j)).1.cache
      (calcRun e use pool s k (rs.take j)).1.years ∧
    I (k + (j : Int)) (calcRun e use pool s k (rs.take j)).1.years
  | 0, _ => by
    rw [List.take_zero, Int.natCast_zero, Int.add_zero]
    exact ⟨hg, h0⟩
  | j + 1, hj => by
    obtain ⟨g1, g3⟩ := calcRun_good hc I hI rs s hk hg h0 (Nat.le_of_succ_le hj)
    have hkj : 1 ≤ k + (j : Int) := by omega
    obtain ⟨_, s2, _, s4⟩ := calcStep_sim (use := use) (pool := pool) rs[j] hkj hc rfl rfl g1
    rw [calcRun_take_succ rs s k hj, Int.natCast_succ, ← Int.add_assoc]
    exact ⟨s4, by rw [s2]; exact hI hkj g3⟩

/-- every block answers what a freshly restarted node would answer in its place -/
theorem calcRun_out_eq_restarted (hc : 0 < e.o.cycle) {rs : List Bool} (s : CS) {k : Int} (hk : 1 ≤ k)
    (hg : GoodCache e k s.cache s.years) {j : Nat} {out : Option Int}
    (hj : (calcRun e use pool s k rs).2[j]? = some out) :
    j < rs.length ∧
      out = (calcStep e use pool (calcRun e use pool s k (rs.take j)).1 (k + (j : Int)) true).2 := by
  rw [calcRun_out_getElem?] at hj
  cases hr : rs[j]? with
  | none => rw [hr] at hj; cases hj
  | some r =>
    have hlt : j < rs.length := (List.getElem?_eq_some_iff.1 hr).1
    -- no invariant: only the good cache before block `j` is wanted
    obtain ⟨h2, _⟩ := calcRun_good (use := use) (pool := pool) hc (fun _ _ => True)
      (fun _ _ => trivial) rs s hk hg trivial (Nat.le_of_lt hlt)
    rw [hr, Option.map_some, (calcStep_sim r (by omega) hc rfl rfl h2).1] at hj
    exact ⟨hlt, (Option.some.inj hj).symm⟩

/-- restart independence: two nodes on the same records, each with a good cache, pull the same
    and record the same, whatever their restart patterns -/
theorem calcRun_agree (hc : 0 < e.o.cycle) {rs rs' : List Bool} (hl : rs.length = rs'.length)
    (s s' : CS) {k : Int} (hk : 1 ≤ k) (hy : s.years = s'.years) (ht : s.tdist = s'.tdist)
    (hg : GoodCache e k s.cache s.years) (hg' : GoodCache e k s'.cache s'.years) :
    (calcRun e use pool s k rs).2 = (calcRun e use pool s' k rs').2 ∧
    (calcRun e use pool s k rs).1.years = (calcRun e use pool s' k rs').1.years ∧
    (calcRun e use pool s k rs).1.tdist = (calcRun e use pool s' k rs').1.tdist := by
  induction rs generalizing rs' s s' k with
  | nil =>
    cases rs' with
    | nil => exact ⟨rfl, hy, ht⟩
    | cons _ _ => cases hl
  | cons r rs ih =>
    cases rs' with
    | nil => cases hl
    | cons r' rs' =>
      rw [calcRun_cons, calcRun_cons]
      -- both blocks do what a restarted node does on these records
      obtain ⟨h1, h2, h3, h4⟩ := calcStep_sim (use := use) (pool := pool) r hk hc hy ht hg
      obtain ⟨g1, g2, g3, g4⟩ := calcStep_sim (use := use) (pool := pool) r' hk hc rfl rfl hg'
      obtain ⟨i1, i2, i3⟩ := ih (Nat.succ.inj hl) _ _ (by omega) (h2.trans g2.symm)
        (h3.trans g3.symm) h4 g4
      exact ⟨by rw [h1, g1, i1], i2, i3⟩

/-! ## the block of a node restarted before it -/

/-- block `k` recalculates within the schedule: `a` per block, drawn on year `y` -/
def Drawn (e : Env) (ys : List Year) (k : Int) (y : Nat) (a : Int) : Prop :=
  ∃ c, recalc e ys Cache.fresh k = .ok a c ∧ c.burnedout = false ∧ c.year = (y : Int)

theorem Drawn.unique {ys : List Year} {k : Int} {y y' : Nat} {a a' : Int}
    (h : Drawn e ys k y a) (h' : Drawn e ys k y' a') : y = y' ∧ a = a' := by
  obtain ⟨c, h1, _, h3⟩ := h
  obtain ⟨c', h1', _, h3'⟩ := h'
  rw [h1] at h1'
  cases h1'
  exact ⟨by omega, rfl⟩

theorem Drawn.spec {ys : List Year} {k : Int} {y : Nat} {a : Int} (hc : 0 < e.o.cycle)
    (h : Drawn e ys k y a) :
    (numMoreBlocks e ys k).2 = (y : Int) ∧ ∃ supply yr, e.o.shares[y]? = some supply ∧
      ys[y]? = some yr ∧ 0 ≤ a ∧ a ≤ supply - yr.till ∧ e.o.cycle * a ≤ supply - yr.till := by
  obtain ⟨c, h1, h2, h3⟩ := h
  rcases recalc_cases e ys k with
    ⟨_, hk⟩ | ⟨y', yr, n, _, hn, hy, hcn, _, ⟨_, hk⟩ | ⟨supply, hs, ⟨_, hk⟩ | ⟨hl, hk⟩⟩⟩ <;>
  rw [hk Cache.fresh] at h1 <;> cases h1
  · cases h2
  · cases h3
    exact ⟨by rw [hn], supply, yr, hs, hy, ediv_forecast_bounds hc hcn hl⟩

variable (use pool) in
/-- what a block of a freshly restarted node does to the year records: a recalculation within the
    schedule adds the consumed amount to its year; every other block leaves them alone, and fails
    unless the forecast is 0 -/
theorem calcStep_restarted_years (hc : 0 < e.o.cycle) (s : CS) (k : Int) :
    (∃ y a, Drawn e s.years k y a ∧ (calcStep e use pool s k true).2 = some a ∧
      (calcStep e use pool s k true).1.years =
        addYearDist s.years y (use k a) (lastInCycle e.o k)) ∨
    ((calcStep e use pool s k true).1.years = s.years ∧ (∀ y a, ¬ Drawn e s.years k y a) ∧
      if (numMoreBlocks e s.years k).1 = 0 then (calcStep e use pool s k true).2.isSome = true
      else (calcStep e use pool s k true).2 = none) := by
  unfold Drawn
  rw [calcStep_eq, if_pos rfl, calculate_fresh _ _ (by omega)]
  rcases recalc_cases e s.years k with
    ⟨hn, hk⟩ | ⟨y, yr, n, h0, hn, hy, _, _, ⟨_, hk⟩ | ⟨supply, _, ⟨_, hk⟩ | ⟨_, hk⟩⟩⟩ <;>
  rw [hk Cache.fresh]
  · refine Or.inr ⟨?_, fun _ _ ⟨_, h1, h2, _⟩ => ?_, ?_⟩
    · simp only [consumeRewards, if_true]
    · cases h1
      cases h2
    · rw [if_pos hn]
      simp only [consumeRewards, if_true]
      rfl
  · exact Or.inr ⟨rfl, fun _ _ ⟨_, h1, _⟩ => (nomatch h1), by rw [hn, if_neg h0]⟩
  · exact Or.inr ⟨rfl, fun _ _ ⟨_, h1, _⟩ => (nomatch h1), by rw [hn, if_neg h0]⟩
  · have hno : ¬ ((y : Int) < 0 ∨ s.years.length ≤ y) := by
      have := (List.getElem?_eq_some_iff.1 hy).1
      omega
    refine Or.inl ⟨y, _, ⟨_, rfl, rfl, rfl⟩, ?_, ?_⟩ <;>
      simp only [consumeRewards, Bool.false_eq_true, false_and, if_false, Int.toNat_natCast, hno]

theorem calcRun_pulled_le_left (hc : 0 < e.o.cycle) {rs : List Bool} (s : CS) {k : Int} (hk : 1 ≤ k)
    (hg : GoodCache e k s.cache s.years) {j : Nat} {amt : Int}
    (hj : (calcRun e use pool s k rs).2[j]? = some (some amt))
    (hn : (numMoreBlocks e s.years (k + j)).1 ≠ 0) :
    ∃ (y : Nat) (supply : Int) (yr : Year), (numMoreBlocks e s.years (k + j)).2 = (y : Int) ∧
      e.o.shares[y]? = some supply ∧
      (calcRun e use pool s k (rs.take j)).1.years[y]? = some yr ∧ 0 ≤ amt ∧ amt ≤ supply - yr.till := by
  obtain ⟨hlt, hout⟩ := calcRun_out_eq_restarted hc s hk hg hj
  rw [← numMoreBlocks_congr (h := k + j) rfl
    (calcRun_close use pool (rs.take j) s k)] at hn ⊢
  rcases calcStep_restarted_years use pool hc _ (k + j) with
    ⟨y, a, hd, ho, _⟩ | ⟨_, _, ho⟩
  · obtain rfl : a = amt := Option.some.inj (ho.symm.trans hout.symm)
    obtain ⟨h3, supply, yr, h4, h5, h6, h7, _⟩ := hd.spec hc
    exact ⟨y, supply, yr, h3, h4, h5, h6, h7⟩
  · rw [if_neg hn, ← hout] at ho
    cases ho

/-! ## invariants of the year records -/

/-- every year record is either settled (`S`), or it is the year the current cycle draws on and
    `G` bounds what it has received in this cycle so far -/
def YearsInv (e : Env) (S : Nat → Year → Prop) (G : Int → Int → Year → Prop) (k : Int)
    (ys : List Year) : Prop :=
  ∀ (y : Nat) (yr : Year), ys[y]? = some yr → S y yr ∨ ∃ a, Drawn e ys k y a ∧ G k a yr

/-- a block of a freshly restarted node keeps `YearsInv` when the year drawn on becomes settled by
    the last block of a cycle and stays within its bound in every other block: the other years do
    not change, and there is at most one year drawn on -/
theorem yearsInv_step {S : Nat → Year → Prop} {G : Int → Int → Year → Prop}
    (hc : 0 < e.o.cycle) {s : CS} {k : Int} (hk : 1 ≤ k)
    (hstep : ∀ y a yr, Drawn e s.years k y a → s.years[y]? = some yr → (S y yr ∨ G k a yr) →
      match lastInCycle e.o k with
      | true => S y ⟨yr.close, yr.dist + use k a, yr.dist + use k a⟩
      | false => G (k + 1) a ⟨yr.close, yr.dist + use k a, yr.till⟩)
    (hinv : YearsInv e S G k s.years) :
    YearsInv e S G (k + 1) (calcStep e use pool s k true).1.years := by
  intro y yr hy
  rcases calcStep_restarted_years use pool hc s k with
    ⟨y0, a, hd, _, hys⟩ | ⟨hys, hnd, _⟩
  · rw [hys, addYearDist_getElem?] at hy
    split at hy
    · rename_i hyy
      subst hyy
      obtain ⟨yr0, hy0, rfl⟩ := Option.map_eq_some_iff.1 hy
      have hnew := hstep y0 a yr0 hd hy0
        ((hinv y0 yr0 hy0).imp_right fun ⟨a', hd', hg⟩ => (hd.unique hd').2 ▸ hg)
      cases hl : lastInCycle e.o k with
      | true =>
        rw [hl] at hnew
        exact Or.inl hnew
      | false =>
        rw [hl] at hnew
        refine Or.inr ⟨a, ?_, hnew⟩
        unfold Drawn
        rw [recalc_next hk hc hl (calcStep_close s k true) (calcStep_till s true hl)]
        exact hd
    · rename_i hyy
      exact (hinv y yr hy).elim Or.inl fun ⟨a', hd', _⟩ => absurd (hd.unique hd').1 hyy
  · rw [hys] at hy
    exact (hinv y yr hy).elim Or.inl fun ⟨a', hd', _⟩ => absurd hd' (hnd y a')

/-- every year record has `TillLastCycle = Distributed`, except — after the first block of a
    cycle — the year the current cycle draws on -/
def TillInv (e : Env) : Int → List Year → Prop :=
  YearsInv e (fun _ yr => yr.till = yr.dist) (fun k _ _ => firstInCycle e.o k = false)

theorem tillInv_step (hc : 0 < e.o.cycle) {s : CS} {k : Int} (hk : 1 ≤ k)
    (hinv : TillInv e k s.years) : TillInv e (k + 1) (calcStep e use pool s k true).1.years :=
  yearsInv_step hc hk (fun _ _ _ _ _ _ => by
    rw [firstInCycle_succ]
    cases lastInCycle e.o k <;> rfl) hinv

/-- every year is either settled within its supply (`TillLastCycle = Distributed ≤ supply`) or is
    the year the current cycle draws on, and has received at most the cycle's per-block amount for
    each block of the cycle so far -/
def SupInv (e : Env) : Int → List Year → Prop :=
  YearsInv e
    (fun y yr => yr.till = yr.dist ∧ ∀ supply, e.o.shares[y]? = some supply → yr.dist ≤ supply)
    (fun k a yr => yr.dist - yr.till ≤ cyclePos e.o k * a)

theorem supInv_within {k : Int} {ys : List Year} (hc : 0 < e.o.cycle)
    (hinv : SupInv e k ys) {y : Nat} {yr : Year} {supply : Int}
    (hy : ys[y]? = some yr) (hs : e.o.shares[y]? = some supply) :
    yr.dist ≤ supply ∧ yr.till ≤ supply := by
  rcases hinv y yr hy with ⟨h1, h2⟩ | ⟨a, hd, hg⟩
  · have := h2 supply hs
    omega
  · obtain ⟨_, supply', yr', g4, g5, g6, _, g8⟩ := hd.spec hc
    obtain rfl := Option.some.inj (g4.symm.trans hs)
    obtain rfl := Option.some.inj (g5.symm.trans hy)
    have h1 : cyclePos e.o k * a ≤ e.o.cycle * a :=
      Int.mul_le_mul_of_nonneg_right (Int.le_of_lt (Int.emod_lt_of_pos _ hc)) g6
    have h2 : 0 ≤ e.o.cycle * a := Int.mul_nonneg (by omega) g6
    omega

theorem supInv_step (huse : ∀ k a, 0 ≤ a → 0 ≤ use k a ∧ use k a ≤ a) (hc : 0 < e.o.cycle)
    {s : CS} {k : Int} (hk : 1 ≤ k) (hinv : SupInv e k s.years) :
    SupInv e (k + 1) (calcStep e use pool s k true).1.years := by
  refine yearsInv_step hc hk (fun y a yr hd hy hpre => ?_) hinv
  obtain ⟨_, supply, yr', g4, g5, g6, _, g8⟩ := hd.spec hc
  obtain rfl := Option.some.inj (g5.symm.trans hy)
  obtain ⟨u0, u1⟩ := huse k a g6
  -- what the year has received in this cycle so far
  have hD : yr'.dist - yr'.till ≤ cyclePos e.o k * a := by
    rcases hpre with ⟨h1, _⟩ | h
    · have := Int.mul_nonneg (Int.emod_nonneg (k - 1) (Int.ne_of_gt hc)) g6
      unfold cyclePos
      omega
    · exact h
  cases hl : lastInCycle e.o k with
  | true =>
    rw [((cycle_succ hk hc).2 hl).2, Int.sub_mul, Int.one_mul] at hD
    refine ⟨rfl, fun supply' hs => ?_⟩
    obtain rfl := Option.some.inj (g4.symm.trans hs)
    simp only []
    omega
  | false =>
    simp only []
    rw [((cycle_succ hk hc).1 hl).2, Int.add_mul, Int.one_mul]
    omega

theorem supInv_step_isSome {s : CS} {k : Int} (hc : 0 < e.o.cycle)
    (hlen : e.o.shares.length = s.years.length) (hinv : SupInv e k s.years) :
    (calcStep e use pool s k true).2.isSome = true := by
  rcases calcStep_restarted_years use pool hc s k with ⟨_, _, _, ho, _⟩ | ⟨_, hnd, ho⟩
  · rw [ho]; rfl
  · split at ho
    · exact ho
    · rename_i hn
      -- a failing block has no share for the forecast's year, or more recorded than the share
      rcases recalc_cases e s.years k with
        ⟨h0, _⟩ | ⟨y, yr, n, _, _, hy, _, _, ⟨hs, _⟩ | ⟨supply, hs, ⟨hl, _⟩ | ⟨_, hk⟩⟩⟩
      · exact absurd h0 hn
      · have := (List.getElem?_eq_some_iff.1 hy).1
        have := List.getElem?_eq_none_iff.1 hs
        omega
      · have := (supInv_within hc hinv hy hs).2
        omega
      · exact absurd ⟨_, hk Cache.fresh, rfl, rfl⟩ (hnd y _)

end

end OLP.Rewards
