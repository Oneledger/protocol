/-
  Layer D — helper lemmas for the reward split, the reward records and the withdrawal (C13).
-/
import OLP.Rewards.Model
import OLP.Base.Guard
import OLP.Base.Lists

namespace OLP.Rewards

theorem sum_floor_shares_le (T P : Int) (ps : List Int) (hT : 0 ≤ T) (hP : 0 < P) (hs : ps.sum ≤ P) :
    (ps.map (fun p => T * p / P)).sum ≤ T :=
  sum_mul_ediv_le T P ps hT (Int.le_of_lt hP) hs

/-! ## votes and the power map -/

theorem powerMap_cons (a : Vote) (l : List Vote) (x : Addr) :
    powerMap (a :: l) x = (powerMap l x).or (if x = a.addr then some a.pw else none) := by
  unfold powerMap
  rw [List.reverse_cons, List.find?_append]
  by_cases h : a.addr = x <;> cases List.find? (fun v => decide (v.addr = x)) l.reverse <;>
    simp [h, eq_comm (a := x)]

theorem powerMap_none_of_not_mem {l : List Vote} {x : Addr} (h : x ∉ l.map (·.addr)) :
    powerMap l x = none := by
  induction l with
  | nil => rfl
  | cons a t ih =>
    simp only [List.map_cons, List.mem_cons, not_or] at h
    rw [powerMap_cons, ih h.2, if_neg h.1]
    rfl

theorem powerMap_of_mem {l : List Vote} {v : Vote} (hn : (l.map (·.addr)).Nodup) (hv : v ∈ l) :
    powerMap l v.addr = some v.pw := by
  induction l with
  | nil => cases hv
  | cons a t ih =>
    simp only [List.map_cons, List.nodup_cons] at hn
    rw [powerMap_cons]
    rcases List.mem_cons.mp hv with rfl | hm
    · rw [powerMap_none_of_not_mem hn.1, if_pos rfl]; rfl
    · rw [ih hn.2 hm]; rfl

theorem pw_nonneg {v : Vote} (h : 0 ≤ v.power) : 0 ≤ v.pw :=
  Int.mul_nonneg h (by decide)

theorem powerMap_getD_nonneg (l : List Vote) (x : Addr) (h : ∀ v ∈ l, 0 ≤ v.power) :
    0 ≤ (powerMap l x).getD 0 := by
  induction l with
  | nil => exact Int.le_refl 0
  | cons a t ih =>
    have ih := ih (fun w hw => h w (List.mem_cons_of_mem _ hw))
    have ha := pw_nonneg (h a List.mem_cons_self)
    rw [powerMap_cons]
    cases hp : powerMap t x with
    | some y => rw [hp] at ih; exact ih
    | none => by_cases hx : x = a.addr <;> simp [hx, ha]

theorem sumPower_cons (v : Vote) (t : List Vote) : sumPower (v :: t) = v.pw + sumPower t := by
  simp [sumPower]

theorem sumPower_nonneg {vs : List Vote} (h : ∀ v ∈ vs, 0 ≤ v.power) : 0 ≤ sumPower vs := by
  induction vs with
  | nil => exact Int.le_refl 0
  | cons v t ih =>
    rw [sumPower_cons]
    have := pw_nonneg (h v List.mem_cons_self)
    have := ih (fun w hw => h w (List.mem_cons_of_mem _ hw))
    omega

/-! ## the delegation pool's share -/

/-- COMMISSION_PERCENTAGE = 25 and BLOCK_PROPOSER_COMMISSION = 20 cut a part out of a part -/
theorem commission_bounds {dr : Int} (h : 0 ≤ dr) :
    0 ≤ 20 * (25 * dr / 100) / 100 ∧ 20 * (25 * dr / 100) / 100 ≤ 25 * dr / 100 ∧
      25 * dr / 100 ≤ dr := by
  omega

/-- on non-negative inputs neither `Amount.Minus` of `handleDelegationRewards` fails -/
theorem delegSplit_ok (T D P : Int) (active : List (Addr × Int)) (hT : 0 ≤ T) (hD : 0 ≤ D)
    (hP : 0 ≤ P) :
    ∃ dr comm pr, dr = T * D / P ∧ 0 ≤ pr ∧ pr ≤ comm ∧ comm ≤ dr ∧
      delegSplit T D P active =
        ⟨dr - comm, pr, comm - pr, active.map (fun p => (p.1, (dr - comm) * p.2 / D)), true⟩ := by
  obtain ⟨h1, h2, h3⟩ := commission_bounds (Int.ediv_nonneg (Int.mul_nonneg hT hD) hP)
  refine ⟨_, _, _, rfl, h1, h2, h3, ?_⟩
  unfold delegSplit
  exact (if_neg (by omega)).trans (if_neg (by omega))

/-! ## the validator loop -/

section
variable {T D P Pc : Int} {resp : DelegResp} {proposer : Addr} {all : List Vote}

theorem valCredits_cons_pos {v : Vote} (t : List Vote) (h : v.known ∧ v.signed) :
    valCredits T D P Pc resp proposer all (v :: t) =
      (v.addr, T * (powerMap all v.addr).getD 0 / P +
        (if D > 0 then resp.commission * (powerMap all v.addr).getD 0 / Pc +
            (if v.addr = proposer then resp.proposerReward else 0) else 0)) ::
        valCredits T D P Pc resp proposer all t := by
  simp only [valCredits, h, and_self, if_true, rewardFor]

theorem valCredits_cons_neg {v : Vote} (t : List Vote) (h : ¬ (v.known ∧ v.signed)) :
    valCredits T D P Pc resp proposer all (v :: t) = valCredits T D P Pc resp proposer all t := by
  simp only [valCredits, h, if_false]

theorem sumSnd_cons (a : Addr) (x : Int) (t : List (Addr × Int)) :
    sumSnd ((a, x) :: t) = x + sumSnd t := by
  simp [sumSnd]

/-- the credits are at most the floor shares of the reward and of the commission by the powers of
    all votes (a vote that is not credited has a share ≥ 0), plus the proposer's reward once (the
    addresses are distinct) -/
theorem valCredits_sum_le {vs : List Vote}
    (hn : (vs.map (·.addr)).Nodup) (hp : ∀ v ∈ vs, powerMap all v.addr = some v.pw)
    (hpw : ∀ v ∈ vs, 0 ≤ v.power) (hT : 0 ≤ T) (hP : 0 ≤ P) (hc : 0 ≤ resp.commission)
    (hPc : 0 ≤ Pc) (hpr : 0 ≤ resp.proposerReward) :
    sumSnd (valCredits T D P Pc resp proposer all vs) ≤
      ((vs.map Vote.pw).map (fun p => T * p / P)).sum +
      ((vs.map Vote.pw).map (fun p => resp.commission * p / Pc)).sum +
      (if proposer ∈ vs.map (·.addr) then resp.proposerReward else 0) := by
  induction vs with
  | nil => simp [valCredits, sumSnd]
  | cons v t ih =>
    simp only [List.map_cons, List.nodup_cons] at hn
    have ih := ih hn.2 (fun w hw => hp w (List.mem_cons_of_mem _ hw))
      (fun w hw => hpw w (List.mem_cons_of_mem _ hw))
    have hv := pw_nonneg (hpw v List.mem_cons_self)
    have h1 : 0 ≤ resp.commission * v.pw / Pc := Int.ediv_nonneg (Int.mul_nonneg hc hv) hPc
    simp only [List.map_cons, List.sum_cons, List.mem_cons]
    by_cases hsel : v.known ∧ v.signed
    · rw [valCredits_cons_pos _ hsel, sumSnd_cons, hp v List.mem_cons_self]
      simp only [Option.getD_some]
      by_cases hpp : v.addr = proposer
      · rw [if_neg (hpp ▸ hn.1 : proposer ∉ t.map (·.addr))] at ih
        rw [if_pos hpp, if_pos (Or.inl hpp.symm)]
        split <;> omega
      · have hpp' : ¬ proposer = v.addr := fun e => hpp e.symm
        simp only [hpp, hpp', if_false, false_or]
        split <;> omega
    · rw [valCredits_cons_neg _ hsel]
      have h0 : 0 ≤ T * v.pw / P := Int.ediv_nonneg (Int.mul_nonneg hT hv) hP
      by_cases hm : proposer ∈ t.map (·.addr)
      · rw [if_pos hm] at ih
        rw [if_pos (Or.inr hm)]
        omega
      · rw [if_neg hm] at ih
        split <;> omega

theorem valCredits_nonneg {vs : List Vote}
    (hT : 0 ≤ T) (hP : 0 ≤ P) (hPc : 0 ≤ Pc) (hc : 0 ≤ resp.commission)
    (hpr : 0 ≤ resp.proposerReward) (hall : ∀ v ∈ all, 0 ≤ v.power) :
    ∀ p ∈ valCredits T D P Pc resp proposer all vs, 0 ≤ p.2 := by
  induction vs with
  | nil => intro p hp; cases hp
  | cons v t ih =>
    by_cases hsel : v.known ∧ v.signed
    · rw [valCredits_cons_pos _ hsel]
      intro p hp
      rcases List.mem_cons.mp hp with rfl | hp
      · have hw := powerMap_getD_nonneg all v.addr hall
        have h1 := Int.ediv_nonneg (Int.mul_nonneg hT hw) hP
        have h2 := Int.ediv_nonneg (Int.mul_nonneg hc hw) hPc
        simp only []
        omega
      · exact ih p hp
    · rw [valCredits_cons_neg _ hsel]; exact ih

theorem valCredits_mem {vs : List Vote} :
    ∀ p ∈ valCredits T D P Pc resp proposer all vs,
      ∃ v ∈ vs, v.addr = p.1 ∧ v.signed = true ∧ v.known = true := by
  induction vs with
  | nil => intro p hp; cases hp
  | cons v t ih =>
    intro p hp
    by_cases hsel : v.known ∧ v.signed
    · rw [valCredits_cons_pos _ hsel] at hp
      rcases List.mem_cons.mp hp with rfl | hp
      · exact ⟨v, List.mem_cons_self, rfl, hsel.2, hsel.1⟩
      · obtain ⟨w, hw, h⟩ := ih p hp
        exact ⟨w, List.mem_cons_of_mem _ hw, h⟩
    · rw [valCredits_cons_neg _ hsel] at hp
      obtain ⟨w, hw, h⟩ := ih p hp
      exact ⟨w, List.mem_cons_of_mem _ hw, h⟩

end

/-! ## the split, the block -/

theorem split_some {T D : Int} {votes : List Vote} {proposer : Addr} {active : List (Addr × Int)}
    {sp : Split} (h : split T D votes proposer active = some sp) :
    sp.resp = (if D > 0 then delegSplit T D (sumPower votes + D) active else ⟨0, 0, 0, [], false⟩) ∧
    sp.vals = valCredits T D (sumPower votes + D) (sumPower votes + D) sp.resp proposer votes votes ∧
    sp.consumed = (if D > 0 then sp.resp.delegRewards else 0) + sumSnd sp.vals := by
  unfold split at h
  dsimp only at h
  obtain ⟨_, h⟩ := of_guard h
  cases h
  exact ⟨rfl, rfl, rfl⟩

/-- a successful split of non-negative inputs in terms of the delegation pool's share `dr`, the
    commission `comm` cut from it and the proposer's part `pr` of the commission; without a
    delegation pool all three are 0 -/
theorem split_spec {T D : Int} {votes : List Vote} {proposer : Addr} {active : List (Addr × Int)}
    {sp : Split} (hT : 0 ≤ T) (hD : 0 ≤ D) (hV : 0 ≤ sumPower votes)
    (h : split T D votes proposer active = some sp) :
    ∃ dr comm pr, dr = T * D / (sumPower votes + D) ∧ 0 ≤ pr ∧ pr ≤ comm ∧ comm ≤ dr ∧
      sp.resp.proposerReward = pr ∧ sp.resp.commission = comm - pr ∧
      sp.resp.credits =
        (if D > 0 then active.map (fun p => (p.1, (dr - comm) * p.2 / D)) else []) ∧
      sp.vals = valCredits T D (sumPower votes + D) (sumPower votes + D) sp.resp proposer votes votes ∧
      sp.consumed = dr - comm + sumSnd sp.vals := by
  obtain ⟨hr, hv, hc⟩ := split_some h
  by_cases hD0 : D > 0
  · rw [if_pos hD0] at hr hc
    obtain ⟨dr, comm, pr, hdr, h1, h2, h3, heq⟩ :=
      delegSplit_ok T D (sumPower votes + D) active hT hD (by omega)
    rw [heq] at hr
    exact ⟨dr, comm, pr, hdr, h1, h2, h3, by rw [hr], by rw [hr], by rw [hr, if_pos hD0], hv,
      by rw [hc, hr]⟩
  · rw [if_neg hD0] at hr hc
    obtain rfl : D = 0 := by omega
    refine ⟨0, 0, 0, by rw [Int.mul_zero, Int.zero_ediv], Int.le_refl 0, Int.le_refl 0, Int.le_refl 0,
      by rw [hr], by rw [hr]; rfl, by rw [hr, if_neg hD0], hv, by rw [hc]; rfl⟩

theorem sumSnd_map_floor (x D : Int) (active : List (Addr × Int)) :
    sumSnd (active.map (fun p => (p.1, x * p.2 / D))) =
      ((active.map (·.2)).map (fun a => x * a / D)).sum := by
  simp [sumSnd, List.map_map, Function.comp_def]

theorem blockRewards_done {e : Env} {s s' : St} {b : BlockIn} {T : Int} {sp : Split}
    (h : blockRewards e s b = .done s' T sp) :
    ∃ c ys td, pullRewards e (getYears e s.ydist) s.cache b.h b.pool = .ok T c ∧
      split T b.D b.votes b.proposer b.active = some sp ∧
      consumeRewards e.o (getYears e s.ydist) s.tdist c b.h sp.consumed = some (ys, td) ∧
      s' = { s with
        ydist := some ys, tdist := td,
        chunks := creditVals e.o s.intervals b.h s.chunks sp.vals,
        newAddrs := sp.vals.foldl (fun acc p => addNew s.addrList acc p.1) s.newAddrs,
        matured := if b.h.tmod e.o.interval = 0
          then matureAll e.o s.intervals (creditVals e.o s.intervals b.h s.chunks sp.vals) b.h
            s.matured s.addrList else s.matured,
        delegBal := creditDeleg s.delegBal sp.resp.credits,
        delegTotal := s.delegTotal + sumSnd sp.resp.credits,
        cache := c } := by
  unfold blockRewards at h
  dsimp only at h
  split at h
  · cases h
  · cases h
  · rename_i T' c hpull
    split at h
    · cases h
    · rename_i sp' hsp
      obtain ⟨_, h⟩ := of_guard h
      split at h
      · cases h
      · rename_i ys td hcons
        injection h with h1 h2 h3
        subst h2 h3
        exact ⟨c, ys, td, hpull, hsp, hcons, h1.symm⟩

/-! ## non-negative records -/

theorem creditVals_nonneg {o : Opts} {ivs : Intervals} {h : Int} {cs : Chunks}
    {l : List (Addr × Int)} (hn : ∀ p ∈ cs, 0 ≤ p.2) (hl : ∀ p ∈ l, 0 ≤ p.2) :
    ∀ p ∈ creditVals o ivs h cs l, 0 ≤ p.2 := by
  induction l generalizing cs with
  | nil => exact hn
  | cons hd t ih =>
    exact ih (forall_nonneg_credit hn (hl hd List.mem_cons_self))
      (fun p hp => hl p (List.mem_cons_of_mem _ hp))

theorem maturedAmount_nonneg {o : Opts} {ivs : Intervals} {cs : Chunks} {a : Addr} {h : Int}
    (hn : ∀ p ∈ cs, 0 ≤ p.2) : 0 ≤ maturedAmount o ivs cs a h := by
  unfold maturedAmount
  simp only []
  split
  · exact alookup_getD_nonneg hn
  · exact Int.le_refl 0

theorem matureAll_nonneg {o : Opts} {ivs : Intervals} {cs : Chunks} {h : Int} {b : Bals}
    {l : List Addr} (hc : ∀ p ∈ cs, 0 ≤ p.2) (hn : ∀ p ∈ b, 0 ≤ p.2) :
    ∀ p ∈ matureAll o ivs cs h b l, 0 ≤ p.2 := by
  induction l generalizing b with
  | nil => exact hn
  | cons a t ih => exact ih (forall_nonneg_credit hn (maturedAmount_nonneg hc))

/-! ## chunks without interval records; the withdrawal -/

theorem chunkIndex_nil (o : Opts) (h : Int) (hh : 0 ≤ h) :
    chunkIndex o [] h = h / o.interval + 1 := by
  unfold chunkIndex
  have : getInterval [] h = (0, 0) := rfl
  rw [this]
  simp only [Int.sub_zero, Int.zero_add]
  rw [Int.tdiv_eq_ediv_of_nonneg hh]

theorem runWithdraw_ok (w w' : WSt) (stake : Option Addr) (signer : Addr) (value : Int)
    (h : runWithdraw w stake signer value = .ok w') :
    0 ≤ w.matured - Ledger.toCoinWithBase value 18 ∧
    w' = ⟨w.matured - Ledger.toCoinWithBase value 18, w.withdrawn + Ledger.toCoinWithBase value 18,
          w.pool - Ledger.toCoinWithBase value 18, w.signer + Ledger.toCoinWithBase value 18⟩ := by
  unfold runWithdraw at h
  dsimp only at h
  obtain ⟨h1, h⟩ := of_guard h
  obtain ⟨_, h⟩ := of_guard h
  obtain ⟨_, h⟩ := of_guard h
  exact ⟨by omega, (Except.ok.inj h).symm⟩

theorem withdrawTx_ok {w w' : WSt} {curOK : Bool} {stake : Option Addr} {signer : Addr}
    {value charge : Int} (h : withdrawTx w curOK stake signer value charge = .ok w') :
    (0 ≤ value ∧ value < 9223372036854775808) ∧ ∃ w1, runWithdraw w stake signer value = .ok w1 ∧
      w' = { w1 with signer := w1.signer - charge } := by
  unfold withdrawTx at h
  obtain ⟨hv, h⟩ := of_guard h
  simp [validateWithdraw] at hv
  split at h
  · cases h
  · rename_i w1 hr
    obtain ⟨_, h⟩ := of_guard h
    exact ⟨⟨hv.1.2, hv.2.2⟩, w1, hr, (Except.ok.inj h).symm⟩

/-- inside the int64 range `Value.Int64()` is the value, and the coin is `value · 10^18` -/
theorem toCoinWithBase_of_range (x : Int) (h0 : 0 ≤ x) (h1 : x < 9223372036854775808) :
    Ledger.toCoinWithBase x 18 = x * base18 := by
  have : Ledger.wrap64 x = x := by
    unfold Ledger.wrap64
    simp only []
    split <;> omega
  unfold Ledger.toCoinWithBase
  rw [this]
  rfl

end OLP.Rewards
