/-
  Layer S — gas-shift invariance of a program run while the meter has room (C06): a program
  with non-negative `.burn` amounts never lowers the counter, so a run that ends below the limit
  was below it throughout, and then no access is refused at the lower level either. Hence the
  hypotheses of the removal theorems follow from the syntax of the handlers.
-/
import OLP.Shell.Run

set_option linter.unusedSectionVars false

namespace OLP.Shell
open OLP OLP.KV

variable {K V C E α T H D : Type} [DecidableEq K] [DecidableEq V] [DecidableEq C] [DecidableEq H]

theorem ShiftSt.rfl0 (s : St K V) : ShiftSt 0 s s := by
  unfold ShiftSt; rw [Int.add_zero]

theorem ShiftSt.consumed {d : Int} {s s' : St K V} (h : ShiftSt d s s') :
    s'.gas.consumed = s.gas.consumed + d := by
  unfold ShiftSt at h; subst h; rfl

theorem ShiftSt.room {d : Int} {a b : St K V} (hd : 0 ≤ d) (h : ShiftSt d a b)
    (hr : hasRoom b.gas) : hasRoom a.gas := by
  obtain rfl := h
  exact Int.lt_of_le_of_lt (Int.le_add_of_nonneg_right hd) hr

theorem hasRoom_start {cfg : Cfg K V} {p : Prog K V C E α} (hm : GasMono cfg p) {s : St K V}
    {m : Vol C V} {e : E} (h : hasRoom (p.run cfg s m e).2.1.gas) : hasRoom s.gas := by
  have h1 := hm s m e
  have h2 := (run_pres cfg p s m e).limit
  unfold hasRoom at *
  omega

def shiftRes {β : Type} (d : Int) (r : β × St K V × Vol C V) : β × St K V × Vol C V :=
  (r.1, r.2.1.addGas d, r.2.2)

theorem shiftRes_iff {β : Type} {d : Int} {r r' : β × St K V × Vol C V} :
    r' = shiftRes d r ↔ r'.1 = r.1 ∧ ShiftSt d r.2.1 r'.2.1 ∧ r'.2.2 = r.2.2 := by
  obtain ⟨a, b, c⟩ := r'
  simp only [shiftRes, Prod.mk.injEq, shiftSt_iff]

theorem run_addGas {cfg : Cfg K V} {p : Prog K V C E α} (hg : p.NoGasRead) (hb : p.BurnNonneg)
    {d : Int} (hd : 0 ≤ d) {s : St K V} {m : Vol C V} {e : E}
    (hr : hasRoom (p.run cfg (s.addGas d) m e).2.1.gas) :
    p.run cfg (s.addGas d) m e = shiftRes d (p.run cfg s m e) := by
  induction p generalizing s m with
  | ret | fail => rfl
  | get k κ ih =>
    have h0 := hasRoom_start (run_mono hb) hr
    simp only [Prog.run, get_room_shift cfg s d k hd h0] at hr ⊢
    exact ih _ (hg _) (hb _) hr
  | has k κ ih =>
    have h0 := hasRoom_start (run_mono hb) hr
    simp only [Prog.run, has_room_shift cfg s d k hd h0] at hr ⊢
    exact ih _ (hg _) (hb _) hr
  | set k v κ ih =>
    have h0 := hasRoom_start (run_mono hb) hr
    simp only [Prog.run, set_room_shift cfg s d k v hd h0] at hr ⊢
    exact ih _ (hg _) (hb _) hr
  | del k κ ih =>
    have h0 := hasRoom_start (run_mono hb) hr
    simp only [Prog.run, del_room_shift cfg s d k hd h0] at hr ⊢
    exact ih hg hb hr
  | iter lo hi asc κ ih =>
    have h1 := hasRoom_start (run_mono (hb _)) hr
    simp only [Prog.run, iter_room_shift cfg s d lo hi asc hd h1] at hr ⊢
    exact ih _ (hg _) (hb _) hr
  | iterAll lo hi asc κ ih =>
    have h1 := hasRoom_start (run_mono (hb _)) hr
    simp only [Prog.run, iterAll_room_shift cfg s d lo hi asc hd h1] at hr ⊢
    exact ih _ (hg _) (hb _) hr
  | gas => exact hg.elim
  | burn a κ ih =>
    have := ih hg hb.2 (s := s.addGas a) (by rw [addGas_comm]; exact hr)
    rw [addGas_comm] at this
    exact this
  | getv _ _ _ ih | vget _ _ ih | env _ ih => exact ih _ (hg _) (hb _) hr
  | vset _ _ _ ih => exact ih hg hb hr

theorem roomShiftInv_of_syntax (cfg : Cfg K V) (p : Prog K V C E α) :
    p.NoGasRead → p.BurnNonneg → RoomShiftInv cfg p := by
  intro hg hb d s s' m e hd h hr
  obtain rfl := h
  exact shiftRes_iff.1 (run_addGas hg hb hd hr)

/-- every fee step of the shape of the examples (`ConsumedGas() − start`): read the level once,
    continue with a program that sees only the gas USED since the start of the transaction and
    itself neither reads the level nor burns negative amounts (e.g. deducts the fee from the
    payer) -/
theorem fee_relative_room {cfg : Cfg K V} (q : Int → Prog K V C E α)
    (hq : ∀ x, (q x).NoGasRead ∧ (q x).BurnNonneg) (g : Int) {d : Int} (hd : 0 ≤ d) {s : St K V}
    {m : Vol C V} {e : E}
    (hr : hasRoom ((Prog.gas (fun c => q (c - (g + d)))).run cfg (s.addGas d) m e).2.1.gas) :
    (Prog.gas (fun c => q (c - (g + d)))).run cfg (s.addGas d) m e =
      shiftRes d ((Prog.gas (fun c => q (c - g))).run cfg s m e) := by
  have hc : (s.addGas d).gas.consumed - (g + d) = s.gas.consumed - g := by
    show s.gas.consumed + d - (g + d) = _; omega
  show (q ((s.addGas d).gas.consumed - (g + d))).run cfg (s.addGas d) m e = _
  change hasRoom ((q ((s.addGas d).gas.consumed - (g + d))).run cfg (s.addGas d) m e).2.1.gas at hr
  rw [hc] at hr ⊢
  exact run_addGas (hq _).1 (hq _).2 hd hr

/-- the fee step of the examples, `fun g0 => .gas (fun g => .ret (g - g0))` (report the gas used
    since the start of the transaction): the fee clause of `RoomBlind` holds for it -/
theorem fee_gasUsed_room (cfg : Cfg K V) (g d : Int) (s s' : St K V) (m : Vol C V) (e : E)
    (hd : 0 ≤ d) (h : ShiftSt d s s')
    (hr : hasRoom ((Prog.gas (fun c => (Prog.ret (c - (g + d)) : Prog K V C E Int))).run cfg s' m e).2.1.gas) :
    ((Prog.gas (fun c => (Prog.ret (c - (g + d)) : Prog K V C E Int))).run cfg s' m e).1 =
      ((Prog.gas (fun c => (Prog.ret (c - g) : Prog K V C E Int))).run cfg s m e).1 ∧
    ShiftSt d ((Prog.gas (fun c => (Prog.ret (c - g) : Prog K V C E Int))).run cfg s m e).2.1
      ((Prog.gas (fun c => (Prog.ret (c - (g + d)) : Prog K V C E Int))).run cfg s' m e).2.1 ∧
    ((Prog.gas (fun c => (Prog.ret (c - (g + d)) : Prog K V C E Int))).run cfg s' m e).2.2 =
      ((Prog.gas (fun c => (Prog.ret (c - g) : Prog K V C E Int))).run cfg s m e).2.2 := by
  obtain rfl := h
  exact shiftRes_iff.1 (fee_relative_room (fun x => .ret x) (fun _ => ⟨trivial, trivial⟩) g hd hr)

/-- `RoomBlind` from the syntax of the handlers: Validate and ProcessDeliver contain no `.gas`
    node and no negative `.burn`; the fee step has the shape "read the level, continue with a
    program of the gas used" -/
theorem RoomBlind.of_syntax (cfg : Cfg K V) (hs : Handlers K V C E T H D)
    (hv : ∀ tx, (hs.validate tx).NoGasRead ∧ (hs.validate tx).BurnNonneg)
    (hdl : ∀ tx, (hs.deliver tx).NoGasRead ∧ (hs.deliver tx).BurnNonneg)
    (q : T → Int → Prog K V C E Int) (hfee : ∀ tx g0, hs.fee tx g0 = .gas (fun c => q tx (c - g0)))
    (hq : ∀ tx x, (q tx x).NoGasRead ∧ (q tx x).BurnNonneg) : RoomBlind cfg hs where
  validate tx := roomShiftInv_of_syntax cfg _ (hv tx).1 (hv tx).2
  deliver tx := roomShiftInv_of_syntax cfg _ (hdl tx).1 (hdl tx).2
  fee tx g d s s' m e hd h hr := by
    obtain rfl := h
    rw [hfee] at hr ⊢
    rw [hfee]
    exact shiftRes_iff.1 (fee_relative_room (q tx) (hq tx) g hd hr)
  monoV tx := run_mono (hv tx).2
  monoD tx := run_mono (hdl tx).2
  monoF tx g := by rw [hfee]; exact run_mono fun _ => (hq tx _).2

end OLP.Shell
