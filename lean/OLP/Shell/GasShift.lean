/-
  Layer S — a block run from two nodes that differ only in the level of the block's gas meter
  (C06). A failed transaction leaves such a pair; a transaction that does not fail keeps it; so
  dropping the failed transactions of a list changes nothing else (`deliverAll_room_shift`). The
  block hooks run unmetered and keep it too, and Commit does not look at the meter.
-/
import OLP.Shell.Block
import OLP.Shell.RoomShift

set_option linter.unusedSectionVars false

namespace OLP.Shell
open OLP OLP.KV

variable {K V C E α T H D : Type} [DecidableEq K] [DecidableEq V] [DecidableEq C] [DecidableEq H]

def Node.shift (n : Node K V C T H D) (d : Int) (a : Aim) : Node K V C T H D :=
  { n with dlv := { n.dlv with gas := { n.dlv.gas with consumed := n.dlv.gas.consumed + d } },
           aim := a }

theorem shiftNode_iff {d : Int} {n n' : Node K V C T H D} :
    ShiftNode d n n' ↔ ∃ a, n' = n.shift d a := by
  constructor
  · obtain ⟨t', d', c', v', i', a', h', cl'⟩ := n'
    rintro ⟨rfl, rfl, rfl, rfl, rfl, rfl, rfl⟩
    exact ⟨a', rfl⟩
  · rintro ⟨a, rfl⟩
    exact ⟨rfl, rfl, rfl, rfl, rfl, rfl, rfl⟩

theorem ShiftNode.rfl0 (n : Node K V C T H D) : ShiftNode 0 n n :=
  shiftNode_iff.2 ⟨n.aim, by simp only [Node.shift, Int.add_zero]⟩

theorem ShiftNode.trans {d d' : Int} {a b c : Node K V C T H D} (h1 : ShiftNode d a b)
    (h2 : ShiftNode d' b c) : ShiftNode (d + d') a c := by
  obtain ⟨x, rfl⟩ := shiftNode_iff.1 h1
  obtain ⟨y, rfl⟩ := shiftNode_iff.1 h2
  exact shiftNode_iff.2 ⟨y, by simp only [Node.shift, Int.add_assoc]⟩

theorem ShiftNode.consumed {d : Int} {a b : Node K V C T H D} (h : ShiftNode d a b) :
    b.dlv.gas.consumed = a.dlv.gas.consumed + d := by
  obtain ⟨x, rfl⟩ := shiftNode_iff.1 h
  rfl

theorem ShiftNode.room {d : Int} {a b : Node K V C T H D} (hd : 0 ≤ d) (h : ShiftNode d a b)
    (hr : hasRoom b.dlv.gas) : hasRoom a.dlv.gas := by
  obtain ⟨x, rfl⟩ := shiftNode_iff.1 h
  exact Int.lt_of_le_of_lt (Int.le_add_of_nonneg_right hd) hr

variable (cfg : Cfg K V) (hs : Handlers K V C E T H D) (e : E)

theorem finSt_addGas (ok : Bool) (s : St K V) (d : Int) :
    finSt ok (s.addGas d) = (finSt ok s).addGas d := by
  rw [finSt_eq, finSt_eq]
  rfl

theorem gasOut_eq_false_iff (g : Gas) : gasOut g = false ↔ hasRoom g := by
  unfold gasOut hasRoom
  simp only [decide_eq_false_iff_not]
  omega

/-- a transaction that did not fail ended below the limit (the test `txDeliverer` makes before
    it commits the session) -/
theorem txRun_ok_room {tx : T} {s0 : St K V} {m : Vol C V}
    (hok : (txRun cfg hs e tx s0 m).1.ok = true) : hasRoom (txRun cfg hs e tx s0 m).2.1.gas := by
  rw [txRun_eq] at hok ⊢
  generalize (hs.validate tx).run cfg s0 m e = rv at hok ⊢
  obtain ⟨_ | u, s, m'⟩ := rv
  · cases hok
  · simp only [txBody, Bool.and_eq_true, Bool.not_eq_true'] at hok
    exact (gasOut_eq_false_iff _).1 hok.2

/-- room at the end of the fee step ⇒ room after ProcessDeliver ⇒ room after Validate, since none
    lowers the counter -/
theorem txRun_room_shift (hb : RoomBlind cfg hs) {tx : T} {d : Int} (hd : 0 ≤ d) {s : St K V}
    {m : Vol C V} (hr : hasRoom (txRun cfg hs e tx (s.addGas d) m).2.1.gas) :
    txRun cfg hs e tx (s.addGas d) m = shiftRes d (txRun cfg hs e tx s m) := by
  rw [txRun_eq] at hr ⊢
  have hrv : hasRoom ((hs.validate tx).run cfg (s.addGas d) m e).2.1.gas := by
    generalize (hs.validate tx).run cfg (s.addGas d) m e = rv at hr
    obtain ⟨_ | u, s1, m1⟩ := rv
    · exact hr
    · exact hasRoom_start (hb.monoD tx) (hasRoom_start (hb.monoF tx _) hr)
  rw [shiftRes_iff.2 (hb.validate tx d s (s.addGas d) m e hd rfl hrv)] at hr ⊢
  rw [txRun_eq]
  generalize (hs.validate tx).run cfg s m e = rv at hr ⊢
  obtain ⟨_ | u, s1, m1⟩ := rv
  · rfl
  change hasRoom (txBody cfg hs e tx (s.gas.consumed + d) (s1.addGas d) m1).2.1.gas at hr
  show txBody cfg hs e tx (s.gas.consumed + d) (s1.addGas d) m1 = _
  have h1 := shiftRes_iff.2 (hb.deliver tx d s1 (s1.addGas d) m1 e hd rfl
    (hasRoom_start (hb.monoF tx _) hr))
  unfold txBody at hr ⊢
  simp only at hr ⊢
  rw [h1] at hr ⊢
  generalize (hs.deliver tx).run cfg s1 m1 e = r1 at hr ⊢
  have h2 := shiftRes_iff.2
    (hb.fee tx s.gas.consumed d r1.2.1 (r1.2.1.addGas d) r1.2.2 e hd rfl hr)
  simp only [shiftRes] at h2 hr ⊢
  rw [h2] at hr ⊢
  rw [(gasOut_eq_false_iff _).2 hr, (gasOut_eq_false_iff _).2 (ShiftSt.room hd rfl hr)]

theorem deliverTx_room_shift (hb : RoomBlind cfg hs) {d : Int} {n n' : Node K V C T H D} {tx : T}
    (hd : 0 ≤ d) (h : ShiftNode d n n') (hok : (deliverTx cfg hs e n' tx).2.ok = true) :
    (deliverTx cfg hs e n' tx).2 = (deliverTx cfg hs e n tx).2 ∧
    ShiftNode d (deliverTx cfg hs e n tx).1 (deliverTx cfg hs e n' tx).1 := by
  obtain ⟨a, rfl⟩ := shiftNode_iff.1 h
  cases hl : lookupIdx n.idx (hs.hash tx) with
  | some r =>
    rw [deliverTx_hit cfg hs e hl, deliverTx_hit cfg hs e (n := n.shift d a) hl]
    exact ⟨rfl, h⟩
  | none =>
    rw [deliverTx_miss cfg hs e (n := n.shift d a) hl] at hok ⊢
    rw [deliverTx_miss cfg hs e hl]
    have hx : txRun cfg hs e tx ((n.shift d a).dlv.toSt (n.shift d a).tree).begin (n.shift d a).vol =
        shiftRes d (txRun cfg hs e tx (n.dlv.toSt n.tree).begin n.vol) :=
      txRun_room_shift cfg hs e hb hd (s := (n.dlv.toSt n.tree).begin) (txRun_ok_room cfg hs e hok)
    unfold deliverCore
    rw [hx]
    generalize txRun cfg hs e tx (n.dlv.toSt n.tree).begin n.vol = x
    dsimp only [shiftRes]
    rw [finSt_addGas]
    exact ⟨rfl, shiftNode_iff.2 ⟨_, rfl⟩⟩

theorem shiftOv_of {o o' : Ov K V} (h1 : o'.sess = o.sess) (h2 : o'.cache = o.cache)
    (h3 : o'.metered = o.metered) (h4 : o'.gas.limit = o.gas.limit) :
    ShiftOv (o'.gas.consumed - o.gas.consumed) o o' := by
  obtain ⟨a, b, c, ⟨l, g⟩⟩ := o
  obtain ⟨a', b', c', ⟨l', g'⟩⟩ := o'
  simp only at h1 h2 h3 h4
  subst h1; subst h2; subst h3; subst h4
  unfold ShiftOv
  simp only
  congr 2
  omega

theorem deliverTx_failed_shift (hnv : DeliverNoVset hs) {n : Node K V C T H D} {tx : T}
    (h0 : n.dlv.sess = none) (hf : (deliverTx cfg hs e n tx).2.ok = false) :
    ∃ d, ShiftNode d n (deliverTx cfg hs e n tx).1 := by
  revert hf
  refine deliverTx_cases cfg hs e n tx (fun _ _ _ => ⟨0, ShiftNode.rfl0 n⟩) fun _ hf => ?_
  have f := deliverCore_frame cfg hs e n tx
  exact ⟨_, f.tree, shiftOv_of (f.sess.trans h0.symm) (f.cache hf) f.metered f.limit, f.chk,
    txRun_vol cfg hs e hnv tx _ _, f.idx, f.height, f.closed⟩

theorem deliverTx_mono (hb : RoomBlind cfg hs) (n : Node K V C T H D) (tx : T) :
    n.dlv.gas.consumed ≤ (deliverTx cfg hs e n tx).1.dlv.gas.consumed ∧
    (deliverTx cfg hs e n tx).1.dlv.gas.limit = n.dlv.gas.limit := by
  refine deliverTx_cases cfg hs e n tx (fun _ _ => ⟨Int.le_refl _, rfl⟩) fun _ => ?_
  refine ⟨?_, (deliverCore_frame cfg hs e n tx).limit⟩
  show _ ≤ (finSt _ _).gas.consumed
  rw [finSt_eq]
  exact txRun_rel cfg hs e (fun a b => a.1.gas.consumed ≤ b.1.gas.consumed) Int.le_trans tx
    (hb.monoV tx) (hb.monoD tx) (hb.monoF tx) (n.dlv.toSt n.tree).begin n.vol

theorem deliverTx_shift_nonneg (hb : RoomBlind cfg hs) {d : Int} {n : Node K V C T H D} {tx : T}
    (h : ShiftNode d n (deliverTx cfg hs e n tx).1) : 0 ≤ d := by
  have := (deliverTx_mono cfg hs e hb n tx).1
  rw [h.consumed] at this
  omega

theorem survivors_cons (tx : T) (txs : List T) (r : TxRes D) (rs : List (TxRes D)) :
    survivors (tx :: txs) (r :: rs) =
      if r.ok then tx :: survivors txs rs else survivors txs rs := by
  unfold survivors
  cases h : r.ok <;> simp [h]

/-- Dropping the failed transactions of a list yields the same results for the others and the
    same node up to the gas level, from any two start nodes of which the second is `d ≥ 0` ahead:
    a transaction that does not fail there does the same at the lower level
    (`deliverTx_room_shift`), a failed one only moves the higher level further up. -/
theorem deliverAll_room_shift (hb : RoomBlind cfg hs) (hnv : DeliverNoVset hs) (txs : List T) :
    ∀ (d : Int) (n n' : Node K V C T H D), 0 ≤ d → ShiftNode d n n' → n.dlv.sess = none →
      (deliverAll cfg hs e n (survivors txs (deliverAll cfg hs e n' txs).2)).2 =
        (deliverAll cfg hs e n' txs).2.filter (·.ok) ∧
      ∃ d', 0 ≤ d' ∧
        ShiftNode d' (deliverAll cfg hs e n (survivors txs (deliverAll cfg hs e n' txs).2)).1
          (deliverAll cfg hs e n' txs).1 := by
  induction txs with
  | nil => intro d n n' hd h _; exact ⟨rfl, d, hd, h⟩
  | cons tx txs ih =>
    intro d n n' hd h h0
    rw [deliverAll_cons, survivors_cons]
    simp only
    cases hk : (deliverTx cfg hs e n' tx).2.ok with
    | true =>
      obtain ⟨a1, a2⟩ := deliverTx_room_shift cfg hs e hb hd h hk
      obtain ⟨i1, i2⟩ := ih d _ _ hd a2 ((deliverTx_frame cfg hs e n tx).sess h0)
      simp only [if_true, deliverAll_cons, List.filter_cons, hk]
      rw [← a1] at *
      exact ⟨by rw [i1], i2⟩
    | false =>
      have h0' : n'.dlv.sess = none := by
        obtain ⟨a, rfl⟩ := shiftNode_iff.1 h
        exact h0
      obtain ⟨d2, b⟩ := deliverTx_failed_shift cfg hs e hnv h0' hk
      obtain ⟨i1, i2⟩ := ih (d + d2) n _
        (Int.add_nonneg hd (deliverTx_shift_nonneg cfg hs e hb b)) (h.trans b) h0
      simp only [List.filter_cons, hk]
      exact ⟨i1, i2⟩

/-- No handlers are `GasBlind`: its clause `fee` puts the end states of the fee step `d` apart for
    EVERY `d`, its clause `out` asks the same `gasOut` of both; `RoomBlind` is the notion in use. -/
theorem GasBlind.elim (hb : GasBlind cfg hs) (tx : T) (s : St K V) (m : Vol C V) (e : E) : False := by
  have key : ∀ d : Int, gasOut ((hs.fee tx 0).run cfg s m e).2.1.gas =
      gasOut (((hs.fee tx 0).run cfg s m e).2.1.addGas d).gas := fun d =>
    (hb.out tx 0 d s _ m e rfl).symm.trans
      (congrArg (fun x : St K V => gasOut x.gas) (hb.fee tx 0 d s _ m e rfl).2.1)
  generalize ((hs.fee tx 0).run cfg s m e).2.1 = s' at key
  -- one short of the limit and at the limit
  have h := (key (s'.gas.limit - s'.gas.consumed - 1)).symm.trans (key (s'.gas.limit - s'.gas.consumed))
  unfold gasOut at h
  rw [decide_eq_decide] at h
  dsimp only [St.addGas] at h
  omega

/-- C06 `remove_failed_deliverAll` for `GasBlind` handlers -/
theorem deliverAll_shift (hb : GasBlind cfg hs) (hnv : DeliverNoVset hs) (txs : List T) :
    ∀ (d : Int) (n n' : Node K V C T H D), ShiftNode d n n' → n.dlv.sess = none →
      (deliverAll cfg hs e n (survivors txs (deliverAll cfg hs e n' txs).2)).2 =
        (deliverAll cfg hs e n' txs).2.filter (·.ok) ∧
      ∃ d', ShiftNode d' (deliverAll cfg hs e n (survivors txs (deliverAll cfg hs e n' txs).2)).1
        (deliverAll cfg hs e n' txs).1 := by
  intro d n n' h _
  have _ := hnv
  cases txs with
  | nil => exact ⟨rfl, d, h⟩
  | cons tx _ => exact (hb.elim cfg hs tx (n.dlv.toSt n.tree) n.vol e).elim

theorem deliverAll_mono (hb : RoomBlind cfg hs) (txs : List T) (n : Node K V C T H D) :
    n.dlv.gas.consumed ≤ (deliverAll cfg hs e n txs).1.dlv.gas.consumed ∧
    (deliverAll cfg hs e n txs).1.dlv.gas.limit = n.dlv.gas.limit :=
  deliverAll_keeps cfg hs e
    (fun x => n.dlv.gas.consumed ≤ x.dlv.gas.consumed ∧ x.dlv.gas.limit = n.dlv.gas.limit)
    (fun x tx h => ⟨Int.le_trans h.1 (deliverTx_mono cfg hs e hb x tx).1,
      (deliverTx_mono cfg hs e hb x tx).2.trans h.2⟩) txs n ⟨Int.le_refl _, rfl⟩

/-- an aimed hook runs unmetered: it sees neither the level nor the limit of the block's meter -/
theorem runHook_shift {d : Int} {a b : Node K V C T H D} (hk : Bool × Prog K V C E Unit)
    (haim : hk.1 = true) (h : ShiftNode d a b) :
    ShiftNode d (runHook cfg e a hk) (runHook cfg e b hk) := by
  obtain ⟨x, rfl⟩ := shiftNode_iff.1 h
  unfold runHook
  simp only [haim, Bool.true_or, if_true]
  exact shiftNode_iff.2 ⟨_, rfl⟩

theorem endBlock_shift (ha : ∀ h, ∀ hk ∈ hs.endb h, hk.1 = true) {d : Int}
    {a b : Node K V C T H D} (h : ShiftNode d a b) :
    ShiftNode d (endBlock cfg hs e a) (endBlock cfg hs e b) := by
  obtain ⟨x, rfl⟩ := shiftNode_iff.1 h
  exact List.foldl_rel h fun hk hm _ _ hxy => runHook_shift cfg e hk (ha _ hk hm) hxy

theorem commit_shift {d : Int} {a b : Node K V C T H D} (h : ShiftNode d a b) :
    (commit cfg hs b).tree = (commit cfg hs a).tree ∧ (commit cfg hs b).vol = (commit cfg hs a).vol ∧
    (commit cfg hs b).height = (commit cfg hs a).height := by
  obtain ⟨x, rfl⟩ := shiftNode_iff.1 h
  exact ⟨rfl, rfl, rfl⟩

end OLP.Shell
