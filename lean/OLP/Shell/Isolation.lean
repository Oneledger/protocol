/-
  Layer S — what the ABCI calls do NOT depend on: the node-local environment, when no program
  consults it (C01), and the check state and the aim of the singletons, when every hook is
  re-aimed and the mempool path writes no volatile cell (C07, C08).
-/
import OLP.Shell.Block

namespace OLP.Shell
open OLP OLP.KV

set_option linter.unusedSectionVars false

variable {K V C E α T H D : Type} [DecidableEq K] [DecidableEq V] [DecidableEq C] [DecidableEq H]

deriving instance DecidableEq for CallOut

variable (cfg : Cfg K V) (hs : Handlers K V C E T H D) (e : E)

theorem deliverTx_env (hf : AllEnvFree hs) (n : Node K V C T H D) (tx : T) (e₁ e₂ : E) :
    deliverTx cfg hs e₁ n tx = deliverTx cfg hs e₂ n tx := by
  obtain ⟨h1, _, h3, h4⟩ := hf.1 tx
  -- each `fun s m => run_env …` is a rewrite rule quantified over state and memory (here and below)
  simp only [deliverTx, fun s m => run_env cfg _ h1 s m e₁ e₂, fun s m => run_env cfg _ h3 s m e₁ e₂,
    fun g s m => run_env cfg _ (h4 g) s m e₁ e₂]

theorem checkTx_env (hf : AllEnvFree hs) (n : Node K V C T H D) (tx : T) (e₁ e₂ : E) :
    checkTx cfg hs e₁ n tx = checkTx cfg hs e₂ n tx := by
  obtain ⟨h1, h2, _, h4⟩ := hf.1 tx
  simp only [checkTx, fun s m => run_env cfg _ h1 s m e₁ e₂, fun s m => run_env cfg _ h2 s m e₁ e₂,
    fun g s m => run_env cfg _ (h4 g) s m e₁ e₂]

theorem hooks_env (hks : List (Bool × Prog K V C E Unit)) (h : ∀ hk ∈ hks, hk.2.EnvFree)
    (n : Node K V C T H D) (e₁ e₂ : E) :
    hks.foldl (runHook cfg e₁) n = hks.foldl (runHook cfg e₂) n :=
  List.foldl_rel (r := Eq) rfl fun hk hm a b hab => by
    rw [hab]
    simp only [runHook, fun s m => run_env cfg _ (h hk hm) s m e₁ e₂]

theorem deliverAll_env (hf : AllEnvFree hs) (txs : List T) (n : Node K V C T H D) (e₁ e₂ : E) :
    deliverAll cfg hs e₁ n txs = deliverAll cfg hs e₂ n txs := by
  induction txs generalizing n with
  | nil => rfl
  | cons tx t ih => simp only [deliverAll, deliverTx_env cfg hs hf n tx e₁ e₂, ih]

theorem execBlock_env (hf : AllEnvFree hs) (n : Node K V C T H D) (txs : List T) (e₁ e₂ : E) :
    execBlock cfg hs e₁ n txs = execBlock cfg hs e₂ n txs := by
  simp only [execBlock, beginBlock, endBlock, hooks_env cfg _ (hf.2 _).1 _ e₁ e₂,
    hooks_env cfg _ (hf.2 _).2 _ e₁ e₂, deliverAll_env cfg hs hf txs _ e₁ e₂]

theorem stepCall_env (hf : AllEnvFree hs) (r : Run K V C T H D) (c : Call T) (e₁ e₂ : E) :
    stepCall cfg hs e₁ r c = stepCall cfg hs e₂ r c := by
  cases c with
  | begin => simp only [stepCall, beginBlock, hooks_env cfg _ (hf.2 _).1 _ e₁ e₂]
  | deliver tx => simp only [stepCall, deliverTx_env cfg hs hf _ tx e₁ e₂]
  | endb => simp only [stepCall, endBlock, hooks_env cfg _ (hf.2 _).2 _ e₁ e₂]
  | commit txs => rfl
  | check tx => simp only [stepCall, checkTx_env cfg hs hf _ tx e₁ e₂]

/-! ### the consensus calls only look at the consensus part of a node -/

theorem consensus_eq_iff (n n' : Node K V C T H D) :
    n.consensus = n'.consensus ↔ n.tree = n'.tree ∧ n.dlv = n'.dlv ∧ n.vol = n'.vol ∧
      n.idx = n'.idx ∧ n.height = n'.height := by
  simp only [Node.consensus, Consensus.mk.injEq]

/-- "same tree, volatile memory, index and height": all that a whole block depends on -/
def CEq (n n' : Node K V C T H D) : Prop :=
  n.tree = n'.tree ∧ n.vol = n'.vol ∧ n.idx = n'.idx ∧ n.height = n'.height

theorem CEq.of_consensus {n n' : Node K V C T H D} (h : n.consensus = n'.consensus) : CEq n n' :=
  let ⟨h1, _, h3, h4, h5⟩ := (consensus_eq_iff n n').1 h
  ⟨h1, h3, h4, h5⟩

/-- to show something of two nodes with the same consensus part, show it of a node and of the same
    node with another check state, aim and `closed` -/
@[elab_as_elim]
theorem consensus_cases {n n' : Node K V C T H D} (h : n.consensus = n'.consensus)
    {motive : Node K V C T H D → Node K V C T H D → Prop}
    (H : ∀ n c a cl, motive n { n with chk := c, aim := a, closed := cl }) : motive n n' := by
  obtain ⟨t', d', c', v', i', a', ht', cl'⟩ := n'
  obtain ⟨rfl, rfl, rfl, rfl, rfl⟩ := (consensus_eq_iff _ _).1 h
  exact H n c' a' cl'

theorem deliverTx_congr {n n' : Node K V C T H D} (h : n.consensus = n'.consensus) (tx : T) :
    (deliverTx cfg hs e n tx).1.consensus = (deliverTx cfg hs e n' tx).1.consensus ∧
    (deliverTx cfg hs e n tx).2 = (deliverTx cfg hs e n' tx).2 := by
  refine consensus_cases h fun n c a cl => ?_
  cases hl : lookupIdx n.idx (hs.hash tx) with
  | some r =>
    rw [deliverTx_hit cfg hs e hl,
      deliverTx_hit cfg hs e (n := { n with chk := c, aim := a, closed := cl }) hl]
    exact ⟨rfl, rfl⟩
  | none =>
    rw [deliverTx_miss cfg hs e hl,
      deliverTx_miss cfg hs e (n := { n with chk := c, aim := a, closed := cl }) hl]
    exact ⟨rfl, rfl⟩

theorem hooks_congr (hks : List (Bool × Prog K V C E Unit)) (hall : ∀ hk ∈ hks, hk.1 = true)
    {n n' : Node K V C T H D} (h : n.consensus = n'.consensus) :
    (hks.foldl (runHook cfg e) n).consensus = (hks.foldl (runHook cfg e) n').consensus :=
  List.foldl_rel (r := fun a b : Node K V C T H D => a.consensus = b.consensus) h fun hk hm a b hab => by
    refine consensus_cases hab fun n c a cl => ?_
    simp [runHook, hall hk hm, Node.consensus]

theorem beginBlock_congr (ha : AllAimed hs) {n n' : Node K V C T H D} (h : CEq n n') :
    (beginBlock cfg hs e n).consensus = (beginBlock cfg hs e n').consensus := by
  obtain ⟨h1, h2, h3, h4⟩ := h
  unfold beginBlock
  rw [h4]
  apply hooks_congr cfg e _ (ha _).1
  simp only [Node.consensus, h1, h2, h3]

theorem endBlock_congr (ha : AllAimed hs) {n n' : Node K V C T H D}
    (h : n.consensus = n'.consensus) :
    (endBlock cfg hs e n).consensus = (endBlock cfg hs e n').consensus := by
  unfold endBlock
  rw [(CEq.of_consensus h).2.2.2]
  exact hooks_congr cfg e _ (ha _).2 h

theorem commit_congr {n n' : Node K V C T H D} (h : n.consensus = n'.consensus) :
    (commit cfg hs n).consensus = (commit cfg hs n').consensus :=
  consensus_cases h fun _ _ _ _ => rfl

/-- feeding the index after Commit -/
theorem consensus_append_idx {n n' : Node K V C T H D} (h : n.consensus = n'.consensus)
    (x : List (H × TxRes D)) :
    ({ n with idx := n.idx ++ x } : Node K V C T H D).consensus =
      ({ n' with idx := n'.idx ++ x } : Node K V C T H D).consensus :=
  consensus_cases h fun _ _ _ _ => rfl

theorem deliverAll_congr (txs : List T) {n n' : Node K V C T H D}
    (h : n.consensus = n'.consensus) :
    (deliverAll cfg hs e n txs).1.consensus = (deliverAll cfg hs e n' txs).1.consensus ∧
    (deliverAll cfg hs e n txs).2 = (deliverAll cfg hs e n' txs).2 := by
  induction txs generalizing n n' with
  | nil => exact ⟨h, rfl⟩
  | cons tx t ih =>
    have h1 := deliverTx_congr cfg hs e h tx
    have h2 := ih h1.1
    simp only [deliverAll]
    exact ⟨h2.1, by rw [h1.2, h2.2]⟩

theorem checkTx_consensus (hnv : CheckNoVset hs) (n : Node K V C T H D) (tx : T) :
    (checkTx cfg hs e n tx).1.consensus = n.consensus := by
  obtain ⟨h, hd⟩ := checkTx_frame cfg hs e n tx
  exact (consensus_eq_iff _ _).2 ⟨h.tree, hd, checkTx_vol cfg hs e hnv n tx, h.idx, h.height⟩

theorem stepCall_congr (ha : AllAimed hs) {r r' : Run K V C T H D}
    (h : r.node.consensus = r'.node.consensus) (hp : r.pending = r'.pending) (c : Call T)
    (hc : c.isCheck = false) :
    (stepCall cfg hs e r c).1.node.consensus = (stepCall cfg hs e r' c).1.node.consensus ∧
    (stepCall cfg hs e r c).1.pending = (stepCall cfg hs e r' c).1.pending ∧
    (stepCall cfg hs e r c).2 = (stepCall cfg hs e r' c).2 := by
  cases c with
  | begin => exact ⟨beginBlock_congr cfg hs e ha (CEq.of_consensus h), rfl, rfl⟩
  | deliver tx =>
    have h1 := deliverTx_congr cfg hs e h tx
    simp only [stepCall]
    exact ⟨h1.1, by rw [hp, h1.2], by rw [h1.2]⟩
  | endb => exact ⟨endBlock_congr cfg hs e ha h, hp, rfl⟩
  | commit txs =>
    have h1 := commit_congr cfg hs h
    simp only [stepCall]
    rw [hp]
    exact ⟨consensus_append_idx h1 _, trivial,
      by rw [(CEq.of_consensus h1).1, (CEq.of_consensus h).1]⟩
  | check tx => cases hc

theorem runCalls_isolation (ha : AllAimed hs) (hnv : CheckNoVset hs) (calls : List (Call T))
    (r r' : Run K V C T H D) (h : r.node.consensus = r'.node.consensus)
    (hp : r.pending = r'.pending) :
    (runCalls cfg hs e r calls).1.node.consensus =
      (runCalls cfg hs e r' (calls.filter (fun c => !c.isCheck))).1.node.consensus ∧
    (runCalls cfg hs e r calls).1.pending =
      (runCalls cfg hs e r' (calls.filter (fun c => !c.isCheck))).1.pending ∧
    (runCalls cfg hs e r calls).2.filter (fun o => !o.isChecked) =
      (runCalls cfg hs e r' (calls.filter (fun c => !c.isCheck))).2 := by
  induction calls generalizing r r' with
  | nil => exact ⟨h, hp, rfl⟩
  | cons c cs ih =>
    cases hc : c.isCheck with
    | true =>
      cases c with
      | check tx => exact ih _ _ ((checkTx_consensus cfg hs e hnv r.node tx).trans h) hp
      | _ => cases hc
    | false =>
      rw [List.filter_cons_of_pos (by rw [hc]; rfl)]
      obtain ⟨h1, h2, h3⟩ := stepCall_congr cfg hs e ha h hp c hc
      obtain ⟨i1, i2, i3⟩ := ih _ _ h1 h2
      refine ⟨i1, i2, ?_⟩
      have hno : (stepCall cfg hs e r c).2.isChecked = false := by
        cases c <;> first | rfl | cases hc
      simp only [runCalls]
      rw [List.filter_cons_of_pos (by rw [hno]; rfl), i3, h3]

theorem execBlock_congr (ha : AllAimed hs) {n n' : Node K V C T H D} (h : CEq n n') (txs : List T) :
    (execBlock cfg hs e n txs).2 = (execBlock cfg hs e n' txs).2 ∧
    (execBlock cfg hs e n txs).1.consensus = (execBlock cfg hs e n' txs).1.consensus := by
  have h2 := deliverAll_congr cfg hs e txs (beginBlock_congr cfg hs e ha h)
  have h4 := commit_congr cfg hs (endBlock_congr cfg hs e ha h2.1)
  simp only [execBlock]
  rw [h2.2]
  exact ⟨by rw [(CEq.of_consensus h4).1, h.1], consensus_append_idx h4 _⟩

end OLP.Shell
