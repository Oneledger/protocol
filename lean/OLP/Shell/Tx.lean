/-
  Layer S — one transaction: `deliverTx` is an index hit or `deliverCore`, the session bracket
  around `txRun`; what DeliverTx and CheckTx leave alone.
-/
import OLP.Shell.Run

set_option linter.unusedSectionVars false

namespace OLP.Shell
open OLP OLP.KV

variable {K V C E α T H D : Type} [DecidableEq K] [DecidableEq V] [DecidableEq C] [DecidableEq H]

/-- the end of a transaction: CommitTxSession if `ok`, DiscardTxSession otherwise -/
def finSt (ok : Bool) (s2 : St K V) : St K V :=
  if ok then (match s2.csess with | some s => s | none => s2) else s2.dsess

theorem finSt_eq (ok : Bool) (s : St K V) :
    finSt ok s = { s with sess := none, cache := match ok, s.sess with
      | true, some o => commitInto s.cache o
      | _, _ => s.cache } := by
  obtain ⟨se, ca, me, ga, tr⟩ := s
  cases se <;> cases ok <;> rfl

variable (cfg : Cfg K V) (hs : Handlers K V C E T H D) (e : E)

/-- Validate, then (if it succeeded) ProcessDeliver and ProcessFee (always called), from a given
    state and volatile memory; the response, the state before the session is closed, the memory -/
def txRun (tx : T) (s0 : St K V) (m : Vol C V) : TxRes D × St K V × Vol C V :=
  let rv := (hs.validate tx).run cfg s0 m e
  match rv.1 with
  | none => ({ ok := false, data := none, gasUsed := 0 }, rv.2.1, rv.2.2)
  | some _ =>
    let r1 := (hs.deliver tx).run cfg rv.2.1 rv.2.2 e
    let r2 := (hs.fee tx s0.gas.consumed).run cfg r1.2.1 r1.2.2 e
    ({ ok := r1.1.isSome && r2.1.isSome && !gasOut r2.2.1.gas, data := r1.1, gasUsed := r2.1.getD 0 },
     r2.2.1, r2.2.2)

/-- ProcessDeliver and ProcessFee, from the state and memory a successful Validate ended in; `g0`
    is the gas level at the start of the transaction -/
def txBody (tx : T) (g0 : Int) (s : St K V) (m : Vol C V) : TxRes D × St K V × Vol C V :=
  let r1 := (hs.deliver tx).run cfg s m e
  let r2 := (hs.fee tx g0).run cfg r1.2.1 r1.2.2 e
  ({ ok := r1.1.isSome && r2.1.isSome && !gasOut r2.2.1.gas, data := r1.1, gasUsed := r2.1.getD 0 },
   r2.2)

theorem txRun_eq (tx : T) (s0 : St K V) (m : Vol C V) :
    txRun cfg hs e tx s0 m = match (hs.validate tx).run cfg s0 m e with
      | (none, r) => ({ ok := false, data := none, gasUsed := 0 }, r)
      | (some _, s, m') => txBody cfg hs e tx s0.gas.consumed s m' := by
  unfold txRun
  generalize (hs.validate tx).run cfg s0 m e = rv
  obtain ⟨_ | u, s, m'⟩ := rv <;> rfl

/-- the programs of a transaction run one after the other: a transitive relation between state
    and memory before and after that holds of every run holds of `txRun` -/
theorem txRun_rel (R : St K V × Vol C V → St K V × Vol C V → Prop)
    (trans : ∀ {a b c}, R a b → R b c → R a c) (tx : T)
    (hv : ∀ s m e, R (s, m) ((hs.validate tx).run cfg s m e).2)
    (hd : ∀ s m e, R (s, m) ((hs.deliver tx).run cfg s m e).2)
    (hf : ∀ g s m e, R (s, m) ((hs.fee tx g).run cfg s m e).2) (s0 : St K V) (m : Vol C V) :
    R (s0, m) (txRun cfg hs e tx s0 m).2 := by
  have h := hv s0 m e
  rw [txRun_eq]
  generalize (hs.validate tx).run cfg s0 m e = rv at h
  obtain ⟨_ | u, s, m'⟩ := rv
  · exact h
  · exact trans h (trans (hd _ _ e) (hf _ _ _ e))

theorem txRun_pres (tx : T) (s0 : St K V) (m : Vol C V) : Pres s0 (txRun cfg hs e tx s0 m).2.1 :=
  txRun_rel cfg hs e (fun a b => Pres a.1 b.1) Pres.trans tx (run_pres cfg _) (run_pres cfg _)
    (fun _ => run_pres cfg _) s0 m

theorem txRun_vol (hnv : DeliverNoVset hs) (tx : T) (s0 : St K V) (m : Vol C V) :
    (txRun cfg hs e tx s0 m).2.2 = m :=
  txRun_rel cfg hs e (fun a b => b.2 = a.2) (fun h1 h2 => h2.trans h1) tx
    (fun s m e => run_noVset cfg _ s m e (hnv tx).1) (fun s m e => run_noVset cfg _ s m e (hnv tx).2.1)
    (fun g s m e => run_noVset cfg _ s m e ((hnv tx).2.2 g)) s0 m

/-- the index-miss branch of `deliverTx` -/
def deliverCore (n : Node K V C T H D) (tx : T) : Node K V C T H D × TxRes D :=
  let x := txRun cfg hs e tx (n.dlv.toSt n.tree).begin n.vol
  let s3 := finSt x.1.ok x.2.1
  ({ n with dlv := ovOf s3, tree := s3.tree, vol := x.2.2, aim := .deliver }, x.1)

theorem deliverTx_hit {n : Node K V C T H D} {tx : T} {r : TxRes D}
    (h : lookupIdx n.idx (hs.hash tx) = some r) : deliverTx cfg hs e n tx = (n, r) := by
  unfold deliverTx; rw [h]

theorem deliverTx_miss {n : Node K V C T H D} {tx : T}
    (h : lookupIdx n.idx (hs.hash tx) = none) :
    deliverTx cfg hs e n tx = deliverCore cfg hs e n tx := by
  unfold deliverTx deliverCore
  rw [h, txRun_eq]
  simp only
  generalize (hs.validate tx).run cfg (n.dlv.toSt n.tree).begin n.vol e = rv
  obtain ⟨_ | u, s, m⟩ := rv <;> rfl

/-- the motive is read off the goal alone: `revert` a hypothesis that mentions the result first -/
@[elab_as_elim]
theorem deliverTx_cases {motive : Node K V C T H D × TxRes D → Prop} (n : Node K V C T H D) (tx : T)
    (hit : ∀ r, lookupIdx n.idx (hs.hash tx) = some r → motive (n, r))
    (miss : lookupIdx n.idx (hs.hash tx) = none → motive (deliverCore cfg hs e n tx)) :
    motive (deliverTx cfg hs e n tx) := by
  cases h : lookupIdx n.idx (hs.hash tx) with
  | some r => rw [deliverTx_hit cfg hs e h]; exact hit r h
  | none => rw [deliverTx_miss cfg hs e h]; exact miss h

theorem checkTx_hit {n : Node K V C T H D} {tx : T} {r : TxRes D}
    (h : lookupIdx n.idx (hs.hash tx) = some r) : checkTx cfg hs e n tx = (n, false) := by
  unfold checkTx; rw [h]

/-- what an index miss leaves of the node; a FAILED transaction (DiscardTxSession) also the cache -/
structure TxFrame (n : Node K V C T H D) (x : Node K V C T H D × TxRes D) : Prop where
  tree : x.1.tree = n.tree
  chk : x.1.chk = n.chk
  idx : x.1.idx = n.idx
  height : x.1.height = n.height
  closed : x.1.closed = n.closed
  sess : x.1.dlv.sess = none
  metered : x.1.dlv.metered = n.dlv.metered
  limit : x.1.dlv.gas.limit = n.dlv.gas.limit
  cache : x.2.ok = false → x.1.dlv.cache = n.dlv.cache

theorem deliverCore_frame (n : Node K V C T H D) (tx : T) : TxFrame n (deliverCore cfg hs e n tx) := by
  have hp := txRun_pres cfg hs e tx (n.dlv.toSt n.tree).begin n.vol
  unfold deliverCore
  generalize txRun cfg hs e tx (n.dlv.toSt n.tree).begin n.vol = x at hp ⊢
  dsimp only
  rw [finSt_eq]
  exact ⟨hp.tree, rfl, rfl, rfl, rfl, rfl, hp.metered, hp.limit,
    fun hf => by rw [hf]; exact hp.cache rfl⟩

theorem deliverTx_vol (hnv : DeliverNoVset hs) (n : Node K V C T H D) (tx : T) :
    (deliverTx cfg hs e n tx).1.vol = n.vol :=
  deliverTx_cases cfg hs e n tx (fun _ _ => rfl) fun _ => txRun_vol cfg hs e hnv tx _ _

/-- what DeliverTx, CheckTx and the block hooks leave alone: the tree (nothing is written before
    Commit), the index, the height, `closed`; and none of them leaves a deliver session open -/
structure Frame (n n' : Node K V C T H D) : Prop where
  tree : n'.tree = n.tree
  idx : n'.idx = n.idx
  height : n'.height = n.height
  closed : n'.closed = n.closed
  sess : n.dlv.sess = none → n'.dlv.sess = none

theorem Frame.refl (n : Node K V C T H D) : Frame n n := ⟨rfl, rfl, rfl, rfl, id⟩

theorem Frame.trans {a b c : Node K V C T H D} (h1 : Frame a b) (h2 : Frame b c) : Frame a c :=
  ⟨h2.tree.trans h1.tree, h2.idx.trans h1.idx, h2.height.trans h1.height,
   h2.closed.trans h1.closed, fun h => h2.sess (h1.sess h)⟩

theorem deliverTx_frame (n : Node K V C T H D) (tx : T) : Frame n (deliverTx cfg hs e n tx).1 := by
  refine deliverTx_cases cfg hs e n tx (fun _ _ => Frame.refl n) fun _ => ?_
  have f := deliverCore_frame cfg hs e n tx
  exact ⟨f.tree, f.idx, f.height, f.closed, fun _ => f.sess⟩

/-- CheckTx works on the check state: it leaves the deliver state alone as well -/
theorem checkTx_frame (n : Node K V C T H D) (tx : T) :
    Frame n (checkTx cfg hs e n tx).1 ∧ (checkTx cfg hs e n tx).1.dlv = n.dlv := by
  unfold checkTx
  split
  · exact ⟨Frame.refl n, rfl⟩
  · simp only []
    split <;> exact ⟨⟨rfl, rfl, rfl, rfl, id⟩, rfl⟩

theorem checkTx_vol (hnv : CheckNoVset hs) (n : Node K V C T H D) (tx : T) :
    (checkTx cfg hs e n tx).1.vol = n.vol := by
  obtain ⟨h1, h2, h3⟩ := hnv tx
  have hv := run_noVset cfg _ (n.chk.toSt n.tree).begin n.vol e h1
  unfold checkTx
  cases lookupIdx n.idx (hs.hash tx) with
  | some r => rfl
  | none =>
    dsimp only
    generalize (hs.validate tx).run cfg (n.chk.toSt n.tree).begin n.vol e = rv at hv
    obtain ⟨_ | u, s, m⟩ := rv
    · exact hv
    · exact (run_noVset cfg _ _ _ e (h3 _)).trans ((run_noVset cfg _ _ _ e h2).trans hv)

/-- `_validate_fails`: every run of Validate fails (C04); `_validate_fail`: the program IS `.fail` (C05) -/
theorem checkTx_validate_fails (n : Node K V C T H D) (tx : T)
    (hf : ∀ s m, ((hs.validate tx).run cfg s m e).1 = none) : (checkTx cfg hs e n tx).2 = false := by
  unfold checkTx
  cases lookupIdx n.idx (hs.hash tx) with
  | some r => rfl
  | none => simp only [hf]

theorem deliverTx_validate_fails (n : Node K V C T H D) (tx : T)
    (hf : ∀ s m, ((hs.validate tx).run cfg s m e).1 = none)
    (hmiss : lookupIdx n.idx (hs.hash tx) = none) : (deliverTx cfg hs e n tx).2.ok = false := by
  unfold deliverTx
  rw [hmiss]
  simp only [hf]

theorem deliverTx_validate_fail (n : Node K V C T H D) (tx : T) (hv : hs.validate tx = .fail)
    (hmiss : lookupIdx n.idx (hs.hash tx) = none) :
    deliverTx cfg hs e n tx =
      ({ n with dlv := { n.dlv with sess := none }, aim := .deliver },
       { ok := false, data := none, gasUsed := 0 }) := by
  unfold deliverTx
  rw [hmiss, hv]
  rfl

end OLP.Shell
