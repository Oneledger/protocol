/-
  Layer S — what holds of the run of EVERY handler program, by induction over `Prog`: what a run
  preserves of the state, and what follows from the absence of a constructor (`.vset`, `.env`) or
  of negative `.burn` amounts.
-/
import OLP.Shell.Store

namespace OLP.Shell
open OLP OLP.KV

variable {K V C E α T H D : Type} [DecidableEq K] [DecidableEq V] [DecidableEq C] [DecidableEq H]

/-- a reflexive, transitive relation between states that every store access respects holds between
    the start and the end of every run, if the program burns no negative amount (a burn is then
    an access that reads) or the relation respects every move of the gas counter -/
theorem run_rel (cfg : Cfg K V) (R : St K V → St K V → Prop) (refl : ∀ s, R s s)
    (trans : ∀ {a b c}, R a b → R b c → R a c) (acc : ∀ {s s'}, Accessed s s' → R s s')
    (p : Prog K V C E α) (hb : p.BurnNonneg ∨ ∀ s d, R s (s.addGas d)) :
    ∀ (s : St K V) (m : Vol C V) (e : E), R s (p.run cfg s m e).2.1 := by
  induction p with
  | ret | fail => intro s m e; rw [Prog.run]; exact refl s
  | get k κ ih =>
    exact fun s _ _ =>
      trans (acc (step_accessed cfg s (.get k) (.inl rfl))) (ih _ (hb.imp_left (· _)) _ _ _)
  | has k κ ih =>
    exact fun s _ _ =>
      trans (acc (step_accessed cfg s (.has k) (.inl rfl))) (ih _ (hb.imp_left (· _)) _ _ _)
  | set k v κ ih =>
    exact fun s _ _ =>
      trans (acc (step_accessed cfg s (.set k v) (.inr rfl))) (ih _ (hb.imp_left (· _)) _ _ _)
  | del k κ ih =>
    exact fun s _ _ => trans (acc (step_accessed cfg s (.del k) (.inr rfl))) (ih hb _ _ _)
  | iter lo hi asc κ ih =>
    exact fun s _ _ =>
      trans (acc (step_accessed cfg s (.iter lo hi asc) (.inl rfl))) (ih _ (hb.imp_left (· _)) _ _ _)
  | iterAll lo hi asc κ ih =>
    exact fun s _ _ =>
      trans (acc (step_accessed cfg s (.iterAll lo hi asc) (.inl rfl))) (ih _ (hb.imp_left (· _)) _ _ _)
  | burn a κ ih =>
    intro s _ _
    rcases hb with h | h
    · exact trans (acc (.read a h.1)) (ih (.inl h.2) _ _ _)
    · exact trans (h s a) (ih (.inr h) _ _ _)
  | getv _ _ _ ih | gas _ ih | vget _ _ ih | env _ ih =>
    exact fun _ _ _ => ih _ (hb.imp_left (· _)) _ _ _
  | vset _ _ _ ih => exact fun _ _ _ => ih hb _ _ _

theorem run_pres (cfg : Cfg K V) (p : Prog K V C E α) :
    ∀ (s : St K V) (m : Vol C V) (e : E), Pres s (p.run cfg s m e).2.1 :=
  run_rel cfg Pres Pres.refl Pres.trans Pres.of_accessed p (.inr Pres.addGas)

/-- non-negative `.burn` amounts suffice for a run never to lower the gas counter: every other
    charge is a flat cost or proportional to `cfg.vlen` -/
theorem run_mono {cfg : Cfg K V} {p : Prog K V C E α} (hb : p.BurnNonneg) : GasMono cfg p :=
  run_rel cfg (fun s s' => s.gas.consumed ≤ s'.gas.consumed) (fun _ => Int.le_refl _) Int.le_trans
    Accessed.mono p (.inl hb)

theorem run_noVset (cfg : Cfg K V) (p : Prog K V C E α) :
    ∀ (s : St K V) (m : Vol C V) (e : E), p.NoVset → (p.run cfg s m e).2.2 = m := by
  induction p with
  | ret | fail => exact fun _ _ _ _ => rfl
  | get _ _ ih | has _ _ ih | set _ _ _ ih | iter _ _ _ _ ih | iterAll _ _ _ _ ih | getv _ _ _ ih
  | gas _ ih | vget _ _ ih | env _ ih => exact fun _ _ _ h => ih _ _ _ _ (h _)
  | del _ _ ih | burn _ _ ih => exact fun _ _ _ h => ih _ _ _ h
  | vset => exact fun _ _ _ h => h.elim

theorem run_env (cfg : Cfg K V) (p : Prog K V C E α) (h : p.EnvFree) (s : St K V) (m : Vol C V)
    (e₁ e₂ : E) : p.run cfg s m e₁ = p.run cfg s m e₂ := by
  induction p generalizing s m with
  | ret | fail => rfl
  | get _ _ ih | has _ _ ih | set _ _ _ ih | iter _ _ _ _ ih | iterAll _ _ _ _ ih | getv _ _ _ ih
  | gas _ ih | vget _ _ ih => exact ih _ (h _) _ _
  | del _ _ ih | burn _ _ ih | vset _ _ _ ih => exact ih h _ _
  | env => exact h.elim

end OLP.Shell
