/-
  Layer S — a block. What holds of one hook or one DeliverTx is lifted to the hook lists
  (`List.foldlRecOn`) and to `deliverAll` (`deliverAll_keeps`); hence what Commit finds
  (`preCommit_frame`) and what `execBlock` does to tree and index.
-/
import OLP.Shell.Tx

set_option linter.unusedSectionVars false

namespace OLP.Shell
open OLP OLP.KV

variable {K V C E α T H D : Type} [DecidableEq K] [DecidableEq V] [DecidableEq C] [DecidableEq H]
variable (cfg : Cfg K V) (hs : Handlers K V C E T H D) (e : E)

theorem runHook_frame (n : Node K V C T H D) (hk : Bool × Prog K V C E Unit) :
    Frame n (runHook cfg e n hk) := by
  unfold runHook
  split
  · exact ⟨rfl, rfl, rfl, rfl, (run_pres cfg hk.2 (n.dlv.unmetered n.tree) n.vol e).sess_none⟩
  · exact ⟨rfl, rfl, rfl, rfl, id⟩

theorem hooks_frame (hks : List (Bool × Prog K V C E Unit)) (n : Node K V C T H D) :
    Frame n (hks.foldl (runHook cfg e) n) :=
  List.foldlRecOn hks _ (Frame.refl n) fun _ h hk _ => h.trans (runHook_frame cfg e _ hk)

theorem beginBlock_frame (n : Node K V C T H D) : Frame n (beginBlock cfg hs e n) :=
  let h := hooks_frame cfg e (hs.begin (n.height + 1)) { n with dlv := Ov.fresh hs.gasLimit }
  ⟨h.tree, h.idx, h.height, h.closed, fun _ => h.sess rfl⟩

theorem beginBlock_sess (n : Node K V C T H D) : (beginBlock cfg hs e n).dlv.sess = none :=
  (hooks_frame cfg e (hs.begin (n.height + 1)) { n with dlv := Ov.fresh hs.gasLimit }).sess rfl

/-- block hooks run unmetered: meter and meteredness of the deliver state are what they were -/
theorem hooks_gas (hks : List (Bool × Prog K V C E Unit)) (n : Node K V C T H D) :
    (hks.foldl (runHook cfg e) n).dlv.gas = n.dlv.gas ∧
    (hks.foldl (runHook cfg e) n).dlv.metered = n.dlv.metered := by
  refine List.foldlRecOn (motive := fun x : Node K V C T H D => x.dlv.gas = n.dlv.gas ∧ x.dlv.metered = n.dlv.metered)
    hks _ ⟨rfl, rfl⟩ fun b h hk _ => ?_
  unfold runHook
  split <;> exact h

theorem endBlock_gas (n : Node K V C T H D) :
    (endBlock cfg hs e n).dlv.gas = n.dlv.gas ∧ (endBlock cfg hs e n).dlv.metered = n.dlv.metered :=
  hooks_gas cfg e _ n

theorem hooks_vol (hks : List (Bool × Prog K V C E Unit)) (h : ∀ hk ∈ hks, hk.2.NoVset)
    (n : Node K V C T H D) : (hks.foldl (runHook cfg e) n).vol = n.vol := by
  refine List.foldlRecOn (motive := fun x : Node K V C T H D => x.vol = n.vol) hks _ rfl fun b hb hk hm => ?_
  rw [← hb]
  unfold runHook
  split <;> exact run_noVset cfg _ _ _ e (h hk hm)

theorem deliverAll_cons (n : Node K V C T H D) (tx : T) (txs : List T) :
    deliverAll cfg hs e n (tx :: txs) =
      ((deliverAll cfg hs e (deliverTx cfg hs e n tx).1 txs).1,
       (deliverTx cfg hs e n tx).2 :: (deliverAll cfg hs e (deliverTx cfg hs e n tx).1 txs).2) := rfl

theorem deliverAll_keeps (I : Node K V C T H D → Prop)
    (h : ∀ n tx, I n → I (deliverTx cfg hs e n tx).1) (txs : List T) (n : Node K V C T H D)
    (h0 : I n) : I (deliverAll cfg hs e n txs).1 := by
  induction txs generalizing n with
  | nil => exact h0
  | cons tx txs ih => exact ih _ (h n tx h0)

theorem deliverAll_frame (txs : List T) (n : Node K V C T H D) :
    Frame n (deliverAll cfg hs e n txs).1 :=
  deliverAll_keeps cfg hs e (Frame n) (fun _ tx h => h.trans (deliverTx_frame cfg hs e _ tx)) txs n
    (Frame.refl n)

theorem deliverAll_vol (hnv : DeliverNoVset hs) (txs : List T) (n : Node K V C T H D) :
    (deliverAll cfg hs e n txs).1.vol = n.vol :=
  deliverAll_keeps cfg hs e (·.vol = n.vol) (fun _ tx h => (deliverTx_vol cfg hs e hnv _ tx).trans h)
    txs n rfl

theorem deliverAll_length (txs : List T) (n : Node K V C T H D) :
    (deliverAll cfg hs e n txs).2.length = txs.length := by
  induction txs generalizing n with
  | nil => rfl
  | cons tx txs ih => rw [deliverAll_cons]; simp [ih]

theorem midBlock_frame (n : Node K V C T H D) (txs : List T) (k : Nat) (ended : Bool) :
    Frame n (midBlock cfg hs e n txs k ended) := by
  have h := (beginBlock_frame cfg hs e n).trans (deliverAll_frame cfg hs e (txs.take k) _)
  unfold midBlock
  cases ended
  · exact h
  · exact h.trans (hooks_frame cfg e _ _)

/-- the node Commit finds -/
theorem preCommit_frame (n : Node K V C T H D) (txs : List T) :
    Frame n (endBlock cfg hs e (deliverAll cfg hs e (beginBlock cfg hs e n) txs).1) :=
  ((beginBlock_frame cfg hs e n).trans (deliverAll_frame cfg hs e txs _)).trans
    (hooks_frame cfg e _ _)

theorem execBlock_tree (n : Node K V C T H D) (txs : List T) :
    (execBlock cfg hs e n txs).1.tree =
      (writeInto cfg n.tree
        (endBlock cfg hs e (deliverAll cfg hs e (beginBlock cfg hs e n) txs).1).dlv.cache).commit ∧
    (execBlock cfg hs e n txs).1.height = n.height + 1 := by
  have h := preCommit_frame cfg hs e n txs
  simp only [execBlock, commit, St.commit, Ov.toSt]
  rw [h.tree, h.height]
  exact ⟨rfl, rfl⟩

theorem execBlock_idx (n : Node K V C T H D) (txs : List T) :
    (execBlock cfg hs e n txs).1.idx =
      n.idx ++ (txs.zip (deliverAll cfg hs e (beginBlock cfg hs e n) txs).2).map
        (fun p => (hs.hash p.1, p.2)) := by
  show (endBlock cfg hs e (deliverAll cfg hs e (beginBlock cfg hs e n) txs).1).idx ++ _ = _
  rw [(preCommit_frame cfg hs e n txs).idx]

theorem execBlocks_keeps (I : Node K V C T H D → Prop)
    (h : ∀ n txs, I n → I (execBlock cfg hs e n txs).1) (blocks : List (List T))
    (n : Node K V C T H D) (h0 : I n) : I (execBlocks cfg hs e n blocks).1 := by
  induction blocks generalizing n with
  | nil => exact h0
  | cons b bs ih => exact ih _ (h n b h0)

end OLP.Shell
