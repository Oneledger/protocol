/-
  Layer S — the store of layer K as a handler program touches it: what every access
  (`KV.Accessed`) preserves of the state (`Pres`).
-/
import OLP.Shell.Spec
import OLP.KV.Refine

set_option linter.unusedSectionVars false

namespace OLP.Shell
open OLP OLP.KV

variable {K V C E α T H D : Type} [DecidableEq K] [DecidableEq V] [DecidableEq C] [DecidableEq H]

/-- what every operation available to a `Prog` preserves: tree, meteredness, gas limit, whether a
    session is open and, while one is open, the block cache -/
structure Pres (s s' : St K V) : Prop where
  tree : s'.tree = s.tree
  metered : s'.metered = s.metered
  limit : s'.gas.limit = s.gas.limit
  sess : s'.sess.isSome = s.sess.isSome
  cache : s.sess.isSome = true → s'.cache = s.cache

theorem Pres.refl (s : St K V) : Pres s s := ⟨rfl, rfl, rfl, rfl, fun _ => rfl⟩

theorem Pres.trans {a b c : St K V} (h1 : Pres a b) (h2 : Pres b c) : Pres a c :=
  ⟨h2.tree.trans h1.tree, h2.metered.trans h1.metered, h2.limit.trans h1.limit,
   h2.sess.trans h1.sess, fun h => (h2.cache (h1.sess.trans h)).trans (h1.cache h)⟩

theorem Pres.addGas (s : St K V) (d : Int) : Pres s (s.addGas d) := ⟨rfl, rfl, rfl, rfl, fun _ => rfl⟩

theorem Pres.put (s : St K V) (k : K) (v : V) : Pres s (s.put k v) := by
  unfold St.put
  split
  · next ho => exact ⟨rfl, rfl, rfl, by rw [ho]; rfl, fun _ => rfl⟩
  · next ho => exact ⟨rfl, rfl, rfl, rfl, fun h => by rw [ho] at h; cases h⟩

theorem Pres.of_accessed {s s' : St K V} (h : Accessed s s') : Pres s s' := by
  cases h
  · exact Pres.addGas s _
  · exact (Pres.put s _ _).trans (Pres.addGas _ _)

theorem Pres.sess_none {s s' : St K V} (h : Pres s s') (hs : s.sess = none) : s'.sess = none := by
  have := h.sess
  rw [hs] at this
  exact Option.isNone_iff_eq_none.mp (by simpa using this)

theorem set_nosess_cases (c : Cfg K V) (s : St K V) (k : K) (v : V) (hs : s.sess = none)
    (hv : v ≠ c.tomb) :
    s.set c k v = (s, .errGas) ∨
    ((s.set c k v).2 = .ok ∧ (s.set c k v).1.cache = upsert s.cache k v) := by
  rw [set_exact, if_neg hv]
  split
  · exact Or.inl rfl
  · refine Or.inr ⟨rfl, ?_⟩
    simp [St.put, St.addGas, hs]

theorem writeInto_get_of_not_mem (c : Cfg K V) (cache : List (K × V)) (t : Tree K V) (k : K)
    (h : k ∉ akeys cache) : (writeInto c t cache).get k = t.get k := by
  induction cache generalizing t with
  | nil => rfl
  | cons p tl ih =>
    obtain ⟨k1, v1⟩ := p
    rw [akeys, List.map_cons, List.mem_cons, not_or] at h
    rw [writeInto, List.foldl_cons]
    refine (ih _ h.2).trans ?_
    by_cases hv : v1 = c.tomb
    · simp [hv, Tree.get, Tree.remove, alookup_aerase_ne _ _ _ h.1]
    · simp [hv, Tree.get, Tree.set, alookup_upsert_ne _ _ _ _ h.1]

theorem shiftSt_iff (d : Int) (s s' : St K V) : ShiftSt d s s' ↔ s' = s.addGas d := Iff.rfl

end OLP.Shell
