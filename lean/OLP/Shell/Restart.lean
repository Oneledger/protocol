/-
  Layer S — process death and restart (C08): a node between two blocks survives a crash up to its
  overlays, and `execBlock` leads from one such node to the next.
-/
import OLP.Shell.Isolation

namespace OLP.Shell
open OLP OLP.KV

set_option linter.unusedSectionVars false

variable {K V C E α T H D : Type} [DecidableEq K] [DecidableEq V] [DecidableEq C] [DecidableEq H]
variable (cfg : Cfg K V) (hs : Handlers K V C E T H D) (e : E)

/-- a crash forgets all that DeliverTx, CheckTx and the block hooks touch -/
theorem crash_of_frame (boot : Tree K V → Vol C V) {n n' : Node K V C T H D} (h : Frame n n') :
    crash boot hs n' = crash boot hs n := by
  unfold crash
  rw [h.tree, h.idx, h.closed]

/-- a second crash right after a restart finds nothing left to forget -/
theorem crash_crash (boot : Tree K V → Vol C V) (n : Node K V C T H D) :
    crash boot hs (crash boot hs n) = crash boot hs n := by
  unfold crash
  simp only [reopen_reopen]

theorem crash_of_boundary {boot : Tree K V → Vol C V} {n : Node K V C T H D} (hb : n.AtBoundary)
    (hv : n.vol = boot n.tree) :
    crash boot hs n =
      { n with dlv := Ov.fresh hs.gasLimit, chk := Ov.fresh hs.gasLimit, aim := .check } := by
  obtain ⟨-, -, hw, hl, hh⟩ := hb
  unfold crash
  simp only
  rw [reopen_eq_self _ hw hl, ← hv, ← hh]

theorem crash_boundary {boot : Tree K V → Vol C V} {n : Node K V C T H D} (hb : n.AtBoundary)
    (hv : n.vol = boot n.tree) :
    (crash boot hs n).AtBoundary ∧ CEq (crash boot hs n) n ∧
    (crash boot hs n).vol = boot (crash boot hs n).tree := by
  rw [crash_of_boundary hs hb hv]
  exact ⟨⟨rfl, rfl, hb.2.2⟩, ⟨rfl, rfl, rfl, rfl⟩, hv⟩

/-- what Commit leaves is what a restart loads (`KV.commit_at_boundary`) -/
theorem execBlock_boundary {n : Node K V C T H D} (hb : n.AtBoundary) (wf : n.tree.WF)
    (txs : List T) : (execBlock cfg hs e n txs).1.AtBoundary ∧ (execBlock cfg hs e n txs).1.tree.WF := by
  obtain ⟨h1, h2⟩ := execBlock_tree cfg hs e n txs
  generalize (endBlock cfg hs e (deliverAll cfg hs e (beginBlock cfg hs e n) txs).1).dlv.cache = cache at h1
  have hv := writeInto_versions cfg cache n.tree
  have wf' : (writeInto cfg n.tree cache).WF := WF_of_versions_eq _ _ hv.1 hv.2.1 wf
  have hc := commit_at_boundary _ wf'
  have hw := commit_WF _ wf'
  rw [← h1] at hc hw
  -- last component: height and version were equal (`hb.2.2.2.2`) and each went up by one
  exact ⟨⟨rfl, rfl, hc.1, hc.2, by rw [h2, h1, (commit_fields _).2.1, hv.2.1, hb.2.2.2.2]⟩, hw⟩

end OLP.Shell
