/-
  Layer S — the overlays of the deliver state hold every key once, whatever the programs do
  (they are built by `upsert`). Hence `Write()` stores under a key the value the block cache holds
  for it (`KV.writeInto_get`): the non-vacuity instance of C08 reads off the tree what its EndBlock
  hook wrote last.
-/
import OLP.Shell.Block

namespace OLP.Shell
open OLP OLP.KV

variable {K V C E α T H D : Type} [DecidableEq K] [DecidableEq V] [DecidableEq C] [DecidableEq H]
variable (cfg : Cfg K V) (hs : Handlers K V C E T H D) (e : E)

theorem run_nodup (p : Prog K V C E α) :
    ∀ (s : St K V) (m : Vol C V) (e : E), OvNodup s → OvNodup (p.run cfg s m e).2.1 :=
  run_rel cfg (fun s s' => OvNodup s → OvNodup s') (fun _ h => h) (fun h1 h2 h => h2 (h1 h))
    Accessed.nodup p (.inr fun _ _ h => h)

theorem deliverTx_nodup (n : Node K V C T H D) (tx : T) (h : (akeys n.dlv.cache).Nodup) :
    (akeys (deliverTx cfg hs e n tx).1.dlv.cache).Nodup := by
  refine deliverTx_cases cfg hs e n tx (fun _ _ => h) fun _ => ?_
  have hx := txRun_rel cfg hs e (fun a b => OvNodup a.1 → OvNodup b.1) (fun h1 h2 h => h2 (h1 h)) tx
    (run_nodup cfg _) (run_nodup cfg _) (fun _ => run_nodup cfg _)
    (n.dlv.toSt n.tree).begin n.vol
    ⟨h, fun o ho => Option.some.inj ho ▸ List.nodup_nil⟩
  show (akeys (finSt _ _).cache).Nodup
  rw [finSt_eq]
  split
  · exact nodup_akeys_foldl_upsert _ _ hx.1
  · exact hx.1

theorem deliverAll_nodup (txs : List T) (n : Node K V C T H D) (h : (akeys n.dlv.cache).Nodup) :
    (akeys (deliverAll cfg hs e n txs).1.dlv.cache).Nodup :=
  deliverAll_keeps cfg hs e (fun x => (akeys x.dlv.cache).Nodup)
    (deliverTx_nodup cfg hs e) txs n h

theorem hooks_nodup (hks : List (Bool × Prog K V C E Unit)) (n : Node K V C T H D)
    (hs0 : n.dlv.sess = none) (h : (akeys n.dlv.cache).Nodup) :
    (akeys (hks.foldl (runHook cfg e) n).dlv.cache).Nodup := by
  refine (List.foldlRecOn (motive := fun x : Node K V C T H D =>
    x.dlv.sess = none ∧ (akeys x.dlv.cache).Nodup) hks _ ⟨hs0, h⟩ fun b hb hk _ => ?_).2
  refine ⟨(runHook_frame cfg e b hk).sess hb.1, ?_⟩
  unfold runHook
  split
  · exact (run_nodup cfg hk.2 _ _ e ⟨hb.2, fun o ho => by
      rw [show b.dlv.sess = some o from ho] at hb; cases hb.1⟩).1
  · exact hb.2

/-- what a block leaves in the tree under a key is what its block cache shows for it: the cache
    starts empty at BeginBlock and holds every key once ever after -/
theorem execBlock_get (n : Node K V C T H D) (txs : List T) (k : K) :
    (execBlock cfg hs e n txs).1.tree.get k =
      blockView cfg (endBlock cfg hs e (deliverAll cfg hs e (beginBlock cfg hs e n) txs).1).dlv.cache
        n.tree k := by
  have hn : (akeys (endBlock cfg hs e (deliverAll cfg hs e (beginBlock cfg hs e n) txs).1).dlv.cache).Nodup :=
    hooks_nodup cfg e _ _ ((deliverAll_frame cfg hs e txs _).sess (beginBlock_sess cfg hs e n))
      (deliverAll_nodup cfg hs e txs _
        (hooks_nodup cfg e _ { n with dlv := Ov.fresh hs.gasLimit } rfl List.nodup_nil))
  rw [(execBlock_tree cfg hs e n txs).1, ← writeInto_get cfg _ _ hn]
  unfold Tree.get
  rw [(commit_fields _).1]

end OLP.Shell
