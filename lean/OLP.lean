-- Root of the `OLP` library (formal model of Oneledger/protocol and its theorems).
import OLP.Base.Assoc
import OLP.Base.Guard
import OLP.Base.Lists
import OLP.Base.Sort
import OLP.Ledger.Model
import OLP.Ledger.Lemmas
import OLP.KV.Model
import OLP.KV.Spec
import OLP.KV.TreeLemmas
import OLP.KV.Sort
import OLP.KV.Refine
import OLP.Shell.Model
import OLP.Shell.Spec
import OLP.Shell.Store
import OLP.Shell.Run
import OLP.Shell.RoomShift
import OLP.Shell.Tx
import OLP.Shell.Block
import OLP.Shell.GasShift
import OLP.Shell.Isolation
import OLP.Shell.Restart
import OLP.Shell.Nodup
import OLP.Props.C01
import OLP.Props.C05
import OLP.Props.C06
import OLP.Props.C07
import OLP.Props.C08
import OLP.Props.C09
import OLP.Ons.Model
import OLP.Ons.Lemmas
import OLP.Props.C20
import OLP.Deleg.Model
import OLP.Deleg.Lemmas
import OLP.Props.C12
import OLP.Eth.Model
import OLP.Eth.Tracker
import OLP.Eth.Effect
import OLP.Eth.Lemmas
import OLP.Props.C15
import OLP.Stake.Model
import OLP.Stake.Basic
import OLP.Stake.Step
import OLP.Stake.NonNeg
import OLP.Stake.Cons
import OLP.Stake.Mat
import OLP.Stake.Rec
import OLP.Stake.Lemmas
import OLP.Props.C11
import OLP.Rewards.Model
import OLP.Rewards.Lemmas
import OLP.Rewards.CalcLemmas
import OLP.Props.C13
import OLP.Olvm.Model
import OLP.Olvm.Lemmas
import OLP.Props.C17
import OLP.Sig.Model
import OLP.Sig.Lemmas
import OLP.Props.C04
import OLP.Props.C04Facts
import OLP.Alleg.Model
import OLP.Alleg.Lemmas
import OLP.Props.C19
import OLP.Gov.Model
import OLP.Gov.Item
import OLP.Gov.Trans
import OLP.Gov.Handlers
import OLP.Gov.Lemmas
import OLP.Props.C14
import OLP.Elect.Model
import OLP.Elect.Lists
import OLP.Elect.Heap
import OLP.Elect.Election
import OLP.Elect.TM
import OLP.Elect.Chain
import OLP.Elect.Lemmas
import OLP.Props.C10
import OLP.Evm.Model
import OLP.Evm.Abs
import OLP.Evm.Sim
import OLP.Evm.Revert
import OLP.Evm.Plain
import OLP.Evm.Accounts
import OLP.Evm.Records
import OLP.Evm.Finalise
import OLP.Evm.Step
import OLP.Evm.Start
import OLP.Evm.Frame
import OLP.Props.C16
import OLP.Gen.Arith
import OLP.Props.C13Arith
import OLP.Props.C14Arith
import OLP.Props.C15Arith
import OLP.Props.C19Arith
import OLP.Gen.Funcs
import OLP.Props.C02Funcs
import OLP.Props.C09Funcs
import OLP.Props.C11Funcs
import OLP.Props.C13Funcs
import OLP.Props.C14Funcs
import OLP.Props.C17Funcs
import OLP.Props.C19Funcs
import OLP.Props.C20Funcs
import OLP.Props.C10Funcs
import OLP.Props.C13Split
import OLP.Props.C14Goal
import OLP.Props.C05Spelling
import OLP.Props.C11Clean
import OLP.Bid.Model
import OLP.Bid.Lemmas
import OLP.Props.C02Bid
import OLP.Props.C15Funcs
import OLP.Props.C02
import OLP.Props.C03
import OLP.Crash.Model
import OLP.Props.C18
import OLP.Gen.Facts
import OLP.Shell.Expect
import OLP.Props.SourceFacts
import OLP.Props.C01Facts
import OLP.Props.C02Facts
import OLP.Props.C03Facts
import OLP.Props.C05Facts
import OLP.Props.C06Facts
import OLP.Props.C07Facts
import OLP.Props.C08Facts
import OLP.Props.C09Facts
import OLP.Props.C18Facts
